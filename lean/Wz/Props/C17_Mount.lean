import Wz.Proofs.ShapeLookup
/-!
# C17 companion: a read-only directory mount is always the wrapped one

Every theorem of C17 is about `sysfs.ReadFS` and the files it hands out; they protect a mount only if
`WithReadOnlyDirMount` puts that wrapper in front of the directory UNCONDITIONALLY - not depending on the host's
permission bits (which do not bind root and may change later; seeded change C17-6), on whether the directory exists,
or on anything else.  The body of the function is a regenerated shape.
-/

namespace Wz.C17

theorem readonly_dir_mount_always_wraps :
    Wz.Gen.Shapes.get "c17.ro_dir_mount" =
      some "return c.WithSysFSMount(&sysfs.ReadFS{FS: sysfs.DirFS(dir)}, guestPath)" := by
  shape_lookup

end Wz.C17
