import Wz.Proofs.ShapeLookup
/-!
# C03 companion: the interpreter's drop ranges are counted in stack slots

The interpreter's value stack is a stack of 64-bit slots; a `v128` occupies two.  A branch keeps the values its label
receives (the parameters of a loop, the results of a block) and removes everything between them and the height at which
the frame was entered: `getFrameDropRange` computes the range `[start, end]` (top of the stack = 0).  Every quantity in
it has to be a number of SLOTS.  Model: values as lists of slots, the stack top first.  Keeping as many slots as the
label's values occupy preserves exactly those values above the rest of the stack, for every list of values of any
widths and any junk in between (`drop_range_in_slots_keeps_the_label_values`); counting values instead cuts a vector in
half (`drop_range_in_values_witness`: seeded changes C01-4 / C03-6, a `v128` loop parameter).  The three quantities of
the source are a regenerated shape (`drop_range_quantities_are_slot_counts`).
-/

namespace Wz.C03

/-- remove the slots `[keep, depth)` of a stack given top first (the effect of the lowered `Drop` of that range) -/
def dropRange (keep depth : Nat) (st : List Nat) : List Nat := st.take keep ++ st.drop depth

/-- number of slots a list of values (each a list of slots) occupies -/
def slots (vals : List (List Nat)) : Nat := vals.flatten.length

/-- **counted in slots**: the label's values stay, the junk goes, the rest of the stack is untouched -/
theorem drop_range_in_slots_keeps_the_label_values (vals : List (List Nat)) (junk rest : List Nat) :
    dropRange (slots vals) (slots vals + junk.length) (vals.flatten ++ junk ++ rest) = vals.flatten ++ rest := by
  unfold dropRange slots
  rw [List.append_assoc, List.take_left']
  · congr 1
    rw [← List.append_assoc, List.drop_left']
    simp
  · rfl

/-- counted in VALUES: one `v128` (two slots) kept as "1": its upper half is dropped with the junk -/
theorem drop_range_in_values_witness :
    dropRange [[1, 2]].length ([[1, 2]].length + [9].length) ([[1, 2]].flatten ++ [9] ++ [7]) ≠ [[1, 2]].flatten ++ [7] := by
  decide

/-- non-vacuity: an i32, a v128 and an i64 on top of junk on top of the rest -/
example : dropRange (slots [[5], [1, 2], [6]]) (slots [[5], [1, 2], [6]] + 2) ([[5], [1, 2], [6]].flatten ++ [9, 9] ++ [7]) = [5, 1, 2, 6, 7] := by
  decide

/-- the quantities on the source, regenerated: parameters and results in `…NumInUint64`, heights in `…Uint64` -/
theorem drop_range_quantities_are_slot_counts :
    Wz.Gen.Shapes.get "c03.drop_range_units" =
      some "start = frame.blockType.ParamNumInUint64 ;; start = frame.blockType.ResultNumInUint64 ;; end = c.stackLenInUint64 - 1 - frame.originalStackLenWithoutParamUint64" := by
  shape_lookup

end Wz.C03
