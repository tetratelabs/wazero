/-
C01 (front end, structured control flow) — the optimizing compiler's translation of a WebAssembly function body with
`block`, `loop`, `if`/`else`, `br`, `br_if`, `return`, `unreachable` to SSA basic blocks
(`internal/engine/wazevo/frontend`: `LowerToSSA`, `lowerCurrentOpcode`; `ssa.Builder`: `findValue`, `Seal`, block
parameters for variables).

Model: `Wz.Model.FrontendCF` (`lowerCF : Function → SsaPass.Func`: the control frames, the blocks in allocation
order, `findValue` with placeholders / temporaries / aliases / added block parameters, sealing, unreachable code; tied
to the real front end by the harness `hfrontcf`: the model predicts the text of `ssaBuilder.Format()` line by line
- block ids, block parameters, predecessor lists, value ids, branch arguments - and the alias table; see
docs/C01_frontcf.md).
Source semantics: `FrontendCF.runSpec`, i.e. `Wz.Spec.Wasm.invoke` on the embedding.  Target semantics:
`Wz.Model.SsaPass.run`.

What is proved.

* `frontcf_refines_validated`, `frontcf_refines_validated_backward`, `frontcf_diverges_validated`
  (together: `frontcf_refines_validated_full`): for EVERY function `f` that the decidable checker
  `FrontendCFCheck.validate` accepts (a translation validator: it re-walks `f` against `lowerCF f` with a certificate
  read off the builder's final state; it contains the stack typing of live code, block types without parameters), every
  argument vector within the parameter types, context arguments, callee world: if the reference semantics TERMINATES
  with fuel `n` (values, or a trap: unreachable / division by zero / overflow), the SSA run of `lowerCF f` has exactly
  that outcome for every fuel from some `k` on - loops, branches out of nested blocks, early returns, joins of
  different definitions of a local included; conversely every outcome of the SSA run other than "out of fuel" is the
  outcome of the reference semantics for some fuel; and the reference semantics diverges iff the SSA run does.
  `validate f` is NOT proved for all well-typed `f` (that is the correctness of the SSA-construction algorithm
  `findValue` itself); the harness evaluates it on every generated function (it never failed: docs/C01_frontcf.md).
  `frontcf_refines_partial` is the same theorem under the name the conventions ask for.
* `frontcf_conservative`: on straight-line functions `lowerCF` IS `lowerSL`; `frontcf_refines_straightline`,
  `frontcf_wellFormed_straightline`: the UNCONDITIONAL theorems of `C01_Front` therefore hold for `lowerCF` on that
  fragment.
* `frontcf_passes_sound`: `runPasses` preserves the outcome of every function that passes `wellFormedA` (`SsaPass.WF`
  for the certificate extended to the temporaries `findValue` aliases: `SsaPass.wellFormed` itself rejects them,
  see `frontcf_wellFormed_rejects_alias`); `frontcf_then_passes_refines`: specification → SSA → optimised SSA for
  functions that pass both checks.
* `frontcf_resolve_sound`: resolving all operands through the alias table does not change the outcome.

The full statements `frontcf_refines` / `frontcf_wellFormed` (for all well-typed functions, no checker) are kept as
comments at the end with what is missing.
-/
import Wz.Proofs.C01_FrontCF
import Wz.Proofs.C01_FrontCF_Cons
import Wz.Proofs.C01_SsaPass
import Wz.Props.C01_Front

namespace Wz.C01
open Wz.Model.SsaPass Wz.Model.FrontendSL Wz.Model.FrontendCF Wz.Proofs.FrontCF Wz.Proofs.Front Wz.Spec

/-- **The front end preserves the semantics of every function the checker accepts** (forward direction): if the
reference semantics terminates - with result values or with a trap - then from some fuel on the SSA function the
front end produces has exactly that outcome (same values, or the exit code of the same trap; no memory write, no
call). -/
theorem frontcf_refines_validated (f : Function) (hv : validate f = true) (args : List Nat)
    (hargs : ArgsOK f.sig args) (w : World) (ec mc : Nat) (n : Nat)
    (hterm : Wz.Model.FrontendCF.runSpec f args n ≠ .exhausted) :
    ∃ k, ∀ fuel, run w (lowerCF f) (ec :: mc :: args) (fuel + k) = ofSpecCF (Wz.Model.FrontendCF.runSpec f args n) := by
  obtain ⟨k, -, h, -⟩ := run_validated f hv args hargs w ec mc n
  exact ⟨k, fun fuel => h hterm _ (Nat.le_add_left k fuel)⟩

/-- **Backward direction**: whatever the SSA run of the front end's output ends with (result values, or a trap) is
what the reference semantics ends with, for some fuel. -/
theorem frontcf_refines_validated_backward (f : Function) (hv : validate f = true) (args : List Nat)
    (hargs : ArgsOK f.sig args) (w : World) (ec mc : Nat) (fuel : Nat) (o : Outcome)
    (h : run w (lowerCF f) (ec :: mc :: args) fuel = o) (ho : o ≠ .outOfFuel) :
    ∃ n, Wz.Model.FrontendCF.runSpec f args n ≠ .exhausted ∧
      ofSpecCF (Wz.Model.FrontendCF.runSpec f args n) = o := by
  -- a budget that exceeds the fuel by the weight of the body: the SSA run, not out of fuel, has its outcome
  obtain ⟨k, hlt, hge, hex⟩ := run_validated f hv args hargs w ec mc (fuel + Wasm.weightS (toInstrs f.body) + 1)
  have hk : k ≤ fuel := Nat.le_of_not_lt fun hk => ho (h ▸ hlt fuel hk)
  have hn : Wz.Model.FrontendCF.runSpec f args (fuel + Wasm.weightS (toInstrs f.body) + 1) ≠ .exhausted := fun he => by
    have := hex he; omega
  exact ⟨_, hn, (hge hn fuel hk).symm.trans h⟩

/-- **Divergence is preserved**: the reference semantics exhausts every fuel iff the SSA run exhausts every fuel. -/
theorem frontcf_diverges_validated (f : Function) (hv : validate f = true) (args : List Nat)
    (hargs : ArgsOK f.sig args) (w : World) (ec mc : Nat) :
    (∀ n, Wz.Model.FrontendCF.runSpec f args n = .exhausted) ↔
    (∀ fuel, run w (lowerCF f) (ec :: mc :: args) fuel = .outOfFuel) := by
  constructor
  · intro hdiv fuel
    obtain ⟨k, hlt, -, hex⟩ := run_validated f hv args hargs w ec mc (fuel + Wasm.weightS (toInstrs f.body) + 1)
    exact hlt fuel (by have := hex (hdiv _); omega)
  · intro hdiv n
    cases hs : Wz.Model.FrontendCF.runSpec f args n with
    | exhausted => rfl
    | _ =>
      obtain ⟨k, hk⟩ := frontcf_refines_validated f hv args hargs w ec mc n (by rw [hs]; nofun)
      have h0 := hk 0
      rw [hdiv, hs] at h0
      cases h0

/-- **Refinement for functions the checker accepts, all three parts**: forward, backward, divergence. -/
theorem frontcf_refines_validated_full (f : Function) (hv : validate f = true) (args : List Nat)
    (hargs : ArgsOK f.sig args) (w : World) (ec mc : Nat) :
    (∀ n, Wz.Model.FrontendCF.runSpec f args n ≠ .exhausted →
      ∃ k, ∀ fuel, run w (lowerCF f) (ec :: mc :: args) (fuel + k) =
        ofSpecCF (Wz.Model.FrontendCF.runSpec f args n)) ∧
    (∀ fuel o, run w (lowerCF f) (ec :: mc :: args) fuel = o → o ≠ .outOfFuel →
      ∃ n, Wz.Model.FrontendCF.runSpec f args n ≠ .exhausted ∧
        ofSpecCF (Wz.Model.FrontendCF.runSpec f args n) = o) ∧
    ((∀ n, Wz.Model.FrontendCF.runSpec f args n = .exhausted) ↔
      (∀ fuel, run w (lowerCF f) (ec :: mc :: args) fuel = .outOfFuel)) :=
  ⟨fun n h => frontcf_refines_validated f hv args hargs w ec mc n h,
   fun fuel o h ho => frontcf_refines_validated_backward f hv args hargs w ec mc fuel o h ho,
   frontcf_diverges_validated f hv args hargs w ec mc⟩

/-- `frontcf_refines`, PARTIAL: the full statement (see the end of the file) with the decidable hypothesis
`validate f = true` in place of `wellTyped f = true`.  Missing for the full statement: `wellTyped f → validate f`. -/
theorem frontcf_refines_partial (f : Function) (hv : validate f = true) (args : List Nat)
    (hargs : ArgsOK f.sig args) (w : World) (ec mc : Nat) :
    (∀ n, Wz.Model.FrontendCF.runSpec f args n ≠ .exhausted →
      ∃ k, ∀ fuel, run w (lowerCF f) (ec :: mc :: args) (fuel + k) =
        ofSpecCF (Wz.Model.FrontendCF.runSpec f args n)) ∧
    (∀ fuel o, run w (lowerCF f) (ec :: mc :: args) fuel = o → o ≠ .outOfFuel →
      ∃ n, Wz.Model.FrontendCF.runSpec f args n ≠ .exhausted ∧
        ofSpecCF (Wz.Model.FrontendCF.runSpec f args n) = o) ∧
    ((∀ n, Wz.Model.FrontendCF.runSpec f args n = .exhausted) ↔
      (∀ fuel, run w (lowerCF f) (ec :: mc :: args) fuel = .outOfFuel)) :=
  frontcf_refines_validated_full f hv args hargs w ec mc

theorem frontcf_ofSsaCF_ofSpecCF (o : Wz.Spec.Wasm.Outcome)
    (h : ∀ k, o = .trap k → k = "unreachable" ∨ k = "div0" ∨ k = "overflow") : ofSsaCF (ofSpecCF o) = o := by
  cases o with
  | values vs => rfl
  | exhausted => rfl
  | trap k =>
    rcases h k rfl with rfl | rfl | rfl <;> decide

/-- the outcome of the reference semantics does not depend on the fuel, once it terminates (a consequence of the
refinement: both outcomes are the outcome of the same SSA run) -/
theorem frontcf_spec_deterministic (f : Function) (hv : validate f = true) (args : List Nat)
    (hargs : ArgsOK f.sig args) (n n' : Nat)
    (h : Wz.Model.FrontendCF.runSpec f args n ≠ .exhausted)
    (h' : Wz.Model.FrontendCF.runSpec f args n' ≠ .exhausted) :
    ofSpecCF (Wz.Model.FrontendCF.runSpec f args n) = ofSpecCF (Wz.Model.FrontendCF.runSpec f args n') := by
  obtain ⟨k, hk⟩ := frontcf_refines_validated f hv args hargs ⟨fun _ _ _ => none⟩ 0 0 n h
  obtain ⟨k', hk'⟩ := frontcf_refines_validated f hv args hargs ⟨fun _ _ _ => none⟩ 0 0 n' h'
  have h1 := hk k'
  have h2 := hk' k
  rw [Nat.add_comm] at h2
  rw [← h1, ← h2]

/-- **On straight-line functions the structured translation is the straight-line one** (`lowerSL` of
`Wz.Model.FrontendSL`, for which the refinement and well-formedness are proved unconditionally). -/
theorem frontcf_conservative (f : Fn) (hwt : Wz.Model.FrontendSL.wellTyped f = true) : lowerCF (ofFn f) = lowerSL f := by
  have hl : LocInv (f.params ++ f.locals) (declLocals f.locals (f.params.length + 2) {}).2.2 (defs0 f.params)
      (initLS f).2.locals :=
    LocInv_init f.params f.locals _
  -- the builder stays in the one-block normal form `S1` along the body
  obtain ⟨out, defs', n', e, ho⟩ := lower_main (P := f.params) (R := f.results) (ps := entryParams f)
    (res := f.results) f.body (initLS f).2 (initLS f).1 (defs0 f.params) [] hwt hl
  have e1 : lowerCF (ofFn f) =
      toFunc (lowerToks f.results.length (ofFn f).toks (initLSt (ofFn f))).b f.results := rfl
  have e2 : ((initLS f).1 ++ out).map retJump = entryInstrs f := by
    rw [List.map_append, ho, map_retJump_plain (initLS f).1 (declLocals_noBranch _ _ _)]
    rfl
  rw [e1, toks_ofFn, initLSt_ofFn, e, toFunc_S1, e2]
  · rfl
  · rw [e2]
    exact fun j hj => (List.mem_append.mp hj).elim (declLocals_noBranch _ _ _ j) (lowerBody_noBranch _ _ _ j)

theorem frontcf_toInstrs_ops (l : List SI) : toInstrs (l.map CI.op) = l.map SI.toInstr := by
  induction l with
  | nil => rfl
  | cons i is ih => simp only [List.map_cons, toInstrs, CI.toInstr, ih]

/-- … and so is the reference semantics -/
theorem frontcf_runSpec_ofFn (f : Fn) (args : List Nat) (n : Nat) :
    Wz.Model.FrontendCF.runSpec (ofFn f) args n = Wz.Model.FrontendSL.runSpec f args n := by
  simp only [Wz.Model.FrontendCF.runSpec, Wz.Model.FrontendSL.runSpec, Function.toModule, Fn.toModule, ofFn,
    frontcf_toInstrs_ops]

/-- **Unconditional refinement on the straight-line fragment**, for `lowerCF` (from `front_refines`). -/
theorem frontcf_refines_straightline (f : Fn) (hwt : Wz.Model.FrontendSL.wellTyped f = true) (args : List Nat)
    (hargs : ArgsOK f args) (w : World) (ec mc : Nat) (fuel n : Nat) (hn : f.body.length + 3 ≤ n) :
    run w (lowerCF (ofFn f)) (ec :: mc :: args) (fuel + 1) = ofSpec (Wz.Model.FrontendCF.runSpec (ofFn f) args n) ∧
    Wz.Model.FrontendCF.runSpec (ofFn f) args n ≠ .exhausted := by
  rw [frontcf_conservative f hwt, frontcf_runSpec_ofFn]
  exact front_refines f hwt args hargs w ec mc fuel n hn

/-- **Unconditional well-formedness on the straight-line fragment** (from `front_wellFormed`). -/
theorem frontcf_wellFormed_straightline (f : Fn) (hwt : Wz.Model.FrontendSL.wellTyped f = true) :
    wellFormed (lowerCF (ofFn f)) = true := by
  rw [frontcf_conservative f hwt]
  exact front_wellFormed f hwt

/-- `frontcf_wellFormed`, PARTIAL: unconditional on the straight-line fragment (with `SsaPass.wellFormed` itself).  For
control flow the statement is false for `SsaPass.wellFormed` (`frontcf_wellFormed_rejects_alias` below) and not proved
for `wellFormedA` (it is a decidable hypothesis of `frontcf_then_passes_refines`, evaluated by the harness on every
function). -/
theorem frontcf_wellFormed_partial (f : Fn) (hwt : Wz.Model.FrontendSL.wellTyped f = true) :
    wellFormed (lowerCF (ofFn f)) = true ∧ wellFormedA (lowerCF (ofFn f)) = true := by
  refine ⟨frontcf_wellFormed_straightline f hwt, ?_⟩
  have h := frontcf_wellFormed_straightline f hwt
  have hal : (lowerCF (ofFn f)).alias = [] := by rw [frontcf_conservative f hwt]; rfl
  -- without aliases the extended certificate is the computed one
  have hd : (deadBlockElim (lowerCF (ofFn f))).alias = [] := by
    unfold deadBlockElim
    cases reachable (lowerCF (ofFn f)) <;> simp [hal]
  have hc : certA (deadBlockElim (lowerCF (ofFn f))) = computeCert (deadBlockElim (lowerCF (ofFn f))) := by
    simp only [certA, hd, aliasGet]
  simp only [wellFormedA, hc]
  exact h

/-- resolving every operand through the alias table (what the passes do on the fly) keeps the outcome -/
theorem frontcf_resolve_sound (w : World) (g : Func) (args : List Nat) (fuel : Nat) :
    run w (resolveOps g) args fuel = run w g args fuel :=
  resolveOps_run w g args fuel

/-- **The passes preserve the outcome of every function that passes `wellFormedA`** (`SsaPass.WF` with the
certificate `certA`, which also ranks and types the temporaries `findValue` aliased); also with the alias table
dropped, as the back end sees it. -/
theorem frontcf_passes_sound (w : World) (g : Func) (h : wellFormedA g = true) (args : List Nat) (fuel : Nat) :
    run w (runPasses g) args fuel = run w g args fuel ∧
    run w { runPasses g with alias := [] } args fuel = run w g args fuel :=
  -- the pass theorems hold for every certificate, here `certA`
  ⟨passes_sound_of_WF w g _ (of_decide_eq_true h) args fuel,
   passes_sound_of_WF_without_alias w g _ (of_decide_eq_true h) args fuel⟩

/-- **Specification → SSA → optimised SSA**, for functions that pass both checks. -/
theorem frontcf_then_passes_refines (f : Function) (hv : validate f = true)
    (hwf : wellFormedA (lowerCF f) = true) (args : List Nat) (hargs : ArgsOK f.sig args) (w : World) (ec mc : Nat)
    (n : Nat) (hterm : Wz.Model.FrontendCF.runSpec f args n ≠ .exhausted) :
    ∃ k, ∀ fuel,
      run w (runPasses (lowerCF f)) (ec :: mc :: args) (fuel + k) =
        ofSpecCF (Wz.Model.FrontendCF.runSpec f args n) ∧
      run w { runPasses (lowerCF f) with alias := [] } (ec :: mc :: args) (fuel + k) =
        ofSpecCF (Wz.Model.FrontendCF.runSpec f args n) := by
  obtain ⟨k, hk⟩ := frontcf_refines_validated f hv args hargs w ec mc n hterm
  refine ⟨k, fun fuel => ?_⟩
  obtain ⟨h1, h2⟩ := frontcf_passes_sound w (lowerCF f) hwf (ec :: mc :: args) (fuel + k)
  exact ⟨by rw [h1, hk], by rw [h2, hk]⟩

/-- … in all three parts: forward, backward, divergence (the passes do not change the outcome at any fuel) -/
theorem frontcf_then_passes_refines_full (f : Function) (hv : validate f = true)
    (hwf : wellFormedA (lowerCF f) = true) (args : List Nat) (hargs : ArgsOK f.sig args) (w : World) (ec mc : Nat) :
    (∀ n, Wz.Model.FrontendCF.runSpec f args n ≠ .exhausted →
      ∃ k, ∀ fuel, run w (runPasses (lowerCF f)) (ec :: mc :: args) (fuel + k) =
        ofSpecCF (Wz.Model.FrontendCF.runSpec f args n)) ∧
    (∀ fuel o, run w (runPasses (lowerCF f)) (ec :: mc :: args) fuel = o → o ≠ .outOfFuel →
      ∃ n, Wz.Model.FrontendCF.runSpec f args n ≠ .exhausted ∧
        ofSpecCF (Wz.Model.FrontendCF.runSpec f args n) = o) ∧
    ((∀ n, Wz.Model.FrontendCF.runSpec f args n = .exhausted) ↔
      (∀ fuel, run w (runPasses (lowerCF f)) (ec :: mc :: args) fuel = .outOfFuel)) := by
  have hp : ∀ fuel, run w (runPasses (lowerCF f)) (ec :: mc :: args) fuel = run w (lowerCF f) (ec :: mc :: args) fuel :=
    fun fuel => (frontcf_passes_sound w (lowerCF f) hwf (ec :: mc :: args) fuel).1
  simp only [hp]
  exact frontcf_refines_validated_full f hv args hargs w ec mc

/-- the alias table the front end hands to the passes is in the resolved form the pass model keeps (no target of an
entry is itself a key), for EVERY function -/
theorem frontcf_alias_normal_form (f : Function) : AliasNF (lowerCF f).alias := by
  show AliasNF (aliasTable (build f).aliases)
  unfold aliasTable
  generalize (build f).aliases = as
  suffices h : ∀ (al : List (Val × Val)), AliasNF al → AliasNF (as.foldl (fun al p => aliasInsert al p.1 p.2) al) from
    h [] aliasNF_nil
  induction as with
  | nil => intro al h; exact h
  | cons p ps ih => intro al h; exact ih _ (aliasNF_insert h p.1 p.2)

/-- the callee world of the tests below (the fragment has no calls) -/
def frontcfWorld : World := ⟨fun _ _ _ => none⟩

theorem frontcf_sadd (a b : Nat) (hb : b < 2 ^ 32) :
    Num.scalar "i32.add" [a, b] = some (.val (evalBin .iadd .i32 a b)) := scalar_bin .i32 .add a b
theorem frontcf_sltu (a b : Nat) : Num.scalar "i32.lt_u" [a, b] = some (.val (evalCond .ult .i32 a b)) :=
  scalar_rel .i32 .ltU a b
theorem frontcf_sgeu (a b : Nat) : Num.scalar "i32.ge_u" [a, b] = some (.val (evalCond .uge .i32 a b)) :=
  scalar_rel .i32 .geU a b

/- The tests of the reference semantics below are evaluated by `simp` (the kernel cannot run `Num.scalar`: it splits
the instruction name with `String.splitOn`), with the `if` forms of the sequence and `loop` equations and the `block`
equation over `Wasm.catchBlock` tried first (`↓`). -/
attribute [local simp] Function.toModule toInstrs CI.toInstr SI.toInstr Wasm.execSeq Wasm.execInstr binName relName
  frontcf_sadd frontcf_sltu frontcf_sgeu Wasm.numResult evalBin evalCond Ty.bits Wasm.catchBlock Wasm.bodyOut
attribute [local simp ↓] Wasm.execSeq_cons_if Wasm.execInstr_block Wasm.execInstr_loop_if

/-- a counted loop: `do { c = c + 1 } while (c < n); return c`.  The loop header gets one block parameter per local
(the placeholders of `findValue` in the unsealed header, made parameters by `Seal`), the back edge passes the new
counter. -/
def frontcfLoop : Function := Function.mk [.i32] [.i32] [.i32]
  [.loop ⟨[], []⟩ [.op (.localGet 1), .op (.const .i32 1), .op (.bin .i32 .add), .op (.localTee 1),
      .op (.localGet 0), .op (.rel .i32 .ltU), .brIf 0],
   .op (.localGet 1)]

/-- what the front end emits for it, as `ssaBuilder.Format()` prints it (a test of the model on one input; the harness
compares this text with the real front end's on every generated function) -/
example : format frontcfLoop =
    ["blk0: (exec_ctx:i64, module_ctx:i64, v2:i32)", "v3:i32 = Iconst_32 0x0", "Jump blk1, v3, v2",
     "blk1: (v4:i32,v7:i32) <-- (blk0,blk1)", "v5:i32 = Iconst_32 0x1", "v6:i32 = Iadd v4, v5",
     "v8:i32 = Icmp lt_u, v6, v7", "Brnz v8, blk1, v6, v7", "Jump blk3",
     "blk2: () <-- (blk3)", "Jump blk_ret, v6",
     "blk3: () <-- (blk1)", "Jump blk2"] := by decide +kernel

theorem frontcf_loop_validate : validate frontcfLoop = true := by decide +kernel
theorem frontcf_loop_wellFormedA : wellFormedA (lowerCF frontcfLoop) = true := by decide +kernel
example : wellTyped frontcfLoop = true := by decide +kernel
example : ArgsOK frontcfLoop.sig [3] := by decide

/-- the theorems apply to it, for all arguments -/
example (args : List Nat) (hargs : ArgsOK frontcfLoop.sig args) (w : World) (ec mc n : Nat)
    (hterm : Wz.Model.FrontendCF.runSpec frontcfLoop args n ≠ .exhausted) :
    ∃ k, ∀ fuel, run w (runPasses (lowerCF frontcfLoop)) (ec :: mc :: args) (fuel + k) =
      ofSpecCF (Wz.Model.FrontendCF.runSpec frontcfLoop args n) := by
  obtain ⟨k, hk⟩ := frontcf_then_passes_refines frontcfLoop frontcf_loop_validate frontcf_loop_wellFormedA args hargs
    w ec mc n hterm
  exact ⟨k, fun fuel => (hk fuel).1⟩

/-- tests on one input: three iterations; the specification and the SSA run agree -/
example : Wz.Model.FrontendCF.runSpec frontcfLoop [3] 40 = .values [3] := by
  rw [runSpec_succ _ _ rfl]; simp +decide [frontcfLoop]
example : run frontcfWorld (lowerCF frontcfLoop) [0xec, 0x3c, 3] 10 = .values [3] [] [] := by decide +kernel

/-- the same loop with the counter passed as a Wasm-level block PARAMETER (`loop (param i32) (result i32)`): the header
`blk1` gets the parameter `v5` at once (`addBlockParamsFromWasmTypes`) and `v9` for the local at `Seal`; the block after
the loop gets the result parameter `v6`.  Model and textual tie only: the reference semantics `Wz.Spec.Wasm` has no
block parameters, so the checker (and `wellTyped`) refuse it; the SSA run is a test on one input. -/
def frontcfLoopParam : Function := Function.mk [.i32] [.i32] [.i32]
  [.op (.const .i32 0),
   .loop ⟨[.i32], [.i32]⟩ [.op (.const .i32 1), .op (.bin .i32 .add), .op (.localTee 1), .op (.localGet 1),
      .op (.localGet 0), .op (.rel .i32 .ltU), .brIf 0]]

example : format frontcfLoopParam =
    ["blk0: (exec_ctx:i64, module_ctx:i64, v2:i32)", "v3:i32 = Iconst_32 0x0", "v4:i32 = Iconst_32 0x0",
     "Jump blk1, v4, v2", "blk1: (v5:i32,v9:i32) <-- (blk0,blk1)", "v7:i32 = Iconst_32 0x1", "v8:i32 = Iadd v5, v7",
     "v10:i32 = Icmp lt_u, v8, v9", "Brnz v10, blk1, v8, v9", "Jump blk3",
     "blk2: (v6:i32) <-- (blk3)", "Jump blk_ret, v6", "blk3: () <-- (blk1)", "Jump blk2, v8"] := by decide +kernel

example : validate frontcfLoopParam = false ∧ wellFormedA (lowerCF frontcfLoopParam) = true :=
  ⟨by decide +kernel, by decide +kernel⟩
example : run frontcfWorld (lowerCF frontcfLoopParam) [0xec, 0x3c, 3] 10 = .values [3] [] [] := by decide +kernel

/-- an `if`/`else` that joins two definitions of a local: `if (x) y = 1 else y = 2; return y`.  The read after the
join makes `findValue` add a parameter to the join block and an argument to the jump of each arm. -/
def frontcfJoin : Function := Function.mk [.i32] [.i32] [.i32]
  [.op (.localGet 0),
   .ite ⟨[], []⟩ true [.op (.const .i32 1), .op (.localSet 1)] [.op (.const .i32 2), .op (.localSet 1)],
   .op (.localGet 1)]

example : format frontcfJoin =
    ["blk0: (exec_ctx:i64, module_ctx:i64, v2:i32)", "v3:i32 = Iconst_32 0x0", "Brz v2, blk2", "Jump blk1",
     "blk1: () <-- (blk0)", "v4:i32 = Iconst_32 0x1", "Jump blk3, v4",
     "blk2: () <-- (blk0)", "v5:i32 = Iconst_32 0x2", "Jump blk3, v5",
     "blk3: (v6:i32) <-- (blk1,blk2)", "Jump blk_ret, v6"] := by decide +kernel

theorem frontcf_join_validate : validate frontcfJoin = true := by decide +kernel
theorem frontcf_join_wellFormedA : wellFormedA (lowerCF frontcfJoin) = true := by decide +kernel
example : Wz.Model.FrontendCF.runSpec frontcfJoin [0] 20 = .values [2] := by
  rw [runSpec_succ _ _ rfl]; simp +decide
example : Wz.Model.FrontendCF.runSpec frontcfJoin [7] 20 = .values [1] := by
  rw [runSpec_succ _ _ rfl]; simp +decide
example : run frontcfWorld (lowerCF frontcfJoin) [0xec, 0x3c, 7] 10 = .values [1] [] [] := by decide +kernel

/-- the same value on both arms: `y = 5; if (x) {} else {}; return y + y`.  `findValue` finds one definition on
both predecessors, ALIASES its temporary `v7` (which has no definition) to it and returns the definition for the first
read; the second read finds the temporary: the text uses `v7`, which only the alias table explains. -/
def frontcfAlias : Function := Function.mk [.i32] [.i32] [.i32]
  [.op (.const .i32 5), .op (.localSet 1), .op (.localGet 0), .ite ⟨[], []⟩ true [] [],
   .op (.localGet 1), .op (.localGet 1), .op (.bin .i32 .add)]

example : format frontcfAlias =
    ["blk0: (exec_ctx:i64, module_ctx:i64, v2:i32)", "v3:i32 = Iconst_32 0x0", "v4:i32 = Iconst_32 0x5",
     "Brz v2, blk2", "Jump blk1", "blk1: () <-- (blk0)", "Jump blk3", "blk2: () <-- (blk0)", "Jump blk3",
     "blk3: () <-- (blk1,blk2)", "v6:i32 = Iadd v4, v5", "Jump blk_ret, v6"] ∧
    (lowerCF frontcfAlias).alias = [(5, 4)] := by decide +kernel

theorem frontcf_alias_validate : validate frontcfAlias = true := by decide +kernel

/-- `SsaPass.wellFormed` (certificate for defined values only) REJECTS this output of the front end, because of the
alias entry for a value without a definition; `wellFormedA` accepts it.  So `front_wellFormed` does not extend to
control flow as it stands: the hypothesis of the pass theorem has to be `wellFormedA` (`frontcf_passes_sound`). -/
theorem frontcf_wellFormed_rejects_alias :
    wellFormed (lowerCF frontcfAlias) = false ∧ wellFormedA (lowerCF frontcfAlias) = true :=
  ⟨by decide +kernel, by decide +kernel⟩

/-- an early return out of a loop nested in a block, unreachable code after `br`, a trap -/
def frontcfEarly : Function := Function.mk [.i32] [.i32] [.i32]
  [.block ⟨[], []⟩
     [.loop ⟨[], []⟩
        [.op (.localGet 1), .op (.const .i32 1), .op (.bin .i32 .add), .op (.localTee 1), .op (.const .i32 4),
         .op (.rel .i32 .geU), .ite ⟨[], []⟩ false [.op (.localGet 1), .op .ret] [],
         .op (.localGet 0), .brIf 1, .br 0, .op (.const .i32 9), .op .drop],
      .unreachable],
   .unreachable]

theorem frontcf_early_validate : validate frontcfEarly = true := by decide +kernel
example : Wz.Model.FrontendCF.runSpec frontcfEarly [0] 60 = .values [4] := by
  rw [runSpec_succ _ _ rfl]; simp +decide [frontcfEarly]
example : Wz.Model.FrontendCF.runSpec frontcfEarly [1] 60 = .trap "unreachable" := by
  rw [runSpec_succ _ _ rfl]; simp +decide [frontcfEarly]
example : run frontcfWorld (lowerCF frontcfEarly) [0xec, 0x3c, 1] 10 = .trap codeUnreachable [] [] := by decide +kernel
example : run frontcfWorld (lowerCF frontcfEarly) [0xec, 0x3c, 0] 40 = .values [4] [] [] := by decide +kernel

/-!
### the full statements (NOT proved)

    [not proved] theorem frontcf_refines (f : Function) (hwt : wellTyped f = true) (args) (hargs : ArgsOK f.sig args) w ec mc :
        (∀ n, runSpec f args n ≠ .exhausted → ∃ k, ∀ fuel, run w (lowerCF f) (ec :: mc :: args) (fuel + k) = ofSpecCF (runSpec f args n)) ∧
        (∀ fuel o, run w (lowerCF f) (ec :: mc :: args) fuel = o → o ≠ .outOfFuel → ∃ n, ofSpecCF (runSpec f args n) = o)
    [not proved] theorem frontcf_wellFormed (f : Function) (hwt : wellTyped f = true) : wellFormedA (lowerCF f) = true

Missing: `wellTyped f → validate f = true` and `wellTyped f → wellFormedA (lowerCF f) = true`, i.e. the correctness
of the incremental SSA construction `findValue` / `Seal` (Braun et al.): that the values the builder finds for a
variable at the entry of every block form a consistent certificate, and that every use is dominated by its
definition.  Both are decidable per function and evaluated by the harness on every generated function.
-/

end Wz.C01
