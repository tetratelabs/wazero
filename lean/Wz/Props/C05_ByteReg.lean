import Wz.Proofs.ShapeLookup
/-!
# C05 companion: byte registers and the REX prefix (amd64)

In 64-bit mode the register field of an 8-bit operand means, for encodings 4..7, AH CH DH BH (bits 8..15 of
RAX RCX RDX RBX) when the instruction has no REX prefix, and SPL BPL SIL DIL (bits 0..7 of RSP RBP RSI RDI) when it has
one; encodings 0..3 mean AL CL DL BL either way, and 8..15 (R8B..R15B) need REX.B/R, hence a prefix, anyway.  The
encoder therefore forces a REX prefix for a byte-register operand with encoding 4..7 (`e >= 4 && e <= 7`), and always
for `setcc`.  Model: what byte a register operand denotes given (has REX?, 4-bit encoding).  With the rule, every one
of the sixteen registers denotes its own low byte (`byte_operand_is_the_low_byte_of_its_register`); leaving one
register out of the rule - RSI in seeded change C05-7 - makes it DH (witness).  All places where the encoder forces
the prefix, and their conditions, are a regenerated shape.
-/

namespace Wz.C05.ByteReg

/-- what an 8-bit register operand denotes -/
inductive Denotes where
  | low (reg : Nat)    -- bits 0..7 of general register `reg` (0 = RAX, 1 = RCX, 2 = RDX, 3 = RBX, 4 = RSP, 5 = RBP, 6 = RSI, 7 = RDI, 8.. = R8..)
  | high (reg : Nat)   -- bits 8..15 of RAX/RCX/RDX/RBX
  deriving DecidableEq, Repr

/-- Intel SDM vol. 2, 3.1.1.1 / table 3-1: register field `enc` (with the REX extension bit already included) -/
def denotes (rex : Bool) (enc : Nat) : Denotes :=
  if enc < 4 then .low enc
  else if enc < 8 then (if rex then .low enc else .high (enc - 4))
  else .low enc

/-- the encoder's decision: is a REX prefix emitted for a byte operand in register `enc`?  `forced` is the rule -/
def hasRex (forced : Nat → Bool) (enc : Nat) : Bool := forced enc || decide (8 ≤ enc)

/-- the rule of the source -/
def rule (e : Nat) : Bool := decide (4 ≤ e) && decide (e ≤ 7)

/-- **with the rule every byte operand is the low byte of its own register** (all sixteen registers) -/
theorem byte_operand_is_the_low_byte_of_its_register (enc : Nat) (h : enc < 16) :
    denotes (hasRex rule enc) enc = .low enc := by
  unfold denotes hasRex rule
  by_cases h4 : enc < 4
  · simp [h4]
  · by_cases h8 : enc < 8
    · have : 4 ≤ enc := by omega
      have : enc ≤ 7 := by omega
      simp [*]
    · simp [h4, h8]

/-- the rule without RSI (encoding 6): the operand is DH -/
theorem rule_without_rsi_witness :
    denotes (hasRex (fun e => e == 4 || e == 5 || e == 7) 6) 6 = .high 2 := by decide

/-- non-vacuity: SIL needs the prefix, AL does not, R9B has it anyway -/
example : hasRex rule 6 = true ∧ hasRex rule 0 = false ∧ hasRex rule 9 = true := by decide

/-- the encoder, regenerated: the prefix is forced at six places of instr_encoding.go - unconditionally for setcc, and
under `e >= 4 && e <= 7` on the source register's encoding at the five places that encode a byte register source -/
theorem every_byte_register_site_uses_the_rule :
    Wz.Gen.Shapes.get "c05.byte_reg_rex" =
      some "6 assignments of an always-REX prefix; guarded: e := src.encoding(); e >= 4 && e <= 7 ;; e := src.encoding(); e >= 4 && e <= 7 ;; e := src.encoding(); e >= 4 && e <= 7 ;; e := src.encoding(); e >= 4 && e <= 7 ;; e := src.encoding(); e >= 4 && e <= 7" := by
  shape_lookup

end Wz.C05.ByteReg
