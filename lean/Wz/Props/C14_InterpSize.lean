import Wz.Proofs.ShapeLookup
/-!
# C14 companion: memory.size is computed from the page count

`api.Memory.Size()` is a 32-bit BYTE count that wraps to 0 at 65536 pages (known finding F14); `Pages()` is exact.
`memory.size` has to use the latter: `pages_from_byte_count_wraps_witness` shows the byte-count detour returning 0 for a
4 GiB memory (seeded change C14-7).  What the interpreter's `memory.size` pushes is a regenerated shape.
-/

namespace Wz.C14

/-- the detour through the 32-bit byte count -/
def pagesViaSize32 (pages : Nat) : Nat := (pages * 65536 % 2 ^ 32) / 65536

theorem pages_via_size32_exact_below_4GiB (pages : Nat) (h : pages < 65536) : pagesViaSize32 pages = pages := by
  have hlt : pages * 65536 < 2 ^ 32 := (Nat.mul_lt_mul_right (by decide)).mpr h
  unfold pagesViaSize32
  rw [Nat.mod_eq_of_lt hlt]
  exact Nat.mul_div_cancel _ (by decide)

theorem pages_from_byte_count_wraps_witness : pagesViaSize32 65536 = 0 := by decide

theorem interp_memory_size_pushes_the_page_count :
    Wz.Gen.Shapes.get "c14.interp_memory_size" = some "ce.pushValue(uint64(memoryInst.Pages()))" := by
  shape_lookup

end Wz.C14
