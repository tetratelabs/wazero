/-
C01 / C02 — the optimizing compiler's FRONT END on straight-line integer code with LINEAR MEMORY ACCESSES
(`Wz.Model.FrontendMem`; tie to the real `frontend.Compiler.LowerToSSA`: `harness/cmd/hfrontmem`).

Property-level statements.  For every well-typed function `f` of the fragment (FrontendSL's instructions, the 12
integer loads and 7 integer stores with static offsets < 2^32, `memory.size`), every argument vector within the
parameter types, every linear memory `bytes` (any size below 4 GiB, any contents), every flat SSA memory `mem0` that
EMBEDS it (`Emb mc base bytes mem0`: base and length words of the module context at `mc + 8`, `mc + 16`; byte `i` at
`base + i`; no overlap, no wrap-around), every callee world, execution-context argument and reference fuel
`n ≥ |body| + 3`:

* `frontmem_refines`: the outcome of the SSA semantics on `lowerMem f` is the outcome of `Wz.Spec.Wasm.invoke`: the
  same result values, or the exit code of the same trap (`ExitCodeMemoryOutOfBounds` exactly when
  `address + offset + width > size` OVER THE NATURALS, also for addresses and offsets ≥ 2^31; the two division traps
  as before), no call, and the final flat memory embeds the specification's final linear memory (a trap keeps
  the stores made before it).
* `frontmem_confined` (C02 through the front end): every memory access of the SSA run — stores and loads, also those
  whose bounds check was ELIDED by the known-safe-bound cache — lies inside `[base, base + size)`, except the loads of
  the two module-context words; stores are always inside.
* `frontmem_writes_confined`: the final memory is the initial one with writes prepended, all inside `[base, base+size)`.
* `frontmem_conservative`: on functions without memory instructions `lowerMem` is `FrontendSL.lowerSL`.
* `frontmem_opt_validated` (and `frontmem_dce_validated`), `frontmem_then_passes_refines`: a verified CHECKER of the
  passes' result (no-op shifts → aliases, alias resolution, dead code; translation validation: the harness runs it on
  the real `RunPasses()` output), composed with the refinement.
* `frontmem_wellFormed`: `lowerMem f` is strict SSA in one block (`WellFormedM`).
* `frontmem_elision_is_model`: the static cache is `Wz.Model.SafeBounds` under an abstraction (same elisions).
* `frontmem_elision_justified`: whenever `memOpSetup` emits NO check, the bound it found in its cache covers the
  access (the static statement behind the elision).
-/
import Wz.Proofs.C01_FrontMem
import Wz.Proofs.C01_FrontMem_Embed
import Wz.Proofs.C01_FrontMem_Cons
import Wz.Proofs.C01_FrontMem_Elide
import Wz.Proofs.C01_FrontMem_WF
import Wz.Proofs.C01_FrontMem_Dce
import Wz.Proofs.C01_FrontMem_Opt
import Wz.Proofs.C01_FrontMem_Writes

namespace Wz.C01
open Wz.Spec Wz.Model.SsaPass Wz.Model.FrontendSL Wz.Model.FrontendMem Wz.Proofs.FrontMem

/-- **The front end preserves the semantics of straight-line code with memory accesses.** -/
theorem frontmem_refines (f : FnM) (hwt : wellTypedM f = true) (args : List Nat) (hargs : ArgsOK f.sig args)
    (w : World) (ec mc base : Nat) (bytes : ByteArray) (mem0 : Mem) (hemb : Emb mc base bytes mem0)
    (n : Nat) (hn : f.body.length + 3 ≤ n) :
    RefinesM mc base (runSpecM f args bytes n) (runM w (lowerMem f) (ec :: mc :: args) mem0).1 :=
  (lowerMem_refines f hwt args hargs w ec mc base bytes mem0 hemb n hn).1

/-- **Compiled code never touches memory outside `[base, base + size)`** (C02, through the front end, including the
accesses whose check was elided): every logged access is inside, or is a load of one of the two context words. -/
theorem frontmem_confined (f : FnM) (hwt : wellTypedM f = true) (args : List Nat) (hargs : ArgsOK f.sig args)
    (w : World) (ec mc base : Nat) (bytes : ByteArray) (mem0 : Mem) (hemb : Emb mc base bytes mem0) :
    Confined mc base bytes.size (runM w (lowerMem f) (ec :: mc :: args) mem0).2 :=
  (lowerMem_refines f hwt args hargs w ec mc base bytes mem0 hemb (f.body.length + 3) (Nat.le_refl _)).2.1

/-- in particular every STORE is inside the linear memory -/
theorem frontmem_stores_confined (f : FnM) (hwt : wellTypedM f = true) (args : List Nat) (hargs : ArgsOK f.sig args)
    (w : World) (ec mc base : Nat) (bytes : ByteArray) (mem0 : Mem) (hemb : Emb mc base bytes mem0) :
    ∀ a ∈ (runM w (lowerMem f) (ec :: mc :: args) mem0).2, a.store = true →
      base ≤ a.addr ∧ a.addr + a.n ≤ base + bytes.size := by
  intro a ha hs
  rcases frontmem_confined f hwt args hargs w ec mc base bytes mem0 hemb a ha with h | h
  · simpa [Acc.inside] using h
  · simp [Acc.isCtxRead, hs] at h

/-- **Every byte the compiled code writes lies inside `[base, base + size)`**, stated on the memory itself: the final
flat memory (of a run that returns or traps) is the initial memory with a list `W` of writes prepended, and every
written address is inside the linear memory.  (The SSA memory is a write log, so `W` IS the list of all writes.) -/
theorem frontmem_writes_confined (f : FnM) (hwt : wellTypedM f = true) (args : List Nat) (hargs : ArgsOK f.sig args)
    (w : World) (ec mc base : Nat) (bytes : ByteArray) (mem0 : Mem) (hemb : Emb mc base bytes mem0) (mem' : Mem)
    (h : finalMem (runM w (lowerMem f) (ec :: mc :: args) mem0).1 = some mem') :
    ∃ W, mem' = W ++ mem0 ∧ ∀ p ∈ W, base ≤ p.1 ∧ p.1 < base + bytes.size :=
  (lowerMem_refines f hwt args hargs w ec mc base bytes mem0 hemb _ (Nat.le_refl _)).2.2 mem' h

/-- **The hypothesis is satisfiable for every memory**: the canonical embedding (the two context words, the non-zero
bytes) of any linear memory below 4 GiB, placed anywhere without overlap and wrap-around, is an embedding. -/
theorem frontmem_embedding_exists (mc base : Nat) (bytes : ByteArray)
    (hdis : mc + 24 ≤ base ∨ base + bytes.size ≤ mc + 8) (hmc : mc + 24 ≤ 2 ^ 64) (hbase : base + 2 ^ 34 ≤ 2 ^ 64)
    (hlen : bytes.size < 2 ^ 32) : Emb mc base bytes (embed mc base bytes) := by
  refine ⟨?_, ?_, ?_, by simpa [offMemBase] using hdis, hmc, hbase, hlen⟩
  · intro i hi
    simp only [embed, offMemBase, offMemLen]
    rw [memRead_memStore, if_neg (by omega), memRead_memStore, if_pos (by omega),
      show mc + 8 + i - (mc + 8) = i by omega]
  · intro i hi
    simp only [embed, offMemBase, offMemLen]
    rw [memRead_memStore, if_pos (by omega), show mc + 16 + i - (mc + 16) = i by omega]
  · intro i hi
    simp only [embed, offMemBase, offMemLen]
    rw [memRead_memStore, if_neg (by omega), memRead_memStore, if_neg (by omega), memRead_map]
    by_cases hz : bytes.get! i = 0
    · have : i ∉ (List.range bytes.size).filter (fun i => bytes.get! i ≠ 0) := by
        simp [hz]
      rw [if_neg this, hz]
      rfl
    · have : i ∈ (List.range bytes.size).filter (fun i => bytes.get! i ≠ 0) := by
        simp [hz, hi]
      rw [if_pos this]

/-- the refinement on the canonical embedding, without an embedding hypothesis -/
theorem frontmem_refines_canonical (f : FnM) (hwt : wellTypedM f = true) (args : List Nat) (hargs : ArgsOK f.sig args)
    (w : World) (ec : Nat) (bytes : ByteArray) (hlen : bytes.size < 2 ^ 32) (n : Nat) (hn : f.body.length + 3 ≤ n) :
    RefinesM 0x3c00 0x100000000000 (runSpecM f args bytes n)
      (runM w (lowerMem f) (ec :: 0x3c00 :: args) (embed 0x3c00 0x100000000000 bytes)).1 :=
  frontmem_refines f hwt args hargs w ec _ _ bytes _
    (frontmem_embedding_exists _ _ bytes (.inl (by omega)) (by omega) (by omega) hlen) n hn

/-- the reference semantics of a well-typed function of the fragment does not depend on the fuel (≥ |body| + 3), and
never runs out of it: both runs are the one SSA run read back -/
theorem frontmem_spec_fuel_irrelevant (f : FnM) (hwt : wellTypedM f = true) (args : List Nat)
    (hargs : ArgsOK f.sig args) (bytes : ByteArray) (hlen : bytes.size < 2 ^ 32) (n n' : Nat)
    (hn : f.body.length + 3 ≤ n) (hn' : f.body.length + 3 ≤ n') :
    (runSpecM f args bytes n).1 = (runSpecM f args bytes n').1 ∧ (runSpecM f args bytes n).1 ≠ .exhausted :=
  refinesM_unique (frontmem_refines_canonical f hwt args hargs ⟨fun _ _ _ => none⟩ 0 bytes hlen n hn)
    (frontmem_refines_canonical f hwt args hargs ⟨fun _ _ _ => none⟩ 0 bytes hlen n' hn')

/-- **Conservativity**: a function without memory instructions is lowered exactly as by `FrontendSL.lowerSL` (the
block of `lowerSL f` has these parameters and these instructions), and printed the same -/
theorem frontmem_conservative (f : Fn) :
    lowerMem (toM f) = { params := entryParams f, instrs := (entryInstrs f).map .base } ∧
    (lowerSL f).blocks = [{ id := 0, key := 0, invalid := false, params := (lowerMem (toM f)).params,
                            instrs := entryInstrs f }] ∧
    formatM (toM f) = format f :=
  ⟨lowerMem_toM f, by rw [lowerMem_toM]; rfl, formatM_toM f⟩

/-- **An elided check is justified**: in a state of the front end that satisfies the invariant of the simulation
(`MInv`: the cache's entries are bounds that were checked, with the value that holds the absolute address),
`memOpSetup` emits NO instruction only if the cache holds, for this address value, a bound ≥ `offset + width`; then
`address + offset + width ≤ size`, the returned value holds `base + address`, and the state is unchanged. -/
theorem frontmem_elision_justified {mc base : Nat} {bytes : ByteArray} {s : MS} {env : Val → Nat} {mem : Mem}
    (h : MInv mc base bytes s env mem) (b ceil : Nat) (hnil : (memOpSetup s b ceil).1 = []) :
    (∃ bound, lookupBound s.bounds b = some (bound, (memOpSetup s b ceil).2.1) ∧ ceil ≤ bound) ∧
    env b + ceil ≤ bytes.size ∧ env (memOpSetup s b ceil).2.1 = base + env b ∧ (memOpSetup s b ceil).2.2 = s := by
  revert hnil
  fun_cases memOpSetup s b ceil
  case case1 bound a0 hl hle =>
    obtain ⟨h1, h2, _, _⟩ := h.bnd b bound a0 (lookupBound_mem _ _ _ hl)
    exact fun _ => ⟨⟨bound, hl, hle⟩, by omega, h2, rfl⟩
  -- `memCheck` always emits the check
  all_goals exact nofun

/-- **The front end produces strict SSA** (`WellFormedM`, the one-block content of `SsaPass.wellFormed` on the wrapped
instruction set): no branch instruction; the values defined — block parameters, then the results in order — are
0, 1, 2, … (each defined once); every operand is a parameter or the result of an EARLIER instruction — also the
cached memory base / length and the cached absolute addresses that an elided check reuses; the shifted operand of a
shift has the shift's type.  So no run of `runM` on the front end's output reads an undefined value.
(On functions without memory instructions `SsaPass.wellFormed (lowerSL f)` itself holds: `front_wellFormed`, and
`frontmem_conservative`.) -/
theorem frontmem_wellFormed (f : FnM) (hwt : wellTypedM f = true) : WellFormedM (lowerMem f) :=
  lowerMem_wellFormed f hwt

/-- **The validator of dead-code elimination is sound**: if `dceOK [] g.instrs g'.instrs` (only instructions of
side-effect class `none` deleted, no kept instruction uses a deleted result) and the parameters are the same, the two
one-block functions have the same outcome — result values or trap code, final memory, call trace — on every memory
and all arguments, and the accesses of `g'` are among those of `g` (only loads disappear). -/
theorem frontmem_dce_validated (w : World) (g g' : MFunc) (hp : g'.params = g.params)
    (hok : dceOK [] g.instrs g'.instrs = true) (args : List Nat) (mem0 : Mem) :
    (runM w g' args mem0).1 = (runM w g args mem0).1 ∧ (runM w g' args mem0).2.Sublist (runM w g args mem0).2 :=
  runM_congr w g g' hp args mem0
    (dce_sound w g.instrs g'.instrs [] _ _ [] [] hok ⟨rfl, rfl, fun _ _ => rfl⟩ (List.Sublist.refl _))

/-- **The validator of the passes' result is sound**: if `optValid g g'` (same, duplicate-free block parameters; every
definition fresh; `g'` is `g` with (a) shifts `Ishl/Ushr/Sshr x, c` by an `Iconst` with `c mod 2^64 mod width = 0` on an
operand of the shift's declared type deleted and ALIASED to their resolved operand — `passNopInstElimination` —,
(b) instructions of side-effect class `none` deleted whose results no kept instruction uses —
`passDeadCodeEliminationOpt` —, (c) the operands of the kept instructions resolved through the aliases), the two
one-block functions have the same outcome — result values or trap code, final memory, call trace — on every memory
and all arguments, and the accesses of `g'` are among those of `g`. -/
theorem frontmem_opt_validated (w : World) (g g' : MFunc) (hv : optValid g g' = true) (args : List Nat) (mem0 : Mem) :
    (runM w g' args mem0).1 = (runM w g args mem0).1 ∧ (runM w g' args mem0).2.Sublist (runM w g args mem0).2 := by
  simp only [optValid, Bool.and_eq_true, beq_iff_eq, decide_eq_true_eq] at hv
  obtain ⟨⟨hp, hnd⟩, hok⟩ := hv
  refine runM_congr w g g' hp.symm args mem0 (opt_sound w g.instrs g'.instrs _ _ _ [] [] hok ?_ (List.Sublist.refl _))
  refine ⟨rfl, rfl, fun _ _ _ => rfl, ?_, ?_, ?_, ?_⟩
  · intro k x hm; cases hm
  · intro v t hm
    exact ⟨bindVals_typed g.params args _ hnd v t hm, List.mem_map.mpr ⟨(v, t), hm, rfl⟩⟩
  · intro v cty c hm; cases hm
  · intro v hm; cases hm

/-- **Front end, then the passes** (in validated form, instead of the composition with `ssa_passes_sound`, which is
not available for these functions — see docs/C01_frontmem.md): every `g'` that the verified checker accepts as the
passes' result on `lowerMem f` refines the reference semantics and stays inside the memory.  The harness runs the
checker on the REAL output of the front end before / after the REAL `RunPasses()`: accepted on every sampled function. -/
theorem frontmem_then_passes_refines (f : FnM) (hwt : wellTypedM f = true) (args : List Nat)
    (hargs : ArgsOK f.sig args) (w : World) (ec mc base : Nat) (bytes : ByteArray) (mem0 : Mem)
    (hemb : Emb mc base bytes mem0) (n : Nat) (hn : f.body.length + 3 ≤ n)
    (g' : MFunc) (hv : optValid (lowerMem f) g' = true) :
    RefinesM mc base (runSpecM f args bytes n) (runM w g' (ec :: mc :: args) mem0).1 ∧
    Confined mc base bytes.size (runM w g' (ec :: mc :: args) mem0).2 := by
  obtain ⟨h1, h2⟩ := frontmem_opt_validated w (lowerMem f) g' hv (ec :: mc :: args) mem0
  rw [h1]
  exact ⟨frontmem_refines f hwt args hargs w ec mc base bytes mem0 hemb n hn,
    fun a ha => frontmem_confined f hwt args hargs w ec mc base bytes mem0 hemb a (h2.subset ha)⟩

open Wz.Model in
/-- **The static cache is the path-level model `Wz.Model.SafeBounds`** (the object of `C02.frontend_elision_sound`).
Under the abstraction `Abs` (a lookup in the `SafeBounds` state = the lookup in the front end's static cache, with the
cached absolute-address VALUE read in the SSA environment), one `memOpSetup` is one `SafeBounds.stepAccess` on the
memory `(base, size)`: it traps in the model exactly when the access is out of bounds (and then a check was emitted);
otherwise the model's event is `ok (base + address) … checked` with `checked` = "`memOpSetup` emitted instructions"
(so the two models ELIDE THE SAME CHECKS), and the caches correspond again afterwards, for every environment that
extends the old one and holds the absolute address in the returned value (which is what the emitted instructions
establish: `memOpSetup_ok`). -/
theorem frontmem_elision_is_model {mc base : Nat} {bytes : ByteArray} {s : MS} {env : Val → Nat} {mem : Mem}
    (h : MInv mc base bytes s env mem) (st : SafeBounds.State) (habs : Abs s.bounds env st) (b off size : Nat)
    (hsz : 0 < size) :
    (bytes.size < env b + (off + size) →
      (SafeBounds.stepAccess env st ⟨base, bytes.size, base, bytes.size⟩ b off size).2 = .trap b (off + size) ∧
      (memOpSetup s b (off + size)).1 ≠ []) ∧
    (env b + (off + size) ≤ bytes.size →
      (SafeBounds.stepAccess env st ⟨base, bytes.size, base, bytes.size⟩ b off size).2 =
        .ok (base + env b) b (off + size) base bytes.size (decide ((memOpSetup s b (off + size)).1 ≠ [])) ∧
      ∀ env' : Val → Nat, (∀ v, v < s.ls.next → env' v = env v) →
        env' (memOpSetup s b (off + size)).2.1 = base + env b →
        Abs (memOpSetup s b (off + size)).2.2.bounds env'
          (SafeBounds.stepAccess env st ⟨base, bytes.size, base, bytes.size⟩ b off size).1) := by
  have hframe : ∀ env' : Val → Nat, (∀ v, v < s.ls.next → env' v = env v) → Abs s.bounds env' st :=
    fun env' hfr => habs.frame fun b' bound' a' hm => hfr a' (h.bnd b' bound' a' hm).2.2.2
  have hgb := habs.2 b
  -- the two functions branch alike: no entry for `b` (check, record), an entry with a bound ≥ `off + size` (nothing), an
  -- entry with a smaller bound (check, raise the bound, keep the address); `hgb` turns the model's lookup into the
  -- lookup in the static cache, and in each branch with a check both sides are decided by `size < address + off + size`
  unfold memOpSetup SafeBounds.stepAccess
  cases hl : lookupBound s.bounds b with
  | none =>
    rw [hl] at hgb
    simp only [Option.map_none] at hgb
    obtain ⟨hb1, hb2, -⟩ := memCheck_bounds s b (off + size) none
    simp only [hgb]
    constructor
    · intro hout
      simp only [if_pos hout]
      exact ⟨trivial, hb2⟩
    · intro hin
      have hnot : ¬ bytes.size < env b + (off + size) := by omega
      simp only [if_neg hnot, hb2, ne_eq, not_false_eq_true, decide_true, SafeBounds.record, hgb]
      refine ⟨trivial, fun env' hfr haddr => ?_⟩
      rw [hb1, ← haddr]
      exact abs_set (hframe env' hfr) b (off + size) _ (by omega)
  | some e =>
    obtain ⟨bound, a0⟩ := e
    rw [hl] at hgb
    simp only [Option.map_some, absEntry] at hgb
    obtain ⟨h1, h2, h3, h4⟩ := h.bnd b bound a0 (lookupBound_mem _ _ _ hl)
    simp only [hgb]
    by_cases hle : off + size ≤ bound
    · simp only [if_pos hle]
      constructor
      · intro hout; omega
      · intro _
        simp only [ne_eq, not_true_eq_false, decide_false, h2]
        exact ⟨trivial, fun env' hfr _ => hframe env' hfr⟩
    · obtain ⟨hb1, hb2, hb3⟩ := memCheck_bounds s b (off + size) (some a0)
      simp only [if_neg hle]
      constructor
      · intro hout
        simp only [if_pos hout]
        exact ⟨trivial, hb2⟩
      · intro hin
        have hnot : ¬ bytes.size < env b + (off + size) := by omega
        have hlt : bound < off + size := by omega
        simp only [if_neg hnot, hb2, ne_eq, not_false_eq_true, decide_true, SafeBounds.record, hgb, if_pos hlt, h2]
        refine ⟨trivial, fun env' hfr _ => ?_⟩
        rw [hb1, hb3 a0 rfl, ← h2, ← hfr a0 h4]
        exact abs_set (hframe env' hfr) b (off + size) a0 (by omega)

/-- at the entry of a function both caches are empty and correspond -/
example (env : Val → Nat) : Abs [] env [] := by
  refine ⟨?_, fun _ => rfl⟩
  intro _ _ _ h
  cases h

/-- a store, then a load of ANOTHER WIDTH at an OVERLAPPING address whose check is ELIDED (ceil 5 ≤ 8) -/
def frontMemExample : FnM :=
  { params := [.i32, .i64], results := [.i32]
    locals := []
    body := [.base (.localGet 0), .base (.localGet 1), .store .i64Store 0, .base (.localGet 0), .load .i32Load16S 3] }

def noCalls : World := ⟨fun _ _ _ => none⟩
def bytes16 : ByteArray := ByteArray.mk (Array.replicate 16 7)

example : wellTypedM frontMemExample = true := by decide +kernel

/-- the text of `ssaBuilder.Format()`: ONE bounds check for the two accesses -/
example : formatM frontMemExample =
    ["blk0: (exec_ctx:i64, module_ctx:i64, v2:i32, v3:i64)", "v4:i64 = Iconst_64 0x8", "v5:i64 = UExtend v2, 32->64",
     "v6:i64 = Uload32 module_ctx, 0x10", "v7:i64 = Iadd v5, v4", "v8:i32 = Icmp lt_u, v6, v7",
     "ExitIfTrue v8, exec_ctx, memory_out_of_bounds", "v9:i64 = Load module_ctx, 0x8", "v10:i64 = Iadd v9, v5",
     "Store v3, v10, 0x0", "v11:i32 = Sload16 v10, 0x3", "Jump blk_ret, v11"] := by decide +kernel

/-- the hypotheses of the theorems hold for the example memory -/
example : Emb 0x3c00 0x100000000000 bytes16 (embed 0x3c00 0x100000000000 bytes16) :=
  frontmem_embedding_exists _ _ _ (.inl (by decide)) (by decide) (by decide) (by decide)

def outVals : Outcome → Option (List Nat)
  | .values vs _ _ => some vs
  | _ => none

def outTrap : Outcome → Option Nat
  | .trap c _ _ => some c
  | _ => none

set_option maxRecDepth 8192 in
/-- at address 4 of 16 bytes: the i64 store of 0x11223384F5667788 at 4…11, then the signed 16-bit load at 7…8 reads
0x84F5 and sign-extends it; four accesses are logged (length word, base word, the store, the load) -/
example :
    let r := runM noCalls (lowerMem frontMemExample) [0xec, 0x3c00, 4, 0x11223384F5667788] (embed 0x3c00 0x100000000000 bytes16)
    outVals r.1 = some [0xFFFF84F5] ∧
    r.2 = [⟨false, 0x3c10, 4⟩, ⟨false, 0x3c08, 8⟩, ⟨true, 0x100000000004, 8⟩, ⟨false, 0x100000000007, 2⟩] := by decide +kernel

set_option maxRecDepth 8192 in
example : (runSpecM frontMemExample [4, 0x11223384F5667788] bytes16 8).1 = .values [0xFFFF84F5] := by decide +kernel

set_option maxRecDepth 8192 in
/-- at address 9 the store of 8 bytes does not fit into 16 bytes: `ExitCodeMemoryOutOfBounds`, the only access is
the read of the length word, and the specification says `oob-memory` -/
example :
    let r := runM noCalls (lowerMem frontMemExample) [0xec, 0x3c00, 9, 1] (embed 0x3c00 0x100000000000 bytes16)
    outTrap r.1 = some codeMemOOB ∧ r.2 = [⟨false, 0x3c10, 4⟩] := by decide +kernel

set_option maxRecDepth 8192 in
example : (runSpecM frontMemExample [9, 1] bytes16 8).1 = .trap "oob-memory" := by decide +kernel

/-- an address ≥ 2^31 with an offset ≥ 2^31: the sum does not wrap, the access traps -/
def frontMemBigExample : FnM :=
  { params := [.i32], results := [.i64]
    locals := []
    body := [.base (.localGet 0), .load .i64Load32U 0x80000000] }

set_option maxRecDepth 8192 in
example : wellTypedM frontMemBigExample = true ∧
    outTrap (runM noCalls (lowerMem frontMemBigExample) [0xec, 0x3c00, 0x80000000] (embed 0x3c00 0x100000000000 bytes16)).1 =
      some codeMemOOB ∧
    (runSpecM frontMemBigExample [0x80000000] bytes16 8).1 = .trap "oob-memory" := by decide +kernel

/-- a load whose result is dropped: the real `RunPasses()` deletes the `Load` (side-effect class none) and keeps the
bounds check; the checker accepts exactly that -/
def frontMemDeadLoad : FnM :=
  { params := [.i32], results := [.i32]
    locals := []
    body := [.base (.localGet 0), .load .i32Load 0, .base .drop, .base (.localGet 0)] }

example : wellTypedM frontMemDeadLoad = true ∧
    formatM frontMemDeadLoad =
      ["blk0: (exec_ctx:i64, module_ctx:i64, v2:i32)", "v3:i64 = Iconst_64 0x4", "v4:i64 = UExtend v2, 32->64",
       "v5:i64 = Uload32 module_ctx, 0x10", "v6:i64 = Iadd v4, v3", "v7:i32 = Icmp lt_u, v5, v6",
       "ExitIfTrue v7, exec_ctx, memory_out_of_bounds", "v8:i64 = Load module_ctx, 0x8", "v9:i64 = Iadd v8, v4",
       "v10:i32 = Load v9, 0x0", "Jump blk_ret, v2"] ∧
    dceOK [] (lowerMem frontMemDeadLoad).instrs
      [.base (.iconst 3 .i64 4), .base (.un .uextend 4 .i64 2), .extload .uload32 5 .i64 1 16,
       .base (.bin .iadd 6 .i64 4 3), .base (.icmp 7 .i64 .ult 5 6), .base (.exitIf 0 7 4), .base (.ret [2])] = true ∧
    -- deleting the check is NOT accepted
    dceOK [] (lowerMem frontMemDeadLoad).instrs [.base (.ret [2])] = false ∧
    optValid (lowerMem frontMemDeadLoad) ⟨(lowerMem frontMemDeadLoad).params, [.base (.ret [2])]⟩ = false ∧
    optValid (lowerMem frontMemDeadLoad) ⟨(lowerMem frontMemDeadLoad).params,
      [.base (.iconst 3 .i64 4), .base (.un .uextend 4 .i64 2), .extload .uload32 5 .i64 1 16,
       .base (.bin .iadd 6 .i64 4 3), .base (.icmp 7 .i64 .ult 5 6), .base (.exitIf 0 7 4), .base (.ret [2])]⟩ = true := by
  decide +kernel

/-- a shift by 32 of an i32 (a no-op) feeding an address: the real passes alias `v4 ↦ v2`, delete the shift and its
constant, and resolve the operand of `UExtend`; the checker accepts that, and rejects the alias for a shift by 31 -/
def frontMemNopShift : FnM :=
  { params := [.i32], results := [.i32]
    locals := []
    body := [.base (.localGet 0), .base (.const .i32 32), .base (.bin .i32 .shl), .load .i32Load8U 0] }

example : wellTypedM frontMemNopShift = true ∧
    formatM frontMemNopShift =
      ["blk0: (exec_ctx:i64, module_ctx:i64, v2:i32)", "v3:i32 = Iconst_32 0x20", "v4:i32 = Ishl v2, v3",
       "v5:i64 = Iconst_64 0x1", "v6:i64 = UExtend v4, 32->64", "v7:i64 = Uload32 module_ctx, 0x10",
       "v8:i64 = Iadd v6, v5", "v9:i32 = Icmp lt_u, v7, v8", "ExitIfTrue v9, exec_ctx, memory_out_of_bounds",
       "v10:i64 = Load module_ctx, 0x8", "v11:i64 = Iadd v10, v6", "v12:i32 = Uload8 v11, 0x0", "Jump blk_ret, v12"] ∧
    optValid (lowerMem frontMemNopShift) ⟨(lowerMem frontMemNopShift).params,
      [.base (.iconst 5 .i64 1), .base (.un .uextend 6 .i64 2), .extload .uload32 7 .i64 1 16,
       .base (.bin .iadd 8 .i64 6 5), .base (.icmp 9 .i64 .ult 7 8), .base (.exitIf 0 9 4),
       .base (.load 10 .i64 1 8), .base (.bin .iadd 11 .i64 10 6), .extload .uload8 12 .i32 11 0, .base (.ret [12])]⟩ = true := by
  decide +kernel

/-- **the hypothesis `size < 2^32` of the embedding is needed (finding F13, known)**: when the module context says
that the memory is 2^32 bytes long, the lowered `i32.load8_u` at address 0 — in bounds for such a memory — exits with
`ExitCodeMemoryOutOfBounds`: the length is read with `Uload32`, which sees 0 -/
theorem frontmem_len_4gib_witness :
    outTrap (runM noCalls (lowerMem { params := [.i32], results := [.i32], locals := [],
                                      body := [.base (.localGet 0), .load .i32Load8U 0] })
      [0xec, 0x3c00, 0] (memStore (memStore [] 0x3c08 0x100000000000 8) 0x3c10 (2 ^ 32) 8)).1 = some codeMemOOB := by
  decide +kernel

example : WellFormedM (lowerMem frontMemExample) := frontmem_wellFormed _ (by decide)

/-- the theorems instantiated on the example, for all arguments -/
example (a v : Nat) (ha : a < 2 ^ 32) (hv : v < 2 ^ 64) (w : World) :
    RefinesM 0x3c00 0x100000000000 (runSpecM frontMemExample [a, v] bytes16 8)
      (runM w (lowerMem frontMemExample) [0xec, 0x3c00, a, v] (embed 0x3c00 0x100000000000 bytes16)).1 ∧
    Confined 0x3c00 0x100000000000 16 (runM w (lowerMem frontMemExample) [0xec, 0x3c00, a, v] (embed 0x3c00 0x100000000000 bytes16)).2 := by
  have hargs : ArgsOK frontMemExample.sig [a, v] :=
    ⟨rfl, List.forall_mem_cons.mpr ⟨ha, List.forall_mem_cons.mpr ⟨hv, fun _ h => nomatch h⟩⟩⟩
  have hemb : Emb 0x3c00 0x100000000000 bytes16 (embed 0x3c00 0x100000000000 bytes16) :=
    frontmem_embedding_exists _ _ _ (.inl (by decide)) (by decide) (by decide) (by decide)
  -- `apply`, not `exact`: elaborating the instance against its expected type would evaluate `RefinesM` on the example
  constructor
  · apply frontmem_refines
    · decide
    · exact hargs
    · exact hemb
    · decide
  · exact frontmem_confined _ (by decide) _ hargs w 0xec _ _ _ _ hemb

end Wz.C01
