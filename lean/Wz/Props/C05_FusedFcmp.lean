import Wz.Proofs.ShapeLookup
/-!
# C05 companion: float equality fused into a conditional branch (amd64)

`f32/f64.eq` and `.ne` have no single x86 condition after `UCOMISS/UCOMISD`: "equal" is `ZF = 1 ∧ PF = 0` (an
unordered comparison - a NaN operand - sets ZF, PF and CF), "not equal" is `ZF = 0 ∨ PF = 1`.  When the comparison
feeds `br_if` / `if` directly, `LowerConditionalBranch` emits two conditional jumps and a label:

    and-form (eq):   jmp¬f1 → notTaken ; jmp f2 → target ; notTaken:
    or-form  (ne):   jmp f1 → target   ; jmp f2 → target ; notTaken:

Model: the flags a `UCOMIS` leaves for the four outcomes of a float comparison, conditions as predicates on flags,
and the execution of a list of conditional jumps and labels (fall through to the end = branch not taken).  For EVERY
outcome of the comparison the and-form with (NP, Z) branches exactly when the operands are equal, the or-form with
(P, NZ) exactly when they are not (`fused_eq_branches_iff_equal`, `fused_ne_branches_iff_not_equal`), and their
`brz` variants (conditions inverted, and/or swapped) exactly in the opposite cases.  With the label between the two
jumps - seeded change C05-6 - the and-form branches on `f2` alone, i.e. also for a NaN operand (witness).  The order
of the three instructions, the jumps of both forms and the flag pairs chosen for Equal / NotEqual are regenerated
shapes of machine.go.
-/

namespace Wz.C05.Fused

/-- outcome of comparing two floats -/
inductive Cmp where | lt | eq | gt | unordered
  deriving DecidableEq, Repr

structure Flags where
  zf : Bool
  pf : Bool
  cf : Bool
  deriving DecidableEq, Repr

/-- flags after UCOMISS / UCOMISD (Intel SDM): unordered 1,1,1; greater 0,0,0; less 0,0,1; equal 1,0,0 -/
def ucomis : Cmp → Flags
  | .unordered => ⟨true, true, true⟩
  | .gt => ⟨false, false, false⟩
  | .lt => ⟨false, false, true⟩
  | .eq => ⟨true, false, false⟩

inductive Cond where | z | nz | p | np
  deriving DecidableEq, Repr

def Cond.holds : Cond → Flags → Bool
  | .z, f => f.zf
  | .nz, f => !f.zf
  | .p, f => f.pf
  | .np, f => !f.pf

def Cond.invert : Cond → Cond
  | .z => .nz | .nz => .z | .p => .np | .np => .p

inductive Item where
  | jmpTarget (c : Cond)   -- conditional jump to the branch target
  | jmpLocal (c : Cond)    -- conditional jump to the local label
  | label                  -- the local label `notTaken`
  deriving DecidableEq, Repr

/-- does control reach the branch target?  `skipping`: a taken local jump is looking for the label -/
def taken (f : Flags) : List Item → Bool → Bool
  | [], _ => false
  | .label :: rest, _ => taken f rest false
  | _ :: rest, true => taken f rest true
  | .jmpTarget c :: rest, false => if c.holds f then true else taken f rest false
  | .jmpLocal c :: rest, false => if c.holds f then taken f rest true else taken f rest false

/-- the and-form as emitted: jmp1, jmp2, notTaken -/
def andForm (f1 f2 : Cond) : List Item := [.jmpLocal f1.invert, .jmpTarget f2, .label]
def orForm (f1 f2 : Cond) : List Item := [.jmpTarget f1, .jmpTarget f2, .label]

theorem Cond.holds_invert (c : Cond) (fl : Flags) : c.invert.holds fl = !c.holds fl := by
  cases c <;> simp [Cond.invert, Cond.holds]

/-- the two forms compute conjunction / disjunction of their conditions, for all flag states -/
theorem andForm_is_and (f1 f2 : Cond) (fl : Flags) :
    taken fl (andForm f1 f2) false = (f1.holds fl && f2.holds fl) := by
  simp only [andForm, taken, Cond.holds_invert]
  cases f1.holds fl <;> cases f2.holds fl <;> rfl

theorem orForm_is_or (f1 f2 : Cond) (fl : Flags) :
    taken fl (orForm f1 f2) false = (f1.holds fl || f2.holds fl) := by
  simp only [orForm, taken]
  cases f1.holds fl <;> cases f2.holds fl <;> rfl

/-- **eq fused into brnz** (flags NP, Z, and-form): the branch is taken iff the operands compare equal -/
theorem fused_eq_branches_iff_equal (o : Cmp) :
    taken (ucomis o) (andForm .np .z) false = decide (o = .eq) := by cases o <;> rfl

/-- **ne fused into brnz** (flags P, NZ, or-form): taken iff not equal - in particular for a NaN operand -/
theorem fused_ne_branches_iff_not_equal (o : Cmp) :
    taken (ucomis o) (orForm .p .nz) false = decide (o ≠ .eq) := by cases o <;> rfl

/-- the `brz` variants: both conditions inverted and the form swapped (as `LowerConditionalBranch` does) -/
theorem fused_eq_brz_branches_iff_not_equal (o : Cmp) :
    taken (ucomis o) (orForm Cond.np.invert Cond.z.invert) false = decide (o ≠ .eq) := by cases o <;> rfl

theorem fused_ne_brz_branches_iff_equal (o : Cmp) :
    taken (ucomis o) (andForm Cond.p.invert Cond.nz.invert) false = decide (o = .eq) := by cases o <;> rfl

/-- the label between the two jumps (seeded change C05-6): `eq` with a NaN operand takes the branch -/
theorem label_between_the_jumps_witness :
    taken (ucomis .unordered) [.jmpLocal Cond.np.invert, .label, .jmpTarget .z] false = true := by decide

/-- the sequence on the source, regenerated: both jumps are inserted before the label; the jumps of the two forms;
the flag pairs of Equal (and-form) and NotEqual (or-form) -/
theorem fused_fcmp_sequence_is_the_modelled_one :
    Wz.Gen.Shapes.get "c05.fcmp_branch_order" =
      some "jmp1 jmp2 notTaken || and: jmp1.asJmpIf(f1.invert(), newOperandLabel(notTakenLabel)) ; jmp2.asJmpIf(f2, newOperandLabel(target)) | or: jmp1.asJmpIf(f1, newOperandLabel(target)) ; jmp2.asJmpIf(f2, newOperandLabel(target))" ∧
    Wz.Gen.Shapes.get "c05.fcmp_eq_ne_flags" =
      some "ssa.FloatCmpCondEqual: f1, f2 = condNP, condZ ; and = true || ssa.FloatCmpCondNotEqual: f1, f2 = condP, condNZ" := by
  shape_lookup

end Wz.C05.Fused
