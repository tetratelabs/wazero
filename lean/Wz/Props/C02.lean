/-
C02 — Guest memory accesses never leave the linear memory.

Property theorems.  Cores 1 and 4 (interpreter) are about definitions REGENERATED from /repo
(`Wz.Gen.InterpAddr`, `Wz.Gen.Memory`); cores 2 (front-end bounds-check elision) and 3 (amd64
address modes) are hand-written models tied to the real code by the harness (hook + end-to-end run).
-/
import Wz.Proofs.C02_Interp
import Wz.Proofs.C02_Amode
import Wz.Proofs.C02_SafeBounds
import Wz.Gen.FrontendReload
import Wz.Gen.BulkPops

namespace Wz.C02
open Wz.Gen.Memory Wz.Gen.InterpAddr Wz.Model.MemAccess

/-! ## Core 1: interpreter effective address -/

/-- FULL STRENGTH.  For every 32-bit dynamic base and static offset (including ≥ 2^31 and sums that
pass 2^32), every width below 2^63 and every memory length: the interpreter's scalar access succeeds
iff `base+off+w ≤ len` over the naturals, and then it addresses exactly `base+off`. -/
theorem interp_access_exact (base off ea : BitVec 32) (w : Nat) (len : BitVec 64) (hw : w < 2^63) :
    access base off w len = some ea ↔
      base.toNat + off.toNat + w ≤ len.toNat ∧ ea.toNat = base.toNat + off.toNat := by
  have hwn : (BitVec.ofNat 64 w).toNat = w := Nat.mod_eq_of_lt (by omega)
  rw [access_eq_some, pop_iff, hasSize_iff _ _ _ (by omega), hwn]
  have := ea.isLt
  omega

/-- The same, against the specification function the oracle prints (memories have at most 2^32 bytes:
65536 pages). -/
theorem interp_access_spec (base off : BitVec 32) (w : Nat) (len : BitVec 64) (hw : w < 2^63)
    (hw0 : 0 < w) (hlen : len.toNat ≤ 2^32) :
    (access base off w len).map (·.toNat) = specAccess base.toNat off.toNat w len.toNat := by
  unfold specAccess
  cases h : access base off w len with
  | some ea =>
    have ⟨h1, h2⟩ := (interp_access_exact base off ea w len hw).mp h
    simp [h1, h2]
  | none =>
    by_cases hc : base.toNat + off.toNat + w ≤ len.toNat
    · -- on a memory of at most 2^32 bytes an access in range has base+off < 2^32, so the interpreter performs it
      have := (interp_access_exact base off (BitVec.ofNat 32 (base.toNat + off.toNat)) w len hw).mpr
        ⟨hc, by simp [BitVec.toNat_ofNat]; omega⟩
      rw [h] at this; cases this
    · simp [hc]

/-- trapping leaves memory unchanged: the model has no state to change on `none`; what the real
code does on that path (`panic` before any write) is checked by the harness (bytes of partially
out-of-range stores are compared). -/
theorem interp_trap_is_total (base off : BitVec 32) (w : Nat) (len : BitVec 64) :
    access base off w len = none ∨ ∃ ea, access base off w len = some ea := by
  cases access base off w len <;> simp

/-- non-vacuity: an access ending exactly at the end of a 65536-page memory succeeds; one byte
further traps; a sum that passes 2^32 traps. (tests) -/
example : access 0xfffffffc#32 0#32 4 0x100000000#64 = some 0xfffffffc#32 := by decide +kernel
example : access 0xfffffffc#32 1#32 4 0x100000000#64 = none := by decide +kernel
example : access 0x80000000#32 0x80000000#32 1 0x100000000#64 = none := by decide +kernel
example : access 0x7fffffff#32 0x80000000#32 1 0x100000000#64 = some 0xffffffff#32 := by decide +kernel

/-! ## Core 1b: 128-bit accesses made of two 8-byte pieces -/

/-- the store order of the two pieces (upper half first) -/
def piecesRev (offset : BitVec 32) : List (BitVec 32) := [offset + 8#32, offset]

/-- TIE (regenerated): what `v128.load`/`v128.store` do on the current tree is one of the modelled
variants.  `rfl` against `Wz.Gen.InterpAddr`: breaks (broken obligation) if the source changes shape. -/
theorem gen_v128_offsets : v128LoadOffsets = pieces ∧ v128StoreOffsets = piecesRev := ⟨rfl, rfl⟩
theorem gen_v128_store_guard : v128StoreGuard = guardRepaired := rfl
theorem gen_v128_load_guard_variant : v128LoadGuard = guardAsIs ∨ v128LoadGuard = guardRepaired := by
  first
    | exact Or.inl rfl
    | exact Or.inr rfl

theorem guardRepaired_iff (ea : BitVec 32) : guardRepaired ea = true ↔ 2^32 ≤ ea.toNat + 8 := by
  have := ea.isLt
  simp only [guardRepaired, BitVec.ult, decide_eq_true_eq, BitVec.toNat_add, BitVec.toNat_setWidth, BitVec.toNat_ofNat]
  omega

/-- the second piece's offset is computed in 32 bits and may wrap -/
theorem pieces_all (offs : BitVec 32 → List (BitVec 32)) (ho : offs = pieces ∨ offs = piecesRev) (ea : BitVec 32)
    (len : BitVec 64) :
    (offs ea).all (fun o => hasSize o 8#64 len) = true ↔
      ea.toNat + 8 ≤ len.toNat ∧ (ea.toNat + 8) % 2^32 + 8 ≤ len.toNat := by
  have h1 := hasSize_iff ea 8#64 len (by decide)
  have h2 := hasSize_iff (ea + 8#32) 8#64 len (by decide)
  rw [BitVec.toNat_add] at h2
  rcases ho with rfl | rfl <;>
    simp only [pieces, piecesRev, List.all_cons, List.all_nil, Bool.and_true, Bool.and_eq_true, h1, h2, and_comm,
      BitVec.toNat_ofNat, Nat.reducePow, Nat.reduceMod]

/-- FULL STRENGTH (repaired variant = v128.store today, v128.load after the fix): with the overflow
guard, a 128-bit access succeeds iff `base+off+16 ≤ len`, for every memory length up to 2^32 bytes
(65536 pages). -/
theorem v128_exact_repaired (base off ea : BitVec 32) (len : BitVec 64) (offs : BitVec 32 → List (BitVec 32))
    (ho : offs = pieces ∨ offs = piecesRev) (hlen : len.toNat ≤ 2^32) :
    multi guardRepaired offs base off len = some ea ↔
      base.toNat + off.toNat + 16 ≤ len.toNat ∧ ea.toNat = base.toNat + off.toNat := by
  rw [multi_eq_some, pop_iff, pieces_all offs ho, ← Bool.not_eq_true, guardRepaired_iff]
  omega

/-- v128.store on the current tree (regenerated guard and offsets): exact. -/
theorem interp_v128_store_exact (base off ea : BitVec 32) (len : BitVec 64) (hlen : len.toNat ≤ 2^32) :
    v128Store base off len = some ea ↔
      base.toNat + off.toNat + 16 ≤ len.toNat ∧ ea.toNat = base.toNat + off.toNat := by
  unfold v128Store
  rw [gen_v128_store_guard, gen_v128_offsets.2]
  exact v128_exact_repaired base off ea len piecesRev (Or.inr rfl) hlen

/-- v128.store never writes one half only: if the first write (upper half) is in range, so is the
second — "a trapping access leaves memory unchanged". -/
theorem interp_v128_store_no_partial_write (ea : BitVec 32) (len : BitVec 64)
    (hg : v128StoreGuard ea = false) (h1 : hasSize (ea + 8#32) 8#64 len = true) :
    hasSize ea 8#64 len = true := by
  rw [gen_v128_store_guard, ← Bool.not_eq_true, guardRepaired_iff] at hg
  rw [hasSize_iff _ _ _ (by decide)] at h1 ⊢
  rw [BitVec.toNat_add, BitVec.toNat_ofNat] at h1
  omega

/-- PARTIAL (as-is variant of v128.load: no overflow guard).  Exact for every memory of fewer than
65536 pages.  FULL statement (fails on the pinned tree, see the witness): the same with
`len.toNat ≤ 2^32`. -/
theorem interp_v128_load_asis_partial (base off ea : BitVec 32) (len : BitVec 64) (hlen : len.toNat < 2^32) :
    multi guardAsIs pieces base off len = some ea ↔
      base.toNat + off.toNat + 16 ≤ len.toNat ∧ ea.toNat = base.toNat + off.toNat := by
  rw [multi_eq_some, pop_iff, pieces_all pieces (.inl rfl)]
  simp only [guardAsIs, true_and]
  omega

/-- WITNESS (finding C02a, as-is variant): on a 65536-page memory `v128.load` at 0xfffffff8 does not
trap although 0xfffffff8+16 > 2^32; its upper half is read from address 0 (offset+8 wraps in uint32). -/
theorem interp_v128_load_wrap_witness :
    multi guardAsIs pieces 0xfffffff8#32 0#32 0x100000000#64 = some 0xfffffff8#32 ∧
    ¬ (0xfffffff8 + 0 + 16 ≤ (0x100000000#64).toNat) ∧
    multiBytes pieces 0xfffffff8#32 =
      [4294967288, 4294967289, 4294967290, 4294967291, 4294967292, 4294967293, 4294967294, 4294967295,
       0, 1, 2, 3, 4, 5, 6, 7] := by decide +kernel

/-- The repaired variant traps there. (test of the switch) -/
example : multi guardRepaired pieces 0xfffffff8#32 0#32 0x100000000#64 = none := by decide +kernel

/-- v128.load on the CURRENT tree (regenerated): exact below 65536 pages whichever variant the tree is;
exact up to 65536 pages when the tree is the repaired variant. -/
theorem interp_v128_load_current_partial (base off ea : BitVec 32) (len : BitVec 64) (hlen : len.toNat < 2^32) :
    v128Load base off len = some ea ↔
      base.toNat + off.toNat + 16 ≤ len.toNat ∧ ea.toNat = base.toNat + off.toNat := by
  unfold v128Load
  rw [gen_v128_offsets.1]
  rcases gen_v128_load_guard_variant with h | h <;> rw [h]
  · exact interp_v128_load_asis_partial base off ea len hlen
  · exact v128_exact_repaired base off ea len pieces (Or.inl rfl) (by omega)

/-! ## Core 4: bulk operations -/

/-- FULL STRENGTH: memory.copy traps iff source or destination range leaves the memory (ℕ arithmetic;
all 32-bit operand values, every length below 2^63). -/
theorem bulk_copy_exact (n src dst : BitVec 32) (len : BitVec 64) :
    copyTraps n src dst len = true ↔
      len.toNat < src.toNat + n.toNat ∨ len.toNat < dst.toNat + n.toNat := by
  simp only [copyTraps, memoryCopyTraps, BitVec.ult, Bool.or_eq_true, decide_eq_true_eq, toNat_add_zext]

theorem bulk_fill_exact (n val dst : BitVec 32) (len : BitVec 64) :
    fillTraps n val dst len = true ↔ len.toNat < dst.toNat + n.toNat := by
  simp only [fillTraps, memoryFillTraps, BitVec.ult, decide_eq_true_eq, toNat_add_zext, Nat.add_comm n.toNat]

theorem bulk_init_exact (n src dst : BitVec 32) (len dataLen : BitVec 64) :
    initTraps n src dst len dataLen = true ↔
      dataLen.toNat < src.toNat + n.toNat ∨ len.toNat < dst.toNat + n.toNat := by
  simp only [initTraps, memoryInitTraps, BitVec.ult, Bool.or_eq_true, decide_eq_true_eq, toNat_add_zext]

/-- Summary name used in DESIGN.md. -/
theorem bulk_range_exact (n src dst : BitVec 32) (len dataLen : BitVec 64) :
    (copyTraps n src dst len = true ↔ len.toNat < src.toNat + n.toNat ∨ len.toNat < dst.toNat + n.toNat) ∧
    (fillTraps n src dst len = true ↔ len.toNat < dst.toNat + n.toNat) ∧
    (initTraps n src dst len dataLen = true ↔ dataLen.toNat < src.toNat + n.toNat ∨ len.toNat < dst.toNat + n.toNat) :=
  ⟨bulk_copy_exact n src dst len, bulk_fill_exact n src dst len, bulk_init_exact n src dst len dataLen⟩

example : copyTraps 0xffffffff#32 1#32 0#32 0x100000000#64 = false := by decide +kernel  -- (test) ends exactly at 2^32
example : copyTraps 0xffffffff#32 2#32 0#32 0x100000000#64 = true := by decide +kernel   -- (test)

/-! ## Core 3: amd64 address-mode folding -/

open Wz.Model.Amode in
/-- FULL STRENGTH for the REPAIRED variant (`fixed = true`: the tree after swapping the two constant
cases in `lowerAddendFromInstr`): for every pointer expression of the shapes the front end emits,
every static offset in [0,2^32) (including ≥ 2^31), every constant (including ≥ 2^31) and every
content of the 64-bit registers (32-bit values zero-extended in their registers), the lowering does not
panic and the amode it returns evaluates — with x86-64's sign-extended disp32 — to
`pointer + zeroExtend offset`. -/
theorem amode_correct (p : Ptr) (offBase : BitVec 32) (ρ : Nat → BitVec 64)
    (hs : p.frontendShape = true) (hc : p.clean ρ) :
    ∃ am, lowerToAddressMode true p offBase = some am ∧
      am.eval ρ = p.eval ρ + offBase.setWidth 64 := by
  by_cases hm : offBase.msb = true
  · -- huge static offset: everything goes through one temporary
    cases p with
    | single e =>
      have ⟨hv, hok, _⟩ := lowerAddend_val ρ e hs hc
      simp only [lowerToAddressMode, hm, if_true, Ptr.eval, ← hv]
      generalize lowerAddend true e = a at hok ⊢
      cases hok with
      | reg r k =>
        refine ⟨_, rfl, ?_⟩
        simp [Amode.eval, Reg.val, addendVal]
        ac_rfl
      | const c =>
        refine ⟨_, rfl, ?_⟩
        simp [Amode.eval, Reg.val, addendVal]
    | add a b self =>
      simp only [Ptr.clean] at hc
      refine ⟨_, by simp [lowerToAddressMode, hm]; rfl, ?_⟩
      simp [Amode.eval, Reg.val, Ptr.eval, hc.2.2]
      ac_rfl
  · have hm' : offBase.msb = false := by simpa using hm
    cases p with
    | single e =>
      have ⟨hv, hok, _⟩ := lowerAddend_val ρ e hs hc
      have hse : offBase.signExtend 64 = offBase.setWidth 64 := BitVec.signExtend_eq_setWidth_of_msb_false hm'
      simp only [lowerToAddressMode, hm', Bool.false_eq_true, if_false, Ptr.eval, ← hv]
      generalize lowerAddend true e = a at hok ⊢
      cases hok with
      | reg r k =>
        by_cases h0 : k = 0 <;>
          refine ⟨_, by simp [h0]; rfl, ?_⟩ <;>
          simp [Amode.eval, Reg.val, addendVal, hse, h0] <;>
          ac_rfl
      | const c =>
        refine ⟨_, rfl, ?_⟩
        simp [Amode.eval, Reg.val, addendVal]
    | add a b self =>
      simp only [Ptr.frontendShape, Bool.and_eq_true, Bool.not_eq_true', Bool.and_eq_false_iff] at hs
      simp only [Ptr.clean] at hc
      have ⟨hva, hoka, hsa⟩ := lowerAddend_val ρ a hs.1.1 hc.1
      have ⟨hvb, hokb, hsb⟩ := lowerAddend_val ρ b hs.1.2 hc.2.1
      have hsh : ¬ ((lowerAddend true a).shift ≠ 0 ∧ (lowerAddend true b).shift ≠ 0) := by
        intro ⟨h1, h2⟩
        have := hsa h1; have := hsb h2
        rcases hs.2 with h | h <;> simp_all
      have ⟨am, h1, h2⟩ := lowerAddendsToAmode_val ρ _ _ offBase hoka hokb hm' hsh
      refine ⟨am, by simp [lowerToAddressMode, hm', h1], ?_⟩
      rw [h2, hva, hvb]; rfl

open Wz.Model.Amode in
/-- non-vacuity: `memBase + UExtend(Iconst32 0x80000000)` with a huge offset meets the hypotheses. -/
example : (Ptr.add (.r64 1) (.uext (.c32 0x80000000#32)) 9).frontendShape = true ∧
    (Ptr.add (.r64 1) (.uext (.c32 0x80000000#32)) 9).clean (fun r => if r = 9 then 0x80000000#64 else 0#64) := by
  refine ⟨by decide, trivial, trivial, by decide⟩

open Wz.Model.Amode in
/-- WITNESS (finding F1, as-is variant `fixed = false` = the pinned tree): for
`Iadd(memBase, UExtend(Iconst32 0x8000_0000))`, offset 0, memBase = 0x1_0000_0000_0000 the amode evaluates
2 GiB BELOW memBase instead of 2 GiB above it. -/
theorem amode_bug_witness :
    let p := Ptr.add (.r64 1) (.uext (.c32 0x80000000#32)) 9
    let ρ : Nat → BitVec 64 := fun r => if r = 1 then 0x1000000000000#64 else 0#64
    (lowerToAddressMode false p 0#32).map (·.eval ρ) = some 0xffff80000000#64 ∧
    p.eval ρ + (0#32).setWidth 64 = 0x1000080000000#64 ∧
    (lowerToAddressMode true p 0#32).map (·.eval ρ) = some 0x1000080000000#64 := by decide

open Wz.Model.Amode in
/-- extend-of-constant operands whose top bit is clear (sign- and zero-extension coincide) -/
def extConstSmall : AExpr → Bool
  | .uext (.c32 c) => !c.msb
  | .sext (.c32 c) => !c.msb
  | _ => true

open Wz.Model.Amode in
def ptrExtConstSmall : Ptr → Bool
  | .single a => extConstSmall a
  | .add a b _ => extConstSmall a && extConstSmall b

open Wz.Model.Amode in
private theorem lowerAddend_asis_eq (e : AExpr) (h : extConstSmall e = true) :
    lowerAddend false e = lowerAddend true e := by
  cases e with
  | uext x | sext x =>
    cases x with
    | r32 r => rfl
    | c32 c =>
      -- the two variants swap sign- and zero-extension of the constant: the same for a clear top bit
      simp only [extConstSmall, Bool.not_eq_true'] at h
      simp [lowerAddend, lowerAddendFromInstr, BitVec.signExtend_eq_setWidth_of_msb_false h]
  | r64 r => rfl
  | k64 c m => cases m <;> rfl
  | k32 c m => cases m <;> rfl
  | shl x a => cases a <;> rfl

open Wz.Model.Amode in
/-- PARTIAL (as-is variant = the pinned tree): correct whenever no constant under an extend has its
top bit set.  FULL statement = `amode_correct` with `fixed = false`; it fails: `amode_bug_witness`. -/
theorem amode_correct_asis_partial (p : Ptr) (offBase : BitVec 32) (ρ : Nat → BitVec 64)
    (hs : p.frontendShape = true) (hc : p.clean ρ) (hk : ptrExtConstSmall p = true) :
    ∃ am, lowerToAddressMode false p offBase = some am ∧
      am.eval ρ = p.eval ρ + offBase.setWidth 64 := by
  have : lowerToAddressMode false p offBase = lowerToAddressMode true p offBase := by
    cases p with
    | single a =>
      simp only [ptrExtConstSmall] at hk
      simp [lowerToAddressMode, lowerAddend_asis_eq a hk]
    | add a b self =>
      simp only [ptrExtConstSmall, Bool.and_eq_true] at hk
      simp [lowerToAddressMode, lowerAddend_asis_eq a hk.1, lowerAddend_asis_eq b hk.2]
  rw [this]
  exact amode_correct p offBase ρ hs hc

open Wz.Model.Amode in
/-- The shape hypothesis is needed (and is what the Go code silently assumes): a matched `Ishl` by a
constant > 3 is dropped by `lowerAddendFromInstr` (the register of its operand is used unshifted). -/
theorem amode_shape_needed_witness :
    let p := Ptr.add (.r64 1) (.shl (.xr 2) (.ac 4#64)) 9
    let ρ : Nat → BitVec 64 := fun r => if r = 2 then 1#64 else 0#64
    (lowerToAddressMode true p 0#32).map (·.eval ρ) = some 1#64 ∧ p.eval ρ = 16#64 := by decide

/-! ## Core 2: front-end bounds-check elision (known safe bounds) -/

open Wz.Model.SafeBounds in
/-- FULL STRENGTH (about the model).  For EVERY op list along a path (accesses, calls/grows that may
move and enlarge the memory arbitrarily, block entries with arbitrary end states of the other
predecessors, loop back edges), every valuation of the SSA values and every start memory: every access
that is performed (checked or elided) satisfies `val v + off + size ≤ len_now` and uses the host
address `base_now + val v`.  `run = some _` only excludes ill-formed paths (a memory that shrinks, a
loop-back target that carries absolute addresses: loop headers are unsealed when first entered). -/
theorem frontend_elision_sound (val : Nat → Nat) (ops : List Op) (base len : Nat) (evs : List Ev)
    (h : run val ops (init base len) = some evs) :
    ∀ ev ∈ evs, ∀ addr v ceil base' len' chk, ev = Ev.ok addr v ceil base' len' chk →
      val v + ceil ≤ len' ∧ addr = base' + val v :=
  run_sound val ops (init base len) evs ⟨rfl, rfl, nofun⟩ nofun h

open Wz.Model.SafeBounds in
/-- non-vacuity (test): a path with an elided check, a call that moves and grows the memory, a block
merge that lowers the bound, and a loop back edge is well-formed, and the elision really happens
(`false` = no check emitted) and the re-derived address follows the moved base. -/
example :
    run (fun _ => 5) [.access 0 0 8, .access 0 4 4, .call 7000 131072, .access 0 0 8,
        .enterBlock [[⟨0, 4, none⟩]] true, .access 0 0 8, .enterBlock [] false, .access 0 0 4, .loopBack 6, .access 0 0 8]
      (init 1000 65536) =
    some [.ok 1005 0 8 1000 65536 true, .ok 1005 0 8 1000 65536 false, .ok 7005 0 8 7000 131072 false,
          .ok 7005 0 8 7000 131072 true, .ok 7005 0 4 7000 131072 false, .ok 7005 0 8 7000 131072 false] := by decide +kernel

open Wz.Model.SafeBounds in
/-- (test) an out-of-range access traps and ends the path. -/
example : run (fun _ => 65533) [.access 0 0 4] (init 1000 65536) = some [.trap 0 4] := by decide +kernel


/-! ### what the `call` step of `Wz.Model.SafeBounds` assumes about the front end (regenerated) -/

/-- **Regenerated obligation** (frontend/lower.go).  The model's `.call` step re-reads BOTH SSA variables
(memory base and length) and drops the cached absolute addresses.  The code does that after every call form:
`reloadAfterCall` is invoked by all four call lowerings and calls `reloadMemoryBaseLen` unless the memory is
shared; `reloadMemoryBaseLen` forces both reloads and resets the addresses, in this order; `memory.grow`
reloads directly; and the only other way to skip a reload of the length is the shared-memory case, in which the
length is never answered from the cache at all. -/
theorem frontend_reload_shape :
    Wz.Gen.FrontendReload.reloadGuard = "c.needMemory && !c.memoryShared" ∧
    Wz.Gen.FrontendReload.reloadStatements =
      ["c.getMemoryBaseValue(true)", "c.getMemoryLenValue(true)", "c.resetAbsoluteAddressInSafeBounds()"] ∧
    Wz.Gen.FrontendReload.baseCacheGuard = "!forceReload" ∧
    Wz.Gen.FrontendReload.lenCacheGuard = "!forceReload && !c.memoryShared" ∧
    Wz.Gen.FrontendReload.reloadAfterCallCallers =
      ["lowerCall", "lowerCallIndirect", "lowerTailCallReturnCall", "lowerTailCallReturnCallIndirect"] ∧
    Wz.Gen.FrontendReload.reloadDirectCallers = ["lowerCurrentOpcode"] :=
  ⟨rfl, rfl, rfl, rfl, rfl, rfl⟩


/-! ### the compiler's range checks of bulk instructions happen in 64 bits -/

/-- On zero-extended operands the 64-bit comparison `len < offset + size` is the exact range check: the sum of
two 32-bit values cannot wrap around in 64 bits (all operands, all lengths). -/
theorem bulk_range_check_64_exact (d n : BitVec 32) (len : BitVec 64) :
    (len < d.setWidth 64 + n.setWidth 64) ↔ len.toNat < d.toNat + n.toNat := by
  rw [BitVec.lt_def, toNat_add_zext]

/-- Adding first and extending afterwards is NOT a range check: `0xfffffff0 + 32` wraps to 16, which is inside
a one-page memory (the shape of a seeded change to the lowering of `memory.init`). -/
theorem bulk_range_check_32_wraps_witness :
    ((0xfffffff0#32 + 32#32).setWidth 64 ≤ 65536#64) ∧
    ¬ ((0xfffffff0#32).setWidth 64 + (32#32).setWidth 64 ≤ 65536#64) := by decide

/-- **Regenerated obligation** (frontend/lower.go): in the lowering of memory.init/copy/fill and
table.init/copy/fill every i32 operand that takes part in range arithmetic is zero-extended to 64 bits first
(directly or through a variable); no raw 32-bit operand is added, shifted or compared.  (The third operand of the
two fill instructions is the value to store.) -/
theorem compiler_bulk_operands_extended :
    Wz.Gen.BulkPops.table =
      [("OpcodeMiscMemoryInit", 3, 3, 0), ("OpcodeMiscMemoryCopy", 3, 3, 0), ("OpcodeMiscMemoryFill", 3, 2, 0),
       ("OpcodeMiscTableInit", 3, 3, 0), ("OpcodeMiscTableCopy", 3, 3, 0), ("OpcodeMiscTableFill", 3, 2, 0)] := rfl

end Wz.C02
