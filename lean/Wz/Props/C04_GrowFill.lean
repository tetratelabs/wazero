import Wz.Proofs.ShapeLookup
/-!
# C04 companion: table.grow fills the WHOLE new region, for every delta

`TableInstance.Grow` - the one Go helper behind `table.grow` on both engines and the only place where the reference
slice shared by the exporter and the importers of a table is extended - fills the `n` new slots with the initial
reference by the copy-doubling trick: seed slot 0, then `for i := 1; i < n; i *= 2 { copy(new[i:], new[:i]) }`.
`copy` moves `min(len dst, len src)` elements, so the last round copies a partial chunk.  `grow_fill_all`: for EVERY
`n ≥ 1` and every previous content, all `n` slots hold the initial reference afterwards (`grow_fill_frame`: nothing at
or beyond `n` is written).  The tidy-looking variant that copies exact doubling chunks (`for i := 1; 2i ≤ n; i *= 2
{ copy(new[i:2i], new[:i]) }`) stops at the largest power of two: `exact_chunks_leave_tail_witness` (n = 3, seeded change
C04-9).  The seeding assignment and the loop are a regenerated shape.
-/

namespace Wz.C04

/-- `copy(new[i:], new[:i])` on a region of `n` slots: `min (n-i) i` elements move -/
def copyStep (n i : Nat) (f : Nat → α) : Nat → α :=
  fun j => if i ≤ j ∧ j < n ∧ j - i < i then f (j - i) else f j

/-- `for i := 1; i < n; i *= 2 { copy(new[i:], new[:i]) }` (the fuel is the loop's own bound: see `fillLoop_all`) -/
def fillLoop (n : Nat) : Nat → Nat → (Nat → α) → (Nat → α)
  | 0, _, f => f
  | fuel + 1, i, f => if i < n then fillLoop n fuel (2 * i) (copyStep n i f) else f

/-- the new region after `Grow(n, v)`: slot 0 seeded, then the loop -/
def growFill (n : Nat) (v : α) (old : Nat → α) : Nat → α :=
  fillLoop n n 1 (fun j => if j = 0 then v else old j)

theorem fillLoop_all (n : Nat) (v : α) : ∀ (fuel i : Nat) (f : Nat → α), 1 ≤ i → n < fuel + i →
    (∀ j, j < i → j < n → f j = v) → ∀ j, j < n → fillLoop n fuel i f j = v := by
  intro fuel
  induction fuel with
  | zero =>
    intro i f _ hfi hinv j hj
    simp only [fillLoop]
    exact hinv j (by omega) hj
  | succ fuel ih =>
    intro i f hi hfi hinv j hj
    simp only [fillLoop]
    by_cases hlt : i < n
    · rw [if_pos hlt]
      apply ih (2 * i) (copyStep n i f) (by omega) (by omega) _ j hj
      intro k hk2 hkn
      unfold copyStep
      by_cases hik : i ≤ k
      · rw [if_pos ⟨hik, hkn, by omega⟩]
        exact hinv (k - i) (by omega) (by omega)
      · rw [if_neg (fun h => hik h.1)]
        exact hinv k (by omega) hkn
    · rw [if_neg hlt]
      exact hinv j (by omega) hj

/-- every one of the `n` new slots holds the initial reference, for every `n` and every previous content -/
theorem grow_fill_all (n : Nat) (v : α) (old : Nat → α) (j : Nat) (hj : j < n) : growFill n v old j = v := by
  unfold growFill
  apply fillLoop_all n v n 1 _ (by omega) (by omega) _ j hj
  intro k hk _
  have : k = 0 := by omega
  simp [this]

theorem copyStep_frame (n i : Nat) (f : Nat → α) (j : Nat) (hj : n ≤ j) : copyStep n i f j = f j := by
  unfold copyStep
  rw [if_neg (fun h => by omega)]

theorem fillLoop_frame (n : Nat) : ∀ (fuel i : Nat) (f : Nat → α) (j : Nat), n ≤ j → fillLoop n fuel i f j = f j := by
  intro fuel
  induction fuel with
  | zero => intro i f j _; rfl
  | succ fuel ih =>
    intro i f j hj
    simp only [fillLoop]
    split
    · rw [ih _ _ j hj, copyStep_frame n i f j hj]
    · rfl

/-- nothing at or beyond the new region is written -/
theorem grow_fill_frame (n : Nat) (v : α) (old : Nat → α) (j : Nat) (hj : n ≤ j) (h0 : j ≠ 0) : growFill n v old j = old j := by
  unfold growFill
  rw [fillLoop_frame n n 1 _ j hj]
  simp [h0]

/-- the variant with exact doubling chunks: `for i := 1; 2i ≤ n; i *= 2 { copy(new[i:2i], new[:i]) }` -/
def exactLoop (n : Nat) : Nat → Nat → (Nat → α) → (Nat → α)
  | 0, _, f => f
  | fuel + 1, i, f =>
    if 2 * i ≤ n then exactLoop n fuel (2 * i) (fun j => if i ≤ j ∧ j < 2 * i then f (j - i) else f j) else f

theorem exact_chunks_leave_tail_witness :
    exactLoop 3 3 1 (fun j => if j = 0 then 42 else 0) 2 = 0 ∧ growFill 3 42 (fun _ => 0) 2 = 42 := by decide

theorem table_grow_fill_shape :
    Wz.Gen.Shapes.get "c04.table_grow_fill" =
      some "newRegion[0] = initialRef ;; for i := 1; i < len(newRegion); i *= 2 { copy(newRegion[i:], newRegion[:i]) }" := by
  shape_lookup

end Wz.C04
