import Wz.Proofs.ShapeLookup
/-!
# C07 companion: every call watches its own context

"Every in-flight call returns promptly once ITS context is cancelled or its deadline passes": calls nest (a host
function calls back into the guest, possibly with a context of its own).  The engines start the goroutine that closes
the module on a done context per CALL (`CloseModuleOnCanceledOrTimeout(ctx)` in `callWithStack` / `callEngine.call`),
under the condition `ensureTermination` and nothing else.  Model: the stack of calls in flight, each with its context
and whether a watcher was started for it; the module is closed as soon as a watched call's context is done.  With a
watcher per call, any done context of any call in flight closes the module (`watched_calls_close`); watching only
the outermost call does not (`outermost_only_witness`: the seeded change C07-6).  The condition under which a call
starts its watcher is a regenerated shape of both engines (`every_call_with_termination_watches_its_context`).
-/

namespace Wz.C07

structure InFlight where
  ctx : Nat
  watched : Bool
  deriving DecidableEq, Repr

/-- the module gets closed: some call in flight is watched and its context is done -/
def closesModule (stack : List InFlight) (done : Nat → Bool) : Bool :=
  stack.any fun c => c.watched && done c.ctx

/-- **a watcher per call**: whichever call's context is done, the module is closed -/
theorem watched_calls_close (stack : List InFlight) (done : Nat → Bool)
    (hall : ∀ c ∈ stack, c.watched = true) (c : InFlight) (hc : c ∈ stack) (hd : done c.ctx = true) :
    closesModule stack done = true := by
  unfold closesModule
  rw [List.any_eq_true]
  exact ⟨c, hc, by simp [hall c hc, hd]⟩

/-- watching only the first call in flight on the module misses the context of a nested call -/
theorem outermost_only_witness :
    closesModule [⟨0, true⟩, ⟨1, false⟩] (fun k => k == 1) = false := by decide

/-- non-vacuity: outer call under context 0, inner call (from a host callback) under context 1, both watched -/
example : closesModule [⟨0, true⟩, ⟨1, true⟩] (fun k => k == 1) = true := by decide

/-- the rule on the source, regenerated: in both engines the watcher of a call is started under the condition
`ensureTermination` alone (no "first call in flight", no "context differs from the parent's") -/
theorem every_call_with_termination_watches_its_context :
    Wz.Gen.Shapes.get "c07.watch_cond_compiler" = some "ensureTermination" ∧
    Wz.Gen.Shapes.get "c07.watch_cond_interp" = some "ce.f.parent.ensureTermination" := by
  shape_lookup

/-! ## noticing the close: the whole closed word, for both modules

`Closed` holds `flag ||| exitCode <<< 32` (flag 1 or 2).  "Closed with exit code 0" and "never closed" differ only in
the flag bits, so running code must test the WHOLE word (`closed_after` in Props/C07.lean proves the word non-zero for
every cause and code, 0 included); a test of the exit-code half alone misses a plain `Close()` (witness, seeded change
C07-7).  The interpreter's exit-code check looks at the module of the running frame AND at the module the call was made
on (they differ when the loop sits in an imported function); both through `FailIfClosed`. -/

/-- the closed word -/
def closedWord (flag code : Nat) : Nat := flag + code * 2 ^ 32

theorem closed_word_nonzero (flag code : Nat) (hf : 0 < flag) : closedWord flag code ≠ 0 := by
  unfold closedWord; omega

theorem closed_word_code (flag code : Nat) (hf : flag < 2 ^ 32) : closedWord flag code / 2 ^ 32 = code := by
  unfold closedWord; omega

/-- looking at the exit-code half only: `Close()` (exit code 0) is invisible -/
theorem exit_code_half_misses_plain_close_witness : closedWord 1 0 ≠ 0 ∧ closedWord 1 0 / 2 ^ 32 = 0 := by decide

/-- the tests on the source, regenerated -/
theorem closed_is_noticed_on_the_whole_word_for_both_modules :
    Wz.Gen.Shapes.get "c07.closed_test" =
      some "FailIfClosed: closed := m.Closed.Load(); closed != 0 ;; interpreter check: err := m.FailIfClosed(); err != nil | cm := ce.f.moduleInstance; cm != m | err := cm.FailIfClosed(); err != nil" := by
  shape_lookup

end Wz.C07
