import Wz.Proofs.ShapeLookup
/-!
# C11 companion: a host module's identity is the identity of its compilation

Engines key compiled modules by `Module.ID`; the interpreter keeps the Go functions of a host module inside the
compiled entry.  Two host modules built from closures of one function literal agree on name, export names, signatures
and code address and differ only in the state they captured - so an ID derived from those would make the second
module run the first one's closures (seeded change C11-6).  The ID must separate every two live host modules; the code
derives it from the address of the freshly allocated `*wasm.Module`.

Model: a host module = (what two modules of one helper have in common, the state it captured, its address).
`id_of_address_separates`: IDs that are an injective function of the address separate all modules with distinct
addresses.  `id_of_common_part_collides_witness`: IDs computed from the common part identify two modules with
different state.  The source's choice is a regenerated shape (`host_module_id_is_the_fresh_modules_address`).
-/

namespace Wz.C11

structure HostMod where
  common : Nat   -- name, export names, signatures, code addresses of the closures
  state : Nat    -- what the closures captured
  addr : Nat     -- address of the *wasm.Module allocated by this compilation
  deriving DecidableEq, Repr

theorem id_of_address_separates (f : Nat → Nat) (hf : ∀ a b, f a = f b → a = b)
    (m₁ m₂ : HostMod) (hne : m₁.addr ≠ m₂.addr) : f m₁.addr ≠ f m₂.addr :=
  fun h => hne (hf _ _ h)

theorem id_of_common_part_collides_witness :
    ∃ m₁ m₂ : HostMod, m₁.state ≠ m₂.state ∧ m₁.addr ≠ m₂.addr ∧ (fun m : HostMod => m.common) m₁ = (fun m : HostMod => m.common) m₂ :=
  ⟨⟨7, 1, 100⟩, ⟨7, 2, 200⟩, by decide, by decide, rfl⟩

/-- the rule on the source, regenerated: `NewHostModule` derives the ID from `%p` of the module it just allocated -/
theorem host_module_id_is_the_fresh_modules_address :
    Wz.Gen.Shapes.get "c11.host_module_id" = some "[]byte(fmt.Sprintf(\"@@@@@@@@%p\", m))" := by
  shape_lookup

end Wz.C11
