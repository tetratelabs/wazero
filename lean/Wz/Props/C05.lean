/-
C05 — Numeric instructions compute the specified function.

Part 1 (this file, full strength, all operand values): the interpreter's integer instructions.
The definitions `Wz.Gen.InterpNum.*` are REGENERATED on every run from the `case operationKind…`
bodies of internal/engine/interpreter/interpreter.go; each theorem says that, on canonical operand
slots (i32 values zero-extended to 64 bits — the engine's invariant, see `*_canonical` below), the
operation pushes exactly the value the specification (`Wz.Spec.Int`) defines, traps exactly when the
specification traps, and never raises a Go run-time panic.

Floating-point and v128 instructions are not proved here: for them the Lean specification
(`Wz.Spec.Float`, `Wz.Spec.Num`) is the oracle of the differential run (tie B) — see DESIGN.md.
-/
import Wz.Proofs.C05_int
import Wz.Model.ConstPool
import Wz.Gen.ConstPool

namespace Wz.C05
open Wz.Gen.InterpNum Wz.Spec Wz.Go

/-- the canonical 64-bit slot of an i32 value -/
def z (a : BitVec 32) : BitVec 64 := a.setWidth 64

theorem z_setWidth (a : BitVec 32) {k : Nat} (h : k ≤ 64) : (z a).setWidth k = a.setWidth k :=
  BitVec.setWidth_setWidth_of_le a h

@[simp] theorem z_trunc (a : BitVec 32) : (z a).setWidth 32 = a := by
  rw [z_setWidth a (by decide), BitVec.setWidth_eq]

theorem z_toNat (a : BitVec 32) : (z a).toNat = a.toNat := BitVec.toNat_setWidth_of_le (by decide)

theorem z_inj (a b : BitVec 32) : (z a == z b) = (a == b) :=
  decide_eq_decide.mpr ⟨fun h => by rw [← z_trunc a, h, z_trunc], congrArg z⟩

theorem z_zero_iff (a : BitVec 32) : (z a == 0#64) = (a == 0#32) := z_inj a 0#32

theorem z_ne_zero (b : BitVec 32) (h : b ≠ 0#32) : (z b == 0#64) = false := by
  rw [z_zero_iff]; exact beq_false_of_ne h

theorem z_ult (a b : BitVec 32) : (z a).ult (z b) = a.ult b := by simp only [BitVec.ult, z_toNat]
theorem z_ule (a b : BitVec 32) : (z a).ule (z b) = a.ule b := by simp only [BitVec.ule, z_toNat]

theorem z_ofNat (k : Nat) (h : k < 2 ^ 32) : z (BitVec.ofNat 32 k) = BitVec.ofNat 64 k := by
  apply BitVec.eq_of_toNat_eq
  rw [z_toNat, BitVec.toNat_ofNat, BitVec.toNat_ofNat, Nat.mod_eq_of_lt h, Nat.mod_eq_of_lt (by omega)]

theorem i32_add_eq (a b : BitVec 32) : i32_add (z b) (z a) = .ok [z (Int.iadd a b)] := by
  simp only [i32_add, z_trunc]; rfl
theorem i64_add_eq (a b : BitVec 64) : i64_add b a = .ok [Int.iadd a b] := rfl
theorem i32_sub_eq (a b : BitVec 32) : i32_sub (z b) (z a) = .ok [z (Int.isub a b)] := by
  simp only [i32_sub, z_trunc]; rfl
theorem i64_sub_eq (a b : BitVec 64) : i64_sub b a = .ok [Int.isub a b] := rfl
theorem i32_mul_eq (a b : BitVec 32) : i32_mul (z b) (z a) = .ok [z (Int.imul a b)] := by
  simp only [i32_mul, z_trunc]; rfl
theorem i64_mul_eq (a b : BitVec 64) : i64_mul b a = .ok [Int.imul a b] := rfl

/-! ### bitwise, shifts, rotates: counts are taken modulo the width -/

theorem i32_and_eq (a b : BitVec 32) : i32_and (z b) (z a) = .ok [z (Int.iand a b)] := by
  simp only [i32_and, z_trunc, BitVec.and_comm b a]; rfl
theorem i64_and_eq (a b : BitVec 64) : i64_and b a = .ok [Int.iand a b] := by
  simp only [i64_and, BitVec.and_comm b a]; rfl
theorem i32_or_eq (a b : BitVec 32) : i32_or (z b) (z a) = .ok [z (Int.ior a b)] := by
  simp only [i32_or, z_trunc, BitVec.or_comm b a]; rfl
theorem i64_or_eq (a b : BitVec 64) : i64_or b a = .ok [Int.ior a b] := by
  simp only [i64_or, BitVec.or_comm b a]; rfl
theorem i32_xor_eq (a b : BitVec 32) : i32_xor (z b) (z a) = .ok [z (Int.ixor a b)] := by
  simp only [i32_xor, z_trunc, BitVec.xor_comm b a]; rfl
theorem i64_xor_eq (a b : BitVec 64) : i64_xor b a = .ok [Int.ixor a b] := by
  simp only [i64_xor, BitVec.xor_comm b a]; rfl

theorem i32_shl_eq (a b : BitVec 32) : i32_shl (z b) (z a) = .ok [z (Int.ishl a b)] := by
  simp only [i32_shl, z_trunc, BitVec.shiftLeft_eq', toNat_mod_width]; rfl
theorem i64_shl_eq (a b : BitVec 64) : i64_shl b a = .ok [Int.ishl a b] := by
  simp only [i64_shl, BitVec.shiftLeft_eq', toNat_mod_width]; rfl
theorem i32_shr_u_eq (a b : BitVec 32) : i32_shr_u (z b) (z a) = .ok [z (Int.ishrU a b)] := by
  simp only [i32_shr_u, z_trunc, BitVec.ushiftRight_eq', toNat_mod_width]; rfl
theorem i64_shr_u_eq (a b : BitVec 64) : i64_shr_u b a = .ok [Int.ishrU a b] := by
  simp only [i64_shr_u, BitVec.ushiftRight_eq', toNat_mod_width]; rfl
theorem i32_shr_s_eq (a b : BitVec 32) : i32_shr_s (z b) (z a) = .ok [z (Int.ishrS a b)] := by
  simp only [i32_shr_s, z_trunc, BitVec.sshiftRight_eq', toNat_mod_width]; rfl
theorem i64_shr_s_eq (a b : BitVec 64) : i64_shr_s b a = .ok [Int.ishrS a b] := by
  simp only [i64_shr_s, BitVec.sshiftRight_eq', toNat_mod_width]; rfl

/-! ### comparisons (rely on canonical slots for i32) -/

/-- how every comparison of the interpreter pushes its result -/
theorem ok_b2i (c : Bool) : (if c then StepRes.ok [1#64] else StepRes.ok [0#64]) = .ok [z (Int.b2i c)] := by
  cases c <;> rfl

theorem i32_eq_eq (a b : BitVec 32) : i32_eq (z b) (z a) = .ok [z (Int.ieq a b)] := by
  simp only [i32_eq, z_trunc, ok_b2i]; rfl
theorem i64_eq_eq (a b : BitVec 64) : i64_eq b a = .ok [z (Int.ieq a b)] := by
  simp only [i64_eq, ok_b2i]; rfl
theorem i32_ne_eq (a b : BitVec 32) : i32_ne (z b) (z a) = .ok [z (Int.ine a b)] := by
  simp only [i32_ne, bne, z_inj, ok_b2i]; rfl
theorem i64_ne_eq (a b : BitVec 64) : i64_ne b a = .ok [z (Int.ine a b)] := by
  simp only [i64_ne, ok_b2i]; rfl

theorem i32_lt_s_eq (a b : BitVec 32) : i32_lt_s (z b) (z a) = .ok [z (Int.iltS a b)] := by
  simp only [i32_lt_s, z_trunc, ok_b2i]; rfl
theorem i64_lt_s_eq (a b : BitVec 64) : i64_lt_s b a = .ok [z (Int.iltS a b)] := by
  simp only [i64_lt_s, ok_b2i]; rfl
theorem i32_lt_u_eq (a b : BitVec 32) : i32_lt_u (z b) (z a) = .ok [z (Int.iltU a b)] := by
  simp only [i32_lt_u, z_ult, ok_b2i]; rfl
theorem i64_lt_u_eq (a b : BitVec 64) : i64_lt_u b a = .ok [z (Int.iltU a b)] := by
  simp only [i64_lt_u, ok_b2i]; rfl

theorem i32_gt_s_eq (a b : BitVec 32) : i32_gt_s (z b) (z a) = .ok [z (Int.igtS a b)] := by
  simp only [i32_gt_s, z_trunc, ok_b2i]; rfl
theorem i64_gt_s_eq (a b : BitVec 64) : i64_gt_s b a = .ok [z (Int.igtS a b)] := by
  simp only [i64_gt_s, ok_b2i]; rfl
theorem i32_gt_u_eq (a b : BitVec 32) : i32_gt_u (z b) (z a) = .ok [z (Int.igtU a b)] := by
  simp only [i32_gt_u, z_ult, ok_b2i]; rfl
theorem i64_gt_u_eq (a b : BitVec 64) : i64_gt_u b a = .ok [z (Int.igtU a b)] := by
  simp only [i64_gt_u, ok_b2i]; rfl

theorem i32_le_s_eq (a b : BitVec 32) : i32_le_s (z b) (z a) = .ok [z (Int.ileS a b)] := by
  simp only [i32_le_s, z_trunc, ok_b2i]; rfl
theorem i64_le_s_eq (a b : BitVec 64) : i64_le_s b a = .ok [z (Int.ileS a b)] := by
  simp only [i64_le_s, ok_b2i]; rfl
theorem i32_le_u_eq (a b : BitVec 32) : i32_le_u (z b) (z a) = .ok [z (Int.ileU a b)] := by
  simp only [i32_le_u, z_ule, ok_b2i]; rfl
theorem i64_le_u_eq (a b : BitVec 64) : i64_le_u b a = .ok [z (Int.ileU a b)] := by
  simp only [i64_le_u, ok_b2i]; rfl

theorem i32_ge_s_eq (a b : BitVec 32) : i32_ge_s (z b) (z a) = .ok [z (Int.igeS a b)] := by
  simp only [i32_ge_s, z_trunc, ok_b2i]; rfl
theorem i64_ge_s_eq (a b : BitVec 64) : i64_ge_s b a = .ok [z (Int.igeS a b)] := by
  simp only [i64_ge_s, ok_b2i]; rfl
theorem i32_ge_u_eq (a b : BitVec 32) : i32_ge_u (z b) (z a) = .ok [z (Int.igeU a b)] := by
  simp only [i32_ge_u, z_ule, ok_b2i]; rfl
theorem i64_ge_u_eq (a b : BitVec 64) : i64_ge_u b a = .ok [z (Int.igeU a b)] := by
  simp only [i64_ge_u, ok_b2i]; rfl

theorem i32_eqz_eq (a : BitVec 32) : ieqz (z a) = .ok [z (Int.ieqz a)] := by
  simp only [ieqz, z_zero_iff, ok_b2i, Wz.Proofs.SpecInt.ieqz_eq]
theorem i64_eqz_eq (a : BitVec 64) : ieqz a = .ok [z (Int.ieqz a)] := by
  simp only [ieqz, ok_b2i, Wz.Proofs.SpecInt.ieqz_eq]

theorem i32_wrap_eq (a : BitVec 64) : i32_wrap_i64 a = .ok [z (Int.wrap a)] := rfl
theorem i64_extend_u_eq (a : BitVec 32) : i64_extend_i32_u (z a) = .ok [Int.extendU a] := by
  simp only [i64_extend_i32_u, z_trunc]; rfl
theorem i64_extend_s_eq (a : BitVec 32) : i64_extend_i32_s (z a) = .ok [Int.extendS a] := by
  simp only [i64_extend_i32_s, z_trunc]; rfl
theorem i32_extend8_s_eq (a : BitVec 32) : i32_extend8_s (z a) = .ok [z (Int.iextendS 8 a)] := by
  simp only [i32_extend8_s, z_setWidth a (by decide : 8 ≤ 64)]; rfl
theorem i32_extend16_s_eq (a : BitVec 32) : i32_extend16_s (z a) = .ok [z (Int.iextendS 16 a)] := by
  simp only [i32_extend16_s, z_setWidth a (by decide : 16 ≤ 64)]; rfl
theorem i64_extend8_s_eq (a : BitVec 64) : i64_extend8_s a = .ok [Int.iextendS 8 a] := rfl
theorem i64_extend16_s_eq (a : BitVec 64) : i64_extend16_s a = .ok [Int.iextendS 16 a] := rfl
theorem i64_extend32_s_eq (a : BitVec 64) : i64_extend32_s a = .ok [Int.iextendS 32 a] := rfl

/-! ### division and remainder: trap exactly when the specification traps, never a Go run-time panic

The translated Go tests the divisor slot and then - as Go's own run-time check - the divisor again; with the
specification's partial operation written as a test of the divisor (`idivU_eq` ...) all three tests are one Boolean. -/

theorem i32_div_u_eq (a b : BitVec 32) : i32_div_u (z b) (z a) =
    match Int.idivU a b with
    | none => .trap "ErrRuntimeIntegerDivideByZero"
    | some q => .ok [z q] := by
  simp only [i32_div_u, z_zero_iff, z_trunc, Wz.Proofs.SpecInt.idivU_eq]
  cases b == 0#32 <;> rfl
theorem i64_div_u_eq (a b : BitVec 64) : i64_div_u b a =
    match Int.idivU a b with
    | none => .trap "ErrRuntimeIntegerDivideByZero"
    | some q => .ok [q] := by
  simp only [i64_div_u, Wz.Proofs.SpecInt.idivU_eq]
  cases b == 0#64 <;> rfl
theorem i32_rem_u_eq (a b : BitVec 32) : i32_rem_u (z b) (z a) =
    match Int.iremU a b with
    | none => .trap "ErrRuntimeIntegerDivideByZero"
    | some q => .ok [z q] := by
  simp only [i32_rem_u, z_zero_iff, z_trunc, Wz.Proofs.SpecInt.iremU_eq]
  cases b == 0#32 <;> rfl
theorem i64_rem_u_eq (a b : BitVec 64) : i64_rem_u b a =
    match Int.iremU a b with
    | none => .trap "ErrRuntimeIntegerDivideByZero"
    | some q => .ok [q] := by
  simp only [i64_rem_u, Wz.Proofs.SpecInt.iremU_eq]
  cases b == 0#64 <;> rfl

theorem i32_rem_s_eq (a b : BitVec 32) : i32_rem_s (z b) (z a) =
    match Int.iremS a b with
    | none => .trap "ErrRuntimeIntegerDivideByZero"
    | some q => .ok [z q] := by
  simp only [i32_rem_s, z_zero_iff, z_trunc, Wz.Proofs.SpecInt.iremS_eq]
  cases b == 0#32 <;> rfl
theorem i64_rem_s_eq (a b : BitVec 64) : i64_rem_s b a =
    match Int.iremS a b with
    | none => .trap "ErrRuntimeIntegerDivideByZero"
    | some q => .ok [q] := by
  simp only [i64_rem_s, Wz.Proofs.SpecInt.iremS_eq]
  cases b == 0#64 <;> rfl

theorem i32_div_s_eq (a b : BitVec 32) : i32_div_s (z b) (z a) =
    if b = 0#32 then .trap "ErrRuntimeIntegerDivideByZero"
    else match Int.idivS a b with
      | none => .trap "ErrRuntimeIntegerOverflow"
      | some q => .ok [z q] := by
  have e1 : BitVec.ofInt 32 (-2147483648) = BitVec.intMin 32 := by decide
  have e2 : BitVec.ofInt 32 (-1) = -1#32 := by decide
  simp only [i32_div_s, z_zero_iff, z_trunc, e1, e2, Wz.Proofs.SpecInt.idivS_eq,
    ← beq_iff_eq (a := b) (b := 0#32)]
  cases b == 0#32
  · cases a == BitVec.intMin 32 && b == -1#32 <;> rfl
  · rfl
theorem i64_div_s_eq (a b : BitVec 64) : i64_div_s b a =
    if b = 0#64 then .trap "ErrRuntimeIntegerDivideByZero"
    else match Int.idivS a b with
      | none => .trap "ErrRuntimeIntegerOverflow"
      | some q => .ok [q] := by
  have e1 : BitVec.ofInt 64 (-9223372036854775808) = BitVec.intMin 64 := by decide
  have e2 : BitVec.ofInt 64 (-1) = -1#64 := by decide
  simp only [i64_div_s, e1, e2, Wz.Proofs.SpecInt.idivS_eq, ← beq_iff_eq (a := b) (b := 0#64)]
  cases b == 0#64
  · cases a == BitVec.intMin 64 && b == -1#64 <;> rfl
  · rfl

theorem i32_clz_eq (a : BitVec 32) : i32_clz (z a) = .ok [z (Int.iclz a)] := by
  simp only [i32_clz, z_trunc, leadingZeros32, clzAux_eq, Int.iclz,
    z_ofNat _ (Nat.lt_of_le_of_lt (Wz.Proofs.SpecInt.clzAux_le a 32) (by decide))]
theorem i64_clz_eq (a : BitVec 64) : i64_clz a = .ok [Int.iclz a] := by
  simp only [i64_clz, leadingZeros64, clzAux_eq, Int.iclz]
theorem i32_ctz_eq (a : BitVec 32) : i32_ctz (z a) = .ok [z (Int.ictz a)] := by
  simp only [i32_ctz, z_trunc, trailingZeros32, ctzAux_eq, Int.ictz,
    z_ofNat _ (Nat.lt_of_le_of_lt (Wz.Proofs.SpecInt.ctzAux_le a 0 32) (by decide))]
theorem i64_ctz_eq (a : BitVec 64) : i64_ctz a = .ok [Int.ictz a] := by
  simp only [i64_ctz, trailingZeros64, ctzAux_eq, Int.ictz]
theorem i32_popcnt_eq (a : BitVec 32) : i32_popcnt (z a) = .ok [z (Int.ipopcnt a)] := by
  simp only [i32_popcnt, z_trunc, onesCount32, popAux_eq, Int.ipopcnt,
    z_ofNat _ (Nat.lt_of_le_of_lt (Wz.Proofs.SpecInt.popAux_le a 32) (by decide))]
theorem i64_popcnt_eq (a : BitVec 64) : i64_popcnt a = .ok [Int.ipopcnt a] := by
  simp only [i64_popcnt, onesCount64, popAux_eq, Int.ipopcnt]

theorem i32_rotl_eq (a b : BitVec 32) : i32_rotl (z b) (z a) = .ok [z (Int.irotl a b)] := by
  simp only [i32_rotl, z_trunc, rotateLeft32, z_toNat]; rfl
theorem i64_rotl_eq (a b : BitVec 64) : i64_rotl b a = .ok [Int.irotl a b] := rfl
theorem i32_rotr_eq (a b : BitVec 32) : i32_rotr (z b) (z a) = .ok [z (Int.irotr a b)] := by
  simp only [i32_rotr, z_trunc, rotateLeft32, rotateLeft_neg_count a (z b) 5 rfl (by decide), z_toNat]; rfl
theorem i64_rotr_eq (a b : BitVec 64) : i64_rotr b a = .ok [Int.irotr a b] := by
  simp only [i64_rotr, rotateLeft64, rotateLeft_neg_count a b 6 rfl (by decide)]; rfl

/-! ### amd64 back end: constants shared between the instructions of one function -/

/-- the regenerated call sites as (index field, data variable) -/
def poolPairs : List (String × String) := Wz.Gen.ConstPool.uses.map (fun u => (u.1, u.2.1))

def functionalB (us : List (String × String)) : Bool :=
  us.all (fun a => us.all (fun b => a.1 != b.1 || a.2 == b.2))

theorem functional_of_functionalB (us : List (String × String)) (h : functionalB us = true) :
    Wz.Model.ConstPool.Functional us := by
  intro a ha b hb hab
  simp only [functionalB, List.all_eq_true] at h
  have := h a ha b hb
  simp only [Bool.or_eq_true, bne_iff_ne, ne_eq, beq_iff_eq] at this
  cases this with
  | inl hne => exact absurd hab hne
  | inr he => exact he

/-- **Regenerated obligation**: over all `getOrAllocateConstLabel` call sites of the amd64 back end, no index
field is paired with two different constants (and no constant is cached under two fields). -/
theorem const_pool_pairs_one_to_one :
    functionalB poolPairs = true ∧ functionalB (poolPairs.map (fun p => (p.2, p.1))) = true := by decide +kernel

/-- Consequence, for EVERY sequence of lowerings that can happen in one function (any instructions, any
order, any repetition): each `getOrAllocateConstLabel` call gets the constant it names. -/
theorem every_lowering_gets_its_constant (seq : List (String × String)) (h : ∀ u ∈ seq, u ∈ poolPairs) :
    Wz.Model.ConstPool.runUses [] seq = seq.map (·.2) := by
  apply Wz.Model.ConstPool.each_use_gets_its_constant
  have hf := functional_of_functionalB poolPairs const_pool_pairs_one_to_one.1
  exact fun a ha b hb => hf a (h a ha) b (h b hb)

/-- Without the obligation the conclusion fails: the shape of a seeded change (one field used for two
constants) makes the second instruction compute with the first one's constant. -/
theorem const_pool_shared_field_witness :
    Wz.Model.ConstPool.runUses [] [("constAllOnesI8x16Index", "allOnesI8x16"), ("constAllOnesI8x16Index", "allOnesI16x8")]
      = ["allOnesI8x16", "allOnesI8x16"] := by decide +kernel

example : 10 ≤ poolPairs.length := by decide +kernel

/-- **Regenerated obligation**: the per-function reset invalidates EVERY index field that some lowering caches
a pool label in (the pool is truncated between functions, so a field that survives points into the next
function's pool: out of range, or at another constant). -/
theorem every_cached_index_is_reset_between_functions :
    (poolPairs.map (·.1)).all (fun f => Wz.Gen.ConstPool.resets.contains f) = true := by decide +kernel

end Wz.C05
