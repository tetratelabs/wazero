import Wz.Proofs.ShapeLookup
/-!
# C07 companion: a compilation-cache hit restores every option of the compilation

A compiled module read back from the file cache is machine code only; the options it was compiled under
(termination checks, function listeners) live in fields that `getCompiledModule` restores on the hit.  Whether a call
gets its context watcher is decided by one of those fields (`ensureTermination`), so the restoration has to be the
identity on EVERY combination of options: `restore_is_identity` for the code's form (the termination flag assigned
unconditionally, the listener fields under `len(listeners) > 0`), `exclusive_cases_lose_the_flag_witness` for the form
with the two restorations as exclusive cases of one switch (cache hit + listeners: the flag stays false and nothing
ever stops the guest - seeded change C07-9).  Which fields are assigned unconditionally and which under what condition
is a regenerated shape.
-/

namespace Wz.C07

structure CompileOpts where
  ensureTermination : Bool
  listeners : Bool
  deriving DecidableEq, Repr

/-- the fields of a module fresh from the file cache -/
def blank : CompileOpts := { ensureTermination := false, listeners := false }

/-- the code's form: the flag unconditionally, the listener fields under their own condition -/
def restore (want : CompileOpts) : CompileOpts :=
  let cm := { blank with ensureTermination := want.ensureTermination }
  if want.listeners then { cm with listeners := true } else cm

/-- exclusive cases of one switch -/
def restoreExclusive (want : CompileOpts) : CompileOpts :=
  if want.listeners then { blank with listeners := true }
  else if want.ensureTermination then { blank with ensureTermination := true }
  else blank

theorem restore_is_identity (want : CompileOpts) : restore want = want := by
  cases want with
  | mk e l => cases e <;> cases l <;> rfl

theorem exclusive_cases_lose_the_flag_witness :
    (restoreExclusive { ensureTermination := true, listeners := true }).ensureTermination = false := by decide

theorem cache_hit_restores_flag_unconditionally :
    Wz.Gen.Shapes.get "c07.cache_hit_restore" =
      some "cm.parent = e; cm.module = module; cm.sharedFunctions = e.sharedFunctions; cm.ensureTermination = ensureTermination; cm.offsets = wazevoapi.NewModuleContextOffsetData(module, len(listeners) > 0) ;; if len(listeners) > 0: cm.listeners, cm.listenerBeforeTrampolines, cm.listenerAfterTrampolines" := by
  shape_lookup

end Wz.C07
