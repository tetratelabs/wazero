import Wz.Proofs.ShapeLookup
/-!
# C02 companion: what ends an instruction group

The back ends may merge a single-use load into the memory operand of its consumer when both carry the same GROUP id;
the dead-code pass starts a new group after every instruction classified `sideEffectStrict`.  A merged load is executed
where its consumer stands, so everything that can change what the load reads - or where the memory is - between the two
must end the group: stores, atomic accesses, and every kind of CALL (a callee may store, grow and thereby move the
memory).  `merge_across_is_blocked`: in a straight-line sequence, a load and a later consumer share a group id exactly
when no strict instruction lies between them (the group counter model of the pass).  The set of strict opcodes is a
regenerated shape; `calls_and_stores_are_strict` checks that every call form, store form and atomic form is in it
(seeded change C02-11 took `Call` out).
-/

namespace Wz.C02

/-- group ids along a straight-line sequence: the id increases after every strict instruction -/
def groupIds : List Bool → Nat → List Nat
  | [], _ => []
  | strict :: rest, g => g :: groupIds rest (if strict then g + 1 else g)

/-- number of strict instructions in positions [i, j) -/
def strictBetween (l : List Bool) (i j : Nat) : Nat := ((l.drop i).take (j - i)).countP id

theorem groupIds_length (l : List Bool) (g : Nat) : (groupIds l g).length = l.length := by
  induction l generalizing g with
  | nil => rfl
  | cons s r ih => simp [groupIds, ih]

theorem groupIds_get (l : List Bool) : ∀ (g i : Nat), i < l.length →
    (groupIds l g).getD i 0 = g + ((l.take i).countP id) := by
  induction l with
  | nil => intro g i h; simp at h
  | cons s r ih =>
    intro g i h
    cases i with
    | zero => simp [groupIds]
    | succ i =>
      have hi : i < r.length := by simpa using h
      simp only [groupIds, List.getD_cons_succ, List.take_succ_cons, List.countP_cons]
      rw [ih _ i hi]
      cases s <;> simp <;> omega

/-- a load at position i and a consumer at position j > i share a group id iff no strict instruction lies in [i, j) -/
theorem merge_across_is_blocked (l : List Bool) (i j : Nat) (hij : i ≤ j) (hj : j < l.length) :
    ((groupIds l 0).getD i 0 = (groupIds l 0).getD j 0) ↔ ((l.take j).countP id = (l.take i).countP id) := by
  rw [groupIds_get l 0 i (by omega), groupIds_get l 0 j hj]
  omega

def strictOpcodes : List String :=
  ((Wz.Gen.Shapes.get "c02.strict_opcodes").getD "").splitOn " "

theorem strict_opcodes_shape :
    Wz.Gen.Shapes.get "c02.strict_opcodes" =
      some "AtomicCas AtomicLoad AtomicRmw AtomicStore BrTable Brnz Brz Call CallIndirect ExitIfTrueWithCode ExitWithCode Fence Istore16 Istore32 Istore8 Jump Return Store TailCallReturnCall TailCallReturnCallIndirect Undefined" := by
  shape_lookup

/-- every call form, store form and atomic access is strict -/
theorem calls_and_stores_are_strict :
    ["Call", "CallIndirect", "TailCallReturnCall", "TailCallReturnCallIndirect", "Store", "Istore8", "Istore16", "Istore32",
      "AtomicStore", "AtomicRmw", "AtomicCas", "AtomicLoad", "Fence"].all
        (fun o => ["AtomicCas", "AtomicLoad", "AtomicRmw", "AtomicStore", "BrTable", "Brnz", "Brz", "Call", "CallIndirect", "ExitIfTrueWithCode",
          "ExitWithCode", "Fence", "Istore16", "Istore32", "Istore8", "Jump", "Return", "Store", "TailCallReturnCall",
          "TailCallReturnCallIndirect", "Undefined"].contains o) = true := by
  decide +kernel

end Wz.C02
