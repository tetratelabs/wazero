/-
C04 — Linked modules share state exactly as the specification says.
Property theorems about the store model `Wz.Model.Store` (tied to /repo by correspondence, tie B).
-/
import Wz.Model.Store
import Wz.Model.CallerSlot
import Wz.Gen.CallerCtx

namespace Wz.C04
open Wz.Model.Store

/-! ## 1. An accepted import is compatible (spec: external-type matching) -/

/-- The specification's limits matching: an import declaring `{min n, max m?}` matches an object of
current size `cur` and maximum `amax?` iff `n ≤ cur` and (`m` absent, or `amax` present and `≤ m`). -/
def LimitsMatch (cur : Nat) (amax : Option Nat) (n : Nat) (m : Option Nat) : Prop :=
  n ≤ cur ∧ (m = none ∨ ∃ a b, amax = some a ∧ m = some b ∧ a ≤ b)

theorem LimitsMatch.mono {cur cur' : Nat} {amax : Option Nat} {n : Nat} {m : Option Nat}
    (h : LimitsMatch cur amax n m) (hc : cur ≤ cur') : LimitsMatch cur' amax n m :=
  ⟨Nat.le_trans h.1 hc, h.2⟩

theorem func_match_sound (e a : FT) (h : matchFunc e a = true) : a = e := by
  simpa [matchFunc] using h

theorem global_match_sound (e : GT) (g : GlobalInst) (h : matchGlobal e g = true) : e = g.ty := by
  unfold matchGlobal at h
  simp only [Bool.and_eq_true, beq_iff_eq] at h
  cases e; cases hg : g.ty; simp_all

theorem matchTable_iff (e : TT) (t : TableInst) :
    matchTable e t = true ↔ e.rt = t.rt ∧ LimitsMatch t.min t.max e.min e.max := by
  unfold matchTable LimitsMatch
  cases e.max <;> cases t.max <;> simp [Nat.not_lt, and_assoc]

/-- Tables: the code compares with the DECLARED minimum; sound because a table never shrinks
(`t.min ≤ t.refs.length` is an invariant, see `tableGrow_inv`). -/
theorem table_match_sound (e : TT) (t : TableInst) (hinv : t.min ≤ t.refs.length)
    (h : matchTable e t = true) : e.rt = t.rt ∧ LimitsMatch t.refs.length t.max e.min e.max :=
  let ⟨hrt, hlim⟩ := (matchTable_iff e t).1 h
  ⟨hrt, hlim.mono hinv⟩

theorem matchMem_iff (mt : MT) (m : MemInst) :
    matchMem mt m = true ↔ mt.min ≤ m.pages ∧ m.max ≤ mt.max ∧ mt.shared = m.shared := by
  simp [matchMem, Nat.not_lt, and_assoc]

/-- Memories: the importer's limits as the decoder leaves them (`decodeMT`: a missing maximum becomes
the configured limit, a declared one is clamped); the exporter's maximum is its EFFECTIVE maximum
(`m.max ≤ limit`, what the instance can actually reach). -/
theorem mem_match_sound (limit n : Nat) (declared : Option Nat) (m : MemInst)
    (h : matchMem (decodeMT limit n declared) m = true) :
    LimitsMatch m.pages (some m.max) n declared := by
  obtain ⟨h1, h2, _⟩ := (matchMem_iff _ m).1 h
  refine ⟨h1, ?_⟩
  cases declared with
  | none => exact Or.inl rfl
  | some d => exact Or.inr ⟨m.max, d, rfl, rfl, Nat.le_trans h2 (Nat.min_le_left d limit)⟩

/-- **Shared flags agree** (threads proposal: memory types match only if both are shared or both are not).
Finding F47: the pinned tree compared the limits only. -/
theorem mem_match_shared (mt : MT) (m : MemInst) (h : matchMem mt m = true) : mt.shared = m.shared :=
  ((matchMem_iff mt m).1 h).2.2

/-- F47 witness: the as-is matcher accepts a non-shared one-page memory for an import declared shared - the
compiler then treats the memory's base as fixed and keeps using the old buffer after a grow moved it. -/
theorem shared_mismatch_accepted_asIs_witness :
    matchMemAsIs { min := 1, max := 4, shared := true } { pages := 1, max := 4, bytes := [] } = true ∧
    matchMem { min := 1, max := 4, shared := true } { pages := 1, max := 4, bytes := [] } = false := by decide

/-- what it means for a resolved address to be a spec-compatible provider of an import -/
def SpecMatch (s : Store) (imp : Import) : Extern → Prop
  | .func a => ∃ (f : FuncInst), s.funcs[a]? = some f ∧ imp.desc = .func f.ft
  | .table a => ∃ (t : TableInst) (tt : TT), s.tables[a]? = some t ∧ imp.desc = .table tt ∧ tt.rt = t.rt ∧
      LimitsMatch t.refs.length t.max tt.min tt.max
  | .mem a => ∃ (m : MemInst) (mt : MT), s.mems[a]? = some m ∧ imp.desc = .mem mt ∧ mt.min ≤ m.pages ∧ m.max ≤ mt.max ∧ mt.shared = m.shared
  | .global a => ∃ (g : GlobalInst), s.globals[a]? = some g ∧ imp.desc = .global g.ty

@[reducible] def TablesInv (s : Store) : Prop := ∀ (a : Nat) (t : TableInst), s.tables[a]? = some t → t.min ≤ t.refs.length

/-- pointwise relation between the import list and the resolved addresses -/
def AllMatch (s : Store) : List Import → List Extern → Prop
  | [], [] => True
  | i :: is, e :: es => SpecMatch s i e ∧ AllMatch s is es
  | _, _ => False

theorem resolveOne_sound (s : Store) (hinv : TablesInv s) (imp : Import) (ext : Extern)
    (h : resolveOne s imp = some ext) : SpecMatch s imp ext := by
  revert h
  -- only the four accepting paths (one per kind) return `some`
  fun_cases resolveOne s imp <;> intro h <;> cases h
  all_goals rename_i d hd _ _ x hx hm
  · exact ⟨x, hx, by rw [hd, func_match_sound _ _ hm]⟩
  · exact ⟨x, d, hx, hd, table_match_sound _ _ (hinv _ _ hx) hm⟩
  · exact ⟨x, d, hx, hd, (matchMem_iff _ _).1 hm⟩
  · exact ⟨x, hx, by rw [hd, global_match_sound _ _ hm]⟩

theorem resolveAll_sound (s : Store) (hinv : TablesInv s) (imps : List Import) (exts : List Extern)
    (h : resolveAll s imps = some exts) : AllMatch s imps exts := by
  fun_induction resolveAll s imps generalizing exts <;> cases h
  · trivial
  · rename_i he _ hes ih
    exact ⟨resolveOne_sound s hinv _ _ he, ih _ hes⟩

/-- **import_match_sound** — whenever instantiation gets past import resolution (any outcome other
than `invalid`/`importErr`), EVERY import was resolved to an object that is compatible by the
specification's external-type matching: equal function types, limits matching against the
table's current size / the memory's current size and effective maximum, equal global type
(mutability and value type). -/
theorem import_match_sound (s : Store) (hinv : TablesInv s) (name : String) (d : ModDesc)
    (h : (instantiate s name d).2 ≠ .invalid ∧ (instantiate s name d).2 ≠ .importErr) :
    ∃ exts, resolveAll s d.imports = some exts ∧ AllMatch s d.imports exts := by
  revert h
  fun_cases instantiate s name d <;> intro h
  · exact absurd rfl h.1
  · exact absurd rfl h.2
  all_goals exact ⟨_, ‹_›, resolveAll_sound s hinv _ _ ‹_›⟩

/-- sample (test): the hypothesis is met by a concrete store with a grown table -/
example : TablesInv { tables := [{ refs := [0, 0, 0], min := 1, max := some 5, rt := .funcref }] } := by
  intro a t h
  match a with
  | 0 => simp at h; subst h; decide
  | n + 1 => simp at h

/-- the table invariant is kept by growth (tables never shrink) -/
theorem tableGrow_inv (t : TableInst) (delta : Nat) (h : t.min ≤ t.refs.length) :
    (tableGrow t delta).1.min ≤ (tableGrow t delta).1.refs.length := by
  unfold tableGrow
  dsimp only
  repeat' split
  all_goals first
    | exact h
    | (simp only [List.length_append, List.length_replicate]; omega)

/-- Deviation (recorded, not a violation; the property states only "accepted ONLY IF compatible"): the
converse fails for grown tables — a spec-compatible import is rejected because the code compares
with the declared minimum. Witness: `(table 1 funcref)` grown to 10, import with min 5. -/
theorem import_match_incomplete_witness :
    let t : TableInst := { refs := List.replicate 10 0, min := 1, max := none, rt := .funcref }
    let e : TT := { rt := .funcref, min := 5, max := none }
    LimitsMatch t.refs.length t.max e.min e.max ∧ matchTable e t = false := by
  refine ⟨⟨by decide, Or.inl rfl⟩, by decide⟩

/-- **import_match_complete_partial** — for tables that were never grown (size = declared minimum) the
check is also complete. Missing for the full converse: grown tables (see the witness above). -/
theorem import_match_complete_partial (e : TT) (t : TableInst) (hsz : t.refs.length = t.min)
    (hrt : e.rt = t.rt) (h : LimitsMatch t.refs.length t.max e.min e.max) : matchTable e t = true :=
  (matchTable_iff e t).2 ⟨hrt, hsz ▸ h⟩

/-! ## 2. One shared cell per global, on both storage schemes -/

/-- the store is well-formed for globals: every global address has its module-context slot -/
def LiveWF (s : Store) : Prop := s.live.length = s.globals.length

theorem gset_some (s : Store) (a v : Nat) (g : GlobalInst) (hg : s.globals[a]? = some g) :
    gset s a v = if g.me then { s with live := s.live.set a v }
      else { s with globals := s.globals.set a { g with val := v } } := by
  unfold gset; rw [hg]

theorem gset_none (s : Store) (a v : Nat) (hg : s.globals[a]? = none) : gset s a v = s := by
  unfold gset; rw [hg]

theorem gset_frame (s : Store) (a v : Nat) :
    (gset s a v).insts = s.insts ∧ (gset s a v).mems = s.mems ∧ (gset s a v).tables = s.tables := by
  fun_cases gset s a v <;> exact ⟨rfl, rfl, rfl⟩

theorem gset_length (s : Store) (a v : Nat) :
    (gset s a v).globals.length = s.globals.length ∧ (gset s a v).live.length = s.live.length := by
  fun_cases gset s a v
  · exact ⟨rfl, List.length_set⟩
  · exact ⟨List.length_set, rfl⟩
  · exact ⟨rfl, rfl⟩

/-- **the cell law**: after `SetValue`/`global.set` of address `a`, a read of any address `b` — through
`Value()`, generated code, any instance — gives the written value if `b = a` and the old value
otherwise; for BOTH schemes (`me = true`: owner's module context; `me = false`: the `.Val` field). -/
theorem gvalue_gset (s : Store) (hwf : LiveWF s) (a v b : Nat) (ha : a < s.globals.length) :
    gvalue (gset s a v) b = if b = a then v else gvalue s b := by
  have hga : s.globals[a]? = some s.globals[a] := List.getElem?_eq_getElem ha
  have hla : a < s.live.length := hwf ▸ ha
  rw [gset_some s a v _ hga]
  unfold gvalue
  cases hme : s.globals[a].me <;> simp only [Bool.false_eq_true, if_false, if_true]
  · -- interpreter: the field `.Val`
    rw [List.getElem?_set]
    by_cases hba : b = a
    · subst hba; simp only [if_true, ha, Bool.false_eq_true, if_false]
    · rw [if_neg (Ne.symm hba), if_neg hba]
  · -- compiler: the module-context slot
    by_cases hba : b = a
    · subst hba; simp only [hga, hme, if_true, List.getD_eq_getElem?_getD, List.getElem?_set_self hla, Option.getD_some]
    · rw [if_neg hba]
      cases s.globals[b]? with
      | none => rfl
      | some g => simp only [List.getD_eq_getElem?_getD, List.getElem?_set_ne (Ne.symm hba)]

theorem gset_globals (s : Store) (a v b : Nat) (g' : GlobalInst) (h : (gset s a v).globals[b]? = some g') :
    ∃ g, s.globals[b]? = some g ∧ g'.ty = g.ty ∧ (b ≠ a → g' = g) := by
  revert h
  fun_cases gset s a v <;> intro h
  -- only the write to a `.Val` field touches `globals`
  case case2 ga hg _ =>
    rw [List.getElem?_set] at h
    split at h
    · rename_i hab
      split at h
      · cases h; exact ⟨ga, hab ▸ hg, rfl, fun hne => absurd hab.symm hne⟩
      · cases h
    · exact ⟨g', h, rfl, fun _ => rfl⟩
  all_goals exact ⟨g', h, rfl, fun _ => rfl⟩

/-- operations on globals: through an instance (guest code of instance `i`, global index `k`) or through
the host API (`api.Global` of global address `a`) -/
inductive GOp where
  | guestGet (i k : Nat)
  | guestSet (i k v : Nat)
  | apiGet (a : Nat)
  | apiSet (a v : Nat)

/-- implementation: both schemes, through the instance's address table -/
def gstep (s : Store) : GOp → Store × Option Nat
  | .guestGet i k => (s, (instGaddr s i k).map (gvalue s))
  | .guestSet i k v => match instGaddr s i k with
    | some a => (gset s a v, none)
    | none => (s, none)
  | .apiGet a => (s, some (gvalue s a))
  | .apiSet a v => (gset s a v, none)

def grun (s : Store) : List GOp → List (Option Nat)
  | [] => []
  | op :: rest => (gstep s op).2 :: grun (gstep s op).1 rest

/-- specification: ONE cell per global address (`cells[a]`), nothing else -/
def cstep (addr : Nat → Nat → Option Nat) (c : List Nat) : GOp → List Nat × Option Nat
  | .guestGet i k => (c, (addr i k).map (c.getD · 0))
  | .guestSet i k v => match addr i k with
    | some a => (c.set a v, none)
    | none => (c, none)
  | .apiGet a => (c, some (c.getD a 0))
  | .apiSet a v => (c.set a v, none)

def crun (addr : Nat → Nat → Option Nat) (c : List Nat) : List GOp → List (Option Nat)
  | [] => []
  | op :: rest => (cstep addr c op).2 :: crun addr (cstep addr c op).1 rest

/-- abstraction: the current value of every global address -/
def cells (s : Store) : List Nat := (List.range s.globals.length).map (gvalue s)

theorem cells_getD (s : Store) (a : Nat) : (cells s).getD a 0 = gvalue s a := by
  unfold cells
  rw [List.getD_eq_getElem?_getD, List.getElem?_map]
  by_cases ha : a < s.globals.length
  · rw [List.getElem?_range ha]; rfl
  · have h1 : s.globals[a]? = none := List.getElem?_eq_none (Nat.le_of_not_lt ha)
    rw [List.getElem?_eq_none (by rw [List.length_range]; exact Nat.le_of_not_lt ha)]
    unfold gvalue; rw [h1]; rfl

theorem cells_gset (s : Store) (hwf : LiveWF s) (a v : Nat) : cells (gset s a v) = (cells s).set a v := by
  by_cases ha : a < s.globals.length
  · apply List.ext_getElem
    · simp only [cells, (gset_length s a v).1, List.length_map, List.length_range, List.length_set]
    · intro n h1 h2
      simp only [cells, (gset_length s a v).1, List.getElem_map, List.getElem_range, List.getElem_set]
      rw [gvalue_gset s hwf a v n ha]
      by_cases hna : n = a
      · rw [if_pos hna, if_pos hna.symm]
      · rw [if_neg hna, if_neg (Ne.symm hna)]
  · rw [gset_none s a v (List.getElem?_eq_none (Nat.le_of_not_lt ha)), List.set_eq_of_length_le]
    simp only [cells, List.length_map, List.length_range]; exact Nat.le_of_not_lt ha

theorem gstep_refines (s : Store) (hwf : LiveWF s) (op : GOp) :
    (gstep s op).2 = (cstep (instGaddr s) (cells s) op).2 ∧
    cells (gstep s op).1 = (cstep (instGaddr s) (cells s) op).1 ∧
    LiveWF (gstep s op).1 ∧ instGaddr (gstep s op).1 = instGaddr s := by
  have hset (a v : Nat) : cells (gset s a v) = (cells s).set a v ∧ LiveWF (gset s a v) ∧
      instGaddr (gset s a v) = instGaddr s := by
    obtain ⟨hg, hl⟩ := gset_length s a v
    exact ⟨cells_gset s hwf a v, by unfold LiveWF at *; rw [hg, hl, hwf],
      by unfold instGaddr; rw [(gset_frame s a v).1]⟩
  cases op with
  | guestGet i k =>
    refine ⟨?_, rfl, hwf, rfl⟩
    simp only [gstep, cstep]
    cases instGaddr s i k <;> simp only [Option.map_none, Option.map_some, cells_getD]
  | guestSet i k v =>
    simp only [gstep, cstep]
    cases instGaddr s i k with
    | none => exact ⟨rfl, rfl, hwf, rfl⟩
    | some a => exact ⟨rfl, hset a v⟩
  | apiGet a => exact ⟨by simp only [gstep, cstep, cells_getD], rfl, hwf, rfl⟩
  | apiSet a v => exact ⟨rfl, hset a v⟩

/-- **global_sharing_refines_cell** — for EVERY interleaving of reads and writes through any instance that
holds the global (defining or importing, any depth of re-export) and through the host API, on both
storage schemes, the observable outputs equal those of a store with exactly one cell per global:
every read returns the last write. (Induction over the operation list; no bound on its length.) -/
theorem global_sharing_refines_cell (s : Store) (hwf : LiveWF s) (ops : List GOp) :
    grun s ops = crun (instGaddr s) (cells s) ops := by
  induction ops generalizing s with
  | nil => rfl
  | cons op rest ih =>
    obtain ⟨h1, h2, h3, h4⟩ := gstep_refines s hwf op
    unfold grun crun
    rw [h1, ih _ h3, h2, h4]

/-- sample (test): a compiler-scheme store with one mutable global shared by two instances -/
def sampleShared : Store :=
  { compiler := true, globals := [{ ty := { vt := .i32, mutable := true }, val := 1, me := true }], live := [1],
    insts := [{ name := "A", faddrs := [], taddrs := [], maddr := none, gaddrs := [0], exports := [] },
              { name := "B", faddrs := [], taddrs := [], maddr := none, gaddrs := [0], exports := [] }] }

example : LiveWF sampleShared := rfl
example : grun sampleShared [.guestSet 0 0 5, .guestGet 1 0, .apiGet 0, .apiSet 0 7, .guestGet 0 0]
    = [none, some 5, some 5, none, some 7] := by decide

/-! ## 3. Values captured at instantiation -/

/-- immutable globals keep their initial value: `.Val` and the live value coincide for them -/
def ImmStable (s : Store) : Prop :=
  ∀ a g, s.globals[a]? = some g → g.ty.mutable = false → gvalue s a = g.val

/-- `Validated`: every `global.get` of the expression refers to an IMMUTABLE global (what the
specification requires and what the repaired validator, `constMutOK = false`, enforces) -/
def Validated (s : Store) (gaddrs : List Nat) (e : ConstExpr) : Prop :=
  ∀ k, e = .globalGet k → ∃ g, s.globals[gaddrs.getD k 0]? = some g ∧ g.ty.mutable = false

/-- **init_captures_current_value** — under `Validated`, the value an initialiser / segment offset captures
at instantiation (`evalConst`, which reads the field `.Val`) equals the CURRENT value of the referenced
global (`evalConstLive`, which reads through `Value()`), on both storage schemes. -/
theorem init_captures_current_value (s : Store) (hinv : ImmStable s) (gaddrs faddrs : List Nat)
    (e : ConstExpr) (hv : Validated s gaddrs e) :
    evalConst s gaddrs faddrs e = evalConstLive s gaddrs faddrs e := by
  cases e with
  | globalGet k =>
    obtain ⟨g, hg, hm⟩ := hv k rfl
    simp only [evalConst, evalConstLive, gfield, hg]
    exact (hinv _ g hg hm).symm
  | _ => rfl

/-- the repaired validator establishes `Validated` for resolved imports -/
theorem validated_of_constOK (s : Store) (imps : List GT) (gaddrs : List Nat) (e : ConstExpr)
    (hok : constOK false imps e = true)
    (hres : ∀ k gt, imps[k]? = some gt → ∃ g, s.globals[gaddrs.getD k 0]? = some g ∧ g.ty = gt) :
    Validated s gaddrs e := by
  intro k hk
  subst hk
  unfold constOK at hok
  cases hi : imps[k]? with
  | none => simp [hi] at hok
  | some gt =>
    simp [hi] at hok
    obtain ⟨g, hg, hty⟩ := hres k gt hi
    exact ⟨g, hg, by rw [hty]; exact hok⟩

/-- on the interpreter scheme the captured value is current even WITHOUT `Validated` -/
theorem init_captures_interpreter (s : Store) (hme : ∀ (a : Nat) (g : GlobalInst), s.globals[a]? = some g → g.me = false)
    (gaddrs faddrs : List Nat) (e : ConstExpr) :
    evalConst s gaddrs faddrs e = evalConstLive s gaddrs faddrs e := by
  cases e with
  | globalGet k =>
    simp only [evalConst, evalConstLive, gfield, gvalue]
    cases hg : s.globals[gaddrs.getD k 0]? with
    | none => rfl
    | some g => simp [hme _ g hg]
  | _ => rfl

/-- **stale_global_witness (F2)** — without `Validated`, on the compiler scheme: A's mutable global g = 1,
`set(5)`, then `(global i32 (global.get $g))` captures 1 while the current value is 5. -/
theorem stale_global_witness :
    let s := gset sampleShared 0 5
    evalConst s [0] [] (.globalGet 0) = 1 ∧ evalConstLive s [0] [] (.globalGet 0) = 5 ∧
    constOK true [{ vt := .i32, mutable := true }] (.globalGet 0) = true ∧
    constOK false [{ vt := .i32, mutable := true }] (.globalGet 0) = false := by decide

/-- `ImmStable` is an invariant of well-typed writes (a `global.set`/`Set` only targets mutable globals) -/
theorem immStable_gset (s : Store) (hwf : LiveWF s) (hinv : ImmStable s) (a v : Nat) (g : GlobalInst)
    (hg : s.globals[a]? = some g) (hmut : g.ty.mutable = true) : ImmStable (gset s a v) := by
  intro b gb hb hm
  obtain ⟨g0, hg0, hty, hsame⟩ := gset_globals s a v b gb hb
  rw [gvalue_gset s hwf a v b (List.getElem?_eq_some_iff.1 hg).1]
  by_cases hba : b = a
  · -- the global at `a` stays mutable
    subst hba
    rw [hg] at hg0; cases hg0
    rw [hty, hmut] at hm; cases hm
  · rw [if_neg hba, hsame hba]
    exact hinv b g0 hg0 (hty ▸ hm)

example : ImmStable sampleShared := by
  intro a g h hm
  match a with
  | 0 => simp [sampleShared] at h; subst h; simp at hm
  | n + 1 => simp [sampleShared] at h

/-! ## 4. A failed instantiation leaves the earlier instances usable and consistent -/

theorem writeBytes_shape (bs : List Nat) : ∀ (m : MemInst) (off : Nat),
    (writeBytes m off bs).pages = m.pages ∧ (writeBytes m off bs).max = m.max := by
  induction bs with
  | nil => intro m off; exact ⟨rfl, rfl⟩
  | cons b rest ih => intro m off; exact ih (m.write off b) (off + 1)

/-- a segment's copy changes only the addresses `off ≤ addr < off + len` -/
theorem writeBytes_read_outside (bs : List Nat) : ∀ (m : MemInst) (off addr : Nat),
    (addr < off ∨ off + bs.length ≤ addr) → (writeBytes m off bs).read addr = m.read addr := by
  induction bs with
  | nil => intro m off addr _; rfl
  | cons b rest ih =>
    intro m off addr h
    rw [List.length_cons] at h
    have hne : (off == addr) = false := beq_false_of_ne (by omega)
    show (writeBytes (m.write off b) (off + 1) rest).read addr = m.read addr
    rw [ih (m.write off b) (off + 1) addr (by omega)]
    unfold MemInst.read MemInst.write
    rw [List.find?_cons_of_neg (by simp only [hne, Bool.false_eq_true, not_false_eq_true])]

theorem applyData1_shape {m m' : MemInst} {off : Nat} {bytes : List Nat} (h : applyData1 m off bytes = some m') :
    m'.pages = m.pages ∧ m'.max = m.max := by
  unfold applyData1 at h
  dsimp only at h
  split at h
  · cases h
  · cases h; exact writeBytes_shape _ _ _

/-- the shape of a memory cell: current size and maximum -/
def SameMemShape (s r : Store) : Prop :=
  ∀ (ma : Nat) (m : MemInst), s.mems[ma]? = some m → ∃ m', r.mems[ma]? = some m' ∧ m'.pages = m.pages ∧ m'.max = m.max

/-- the shape of a table cell: current size, limits, element type -/
def SameTableShape (s r : Store) : Prop :=
  ∀ (ta : Nat) (t : TableInst), s.tables[ta]? = some t →
    ∃ t', r.tables[ta]? = some t' ∧ t'.refs.length = t.refs.length ∧ t'.min = t.min ∧ t'.max = t.max ∧ t'.rt = t.rt

theorem sameMemShape_of_eq {s r : Store} (h : r.mems = s.mems) : SameMemShape s r :=
  fun _ m hm => ⟨m, h ▸ hm, rfl, rfl⟩

theorem sameTableShape_of_eq {s r : Store} (h : r.tables = s.tables) : SameTableShape s r :=
  fun _ t ht => ⟨t, h ▸ ht, rfl, rfl, rfl, rfl⟩

theorem sameMemShape_trans {a b c : Store} (h1 : SameMemShape a b) (h2 : SameMemShape b c) : SameMemShape a c := by
  intro ma m h
  obtain ⟨m', hm', hp, hx⟩ := h1 ma m h
  obtain ⟨m'', hm'', hp', hx'⟩ := h2 ma m' hm'
  exact ⟨m'', hm'', hp'.trans hp, hx'.trans hx⟩

theorem sameTableShape_trans {a b c : Store} (h1 : SameTableShape a b) (h2 : SameTableShape b c) : SameTableShape a c := by
  intro ta t h
  obtain ⟨t', ht', a1, a2, a3, a4⟩ := h1 ta t h
  obtain ⟨t'', ht'', b1, b2, b3, b4⟩ := h2 ta t' ht'
  exact ⟨t'', ht'', b1.trans a1, b2.trans a2, b3.trans a3, b4.trans a4⟩

theorem set_pointwise {α : Type} {R : α → α → Prop} (hR : ∀ x, R x x) {l : List α} {i : Nat} {x x' : α}
    (hx : l[i]? = some x) (h : R x' x) (a : Nat) (y : α) (hy : l[a]? = some y) :
    ∃ y', (l.set i x')[a]? = some y' ∧ R y' y := by
  rw [List.getElem?_set]
  split
  · rename_i hia; subst hia
    rw [hx] at hy; cases hy
    rw [if_pos (List.getElem?_eq_some_iff.1 hx).1]
    exact ⟨x', rfl, h⟩
  · exact ⟨y, hy, hR y⟩

/-- data segments replace memories by memories of the same shape and touch nothing else -/
theorem applyDatas_frame {maddr : Option Nat} {gaddrs faddrs : List Nat} {ds : List Data} {s s' : Store} {ok : Bool}
    (h : applyDatas s maddr gaddrs faddrs ds = (s', ok)) :
    ∃ M, s' = { s with mems := M } ∧ SameMemShape s s' := by
  fun_induction applyDatas s maddr gaddrs faddrs ds
  -- every way out but the last leaves the store as it is
  all_goals try cases h; exact ⟨_, rfl, sameMemShape_of_eq rfl⟩
  rename_i s _ _ ma hma m hm m' hm' ih
  subst hma
  have k : SameMemShape s { s with mems := s.mems.set ma m' } :=
    set_pointwise (fun _ => ⟨rfl, rfl⟩) hm (applyData1_shape hm')
  obtain ⟨M, rfl, hM⟩ := ih h
  exact ⟨M, rfl, sameMemShape_trans k hM⟩

theorem writeRefs_length (items : List (Option Nat)) : ∀ (refs : List Nat) (off : Nat) (faddrs : List Nat),
    (writeRefs refs off faddrs items).length = refs.length := by
  induction items with
  | nil => intro refs off faddrs; rfl
  | cons it rest ih =>
    intro refs off faddrs
    cases it with
    | none => exact ih refs (off + 1) faddrs
    | some f => exact (ih _ _ _).trans List.length_set

/-- element segments replace tables by tables of the same shape and touch nothing else -/
theorem applyElems_frame {taddrs gaddrs faddrs : List Nat} {es : List Elem} {s s' : Store}
    (h : applyElems s taddrs gaddrs faddrs es = s') : ∃ T, s' = { s with tables := T } ∧ SameTableShape s s' := by
  subst h
  fun_induction applyElems s taddrs gaddrs faddrs es
  -- an empty segment is skipped, a segment that does not fit ends the initialisation
  all_goals first | assumption | exact ⟨_, rfl, sameTableShape_of_eq rfl⟩ | skip
  rename_i s _ _ _ ta _ t ht _ _ t' ih
  have k : SameTableShape s { s with tables := s.tables.set ta t' } :=
    set_pointwise (fun _ => ⟨rfl, rfl, rfl, rfl⟩) ht ⟨writeRefs_length _ _ _ _, rfl, rfl, rfl⟩
  obtain ⟨T, hT, h⟩ := ih
  exact ⟨T, hT, sameTableShape_trans k h⟩

theorem getElem_append_some {α} (l r : List α) (i : Nat) (x : α) (h : l[i]? = some x) : (l ++ r)[i]? = some x := by
  rw [List.getElem?_append_left (List.getElem?_eq_some_iff.1 h).1]; exact h

/-- allocation only appends: every earlier cell is where it was, with the value it had -/
theorem alloc_frame (s : Store) (name : String) (d : ModDesc) (ext : List Extern) (hwf : LiveWF s) :
    (alloc s name d ext).store.insts = s.insts ∧
    SameMemShape s (alloc s name d ext).store ∧ SameTableShape s (alloc s name d ext).store ∧
    (∀ (ma : Nat) (m : MemInst), s.mems[ma]? = some m → (alloc s name d ext).store.mems[ma]? = some m) ∧
    (∀ (ta : Nat) (t : TableInst), s.tables[ta]? = some t → (alloc s name d ext).store.tables[ta]? = some t) ∧
    (∀ a, a < s.globals.length → gvalue (alloc s name d ext).store a = gvalue s a) := by
  unfold alloc
  refine ⟨rfl, fun _ m h => ⟨m, getElem_append_some _ _ _ _ h, rfl, rfl⟩,
    fun _ t h => ⟨t, getElem_append_some _ _ _ _ h, rfl, rfl, rfl, rfl⟩,
    fun _ _ => getElem_append_some _ _ _ _, fun _ _ => getElem_append_some _ _ _ _, fun a ha => ?_⟩
  have hl : a < s.live.length := hwf ▸ ha
  unfold gvalue
  dsimp only
  rw [List.getElem?_append_left ha, List.getD_eq_getElem?_getD, List.getD_eq_getElem?_getD,
    List.getElem?_append_left hl]

/-- the start function writes at most one global -/
theorem runStart_frame {s s' : Store} {gaddrs : List Nat} {st : Start} {ok : Bool}
    (h : runStart s gaddrs st = (s', ok)) : ∃ G L, s' = { s with globals := G, live := L } := by
  cases st <;> cases h
  case none | trap => exact ⟨_, _, rfl⟩
  all_goals fun_cases gset <;> exact ⟨_, _, rfl⟩

/-- **failed_instantiation_preserves** — whatever way an instantiation fails (for every store, every module
descriptor):
 * no instance is registered and the earlier instances (their address tables) are untouched;
 * rejected at validation or import resolution ⇒ the store is unchanged altogether (no segment of the
   module has been applied);
 * otherwise every earlier memory keeps its size and maximum and every earlier table its size, limits
   and element type (contents change only through `applyDatas`/`applyElems`, i.e. by the segments already
   applied — byte-level frame: `writeBytes_read_outside`);
 * a data-segment failure changes no global of an earlier instance and no table at all. -/
theorem failed_instantiation_preserves (s : Store) (hwf : LiveWF s) (name : String) (d : ModDesc) :
    let r := instantiate s name d
    r.2 ≠ .ok →
      r.1.insts = s.insts ∧
      ((r.2 = .invalid ∨ r.2 = .importErr) → r.1 = s) ∧
      SameMemShape s r.1 ∧ SameTableShape s r.1 ∧
      (r.2 = .dataErr → (∀ a, a < s.globals.length → gvalue r.1 a = gvalue s a) ∧
        (∀ (ta : Nat) (t : TableInst), s.tables[ta]? = some t → r.1.tables[ta]? = some t)) := by
  -- one arm per outcome, with the store each phase leaves in closed form: what is asked is then read off
  fun_cases instantiate s name d <;> intro r hne
  -- rejected at validation or at import resolution: the store as it was
  case case1 | case2 => exact ⟨rfl, fun _ => rfl, sameMemShape_of_eq rfl, sameTableShape_of_eq rfl, nofun⟩
  · -- a data segment out of bounds: the allocated store with other memories
    rename_i ext _ A i s2 hD
    obtain ⟨hAi, hAm, hAs, _, hAt, hAg⟩ := alloc_frame s name d ext hwf
    obtain ⟨M, rfl, hM⟩ := applyDatas_frame hD
    exact ⟨hAi, nofun, sameMemShape_trans hAm hM, hAs, fun _ => ⟨hAg, hAt⟩⟩
  · -- the start function trapped: other memories, then other tables, then other globals
    rename_i ext _ A i s2 hD s3 s4 hS
    obtain ⟨hAi, hAm, hAs, _⟩ := alloc_frame s name d ext hwf
    obtain ⟨M, rfl, hM⟩ := applyDatas_frame hD
    obtain ⟨T, hE, hT⟩ := applyElems_frame (s' := s3) rfl
    -- `s3` is a `let` of `instantiate`: its body is forgotten so that `hE` can stand for it
    clear_value s3
    subst hE
    obtain ⟨G, L, rfl⟩ := runStart_frame hS
    exact ⟨hAi, nofun, sameMemShape_trans hAm hM, sameTableShape_trans hAs hT, nofun⟩
  · exact absurd rfl hne

/-- sample (test): a failing instantiation (out-of-bounds second data segment) against a concrete store —
the first segment's byte is there, sizes are unchanged, no instance was added -/
def sampleA : Store :=
  (instantiate {} "A" { mem := some { min := 1, max := 2 }, exports := [{ name := "mem", kind := .mem, idx := 0 }] }).1

def sampleBad : ModDesc :=
  { imports := [{ mod := "A", name := "mem", desc := .mem { min := 1, max := 65536 } }],
    datas := [{ off := .const 10, bytes := [7] }, { off := .const 65535, bytes := [1, 2] }] }

example : (instantiate sampleA "B" sampleBad).2 = .dataErr ∧
    (instantiate sampleA "B" sampleBad).1.insts.length = 1 ∧
    ((instantiate sampleA "B" sampleBad).1.mems.map (fun m => (m.pages, m.read 10, m.read 65535))) = [(1, 7, 0)] := by decide


/-! ### the compiler's caller-module slot (shared by all modules on one call stack) -/

open Wz.Model.CallerSlot in
/-- **The right instance is used.**  For every trace of stores / slot-reading exits of any modules, interleaved in
any way, starting from any slot content: if every slot-reading exit is immediately preceded by the executing
module's own store, every Go handler observes exactly the module that is executing. -/
theorem caller_slot_discipline_suffices (es : List Ev) (slot : Nat) (h : Disciplined es) :
    ∀ p ∈ run es slot, p.2 = p.1 := disciplined_sees_own es slot h

open Wz.Model.CallerSlot in
/-- The discipline is needed: module 1 stores, calls into module 2 (which stores its own context), and then
exits to a handler without storing again - the handler acts on module 2 (the shape of a seeded change that
elided "redundant" stores). -/
theorem caller_slot_stale_witness :
    run [.store 1, .exit 1, .other, .store 2, .exit 2, .other, .exit 1] 0 = [(1, 1), (2, 2), (1, 2)] ∧
    ¬ Disciplined [.store 1, .exit 1, .other, .store 2, .exit 2, .other, .exit 1] := by decide

/-- non-vacuity: a three-module trace that follows the discipline -/
example : Wz.Model.CallerSlot.Disciplined [.store 1, .exit 1, .other, .store 2, .exit 2, .other, .store 1, .exit 1, .store 3, .other] := by decide

/-- which lowering sites produce the exit handled under each exit code -/
def sitesOfExit : List (String × List String) :=
  [("ExitCodeCallGoFunctionWithListener", ["call:imported-function", "call:prepareCallIndirect"]),
   ("ExitCodeCallGoModuleFunction", ["call:imported-function", "call:prepareCallIndirect"]),
   ("ExitCodeCallGoModuleFunctionWithListener", ["call:imported-function", "call:prepareCallIndirect"]),
   ("ExitCodeCallListenerBefore", ["call:callListenerBefore"]),
   ("ExitCodeCallListenerAfter", ["call:callListenerAfter"]),
   ("ExitCodeGrowMemory", ["trampoline:MemoryGrow"]),
   ("ExitCodeTableGrow", ["trampoline:TableGrow"]),
   ("ExitCodeRefFunc", ["trampoline:RefFunc"]),
   ("ExitCodeMemoryWait32", ["trampoline:MemoryWait32"]),
   ("ExitCodeMemoryWait64", ["trampoline:MemoryWait64"]),
   ("ExitCodeMemoryNotify", ["trampoline:MemoryNotify"])]

def siteStored (name : String) : Bool :=
  let hits := Wz.Gen.CallerCtx.sites.filter (·.1 == name)
  !hits.isEmpty && hits.all (·.2.2)

/-- **Regenerated obligation** (handlers from `callWithStack`, sites from `frontend/lower.go`): every exit
code whose Go handler reads the caller module is known here, and every lowering site that produces such an
exit is preceded by an UNCONDITIONAL `storeCallerModuleContext()` - the discipline of the model. -/
theorem caller_context_stored_before_every_go_exit :
    (Wz.Gen.CallerCtx.handlers.filter (·.2)).all (fun h =>
      match sitesOfExit.find? (·.1 == h.1) with
      | some (_, ss) => ss.all siteStored
      | none => false) = true := by decide +kernel

/-- non-vacuity: the regenerated tables do list slot-reading handlers and storing sites -/
example : (Wz.Gen.CallerCtx.handlers.filter (·.2)).length = 11 ∧ siteStored "trampoline:RefFunc" = true ∧
    siteStored "trampoline:CheckModuleExitCode" = false := by decide +kernel

end Wz.C04
