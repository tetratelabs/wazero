import Wz.Proofs.C11_Isolation
import Wz.Gen.C11Sharing
/-
C11 — Instances are isolated unless explicitly linked.

Model (`Wz.Model.Isolation`): ONE heap holding the read-only objects of compiled modules (segment bytes,
element vectors, function code) and, per instance, six mutable objects (memory, table, globals, data
headers, element headers, system context = fd table + stdout + clocks + random position). `hstep` runs an
op of one instance inside that heap, following the header pointers into the shared segment objects;
`lstep` is the same op on a LONE instance that owns private copies of everything.

Property at full strength (all op lists, all interleavings, any number of instances and modules):
`noninterference`. Tie A: `facts_classified`, `shape_ok`, `shape_asIs` over the facts regenerated from
`Store.instantiate` & co. Not provable here: that the engines' machine code / interpreter loop never writes
through the aliased `d.Init` slices — the model has no op that writes a segment object, the harness hashes
the real segment bytes before/after every run.
-/
namespace Wz.C11
open Wz.Model.Isolation

/-! ## tie A: obligations over the regenerated facts -/

/-- every part of a new `ModuleInstance` that aliases the compiled module is in the read-only class, and the
extractor could classify every assignment (finite regenerated table: evaluation is a proof) -/
theorem facts_classified : classified Wz.Gen.C11Sharing.fields = true := by decide +kernel

/-- the shape the model was written against: only `DataInstances[i]` aliases (`= d.Init`) -/
theorem shape_asIs : Wz.Gen.C11Sharing.shape = Shape.asIs := by decide +kernel

/-- the six mutable objects of an instance are freshly allocated by `instantiate` -/
theorem shape_ok : Wz.Gen.C11Sharing.shape.ok = true := by rw [shape_asIs]; rfl

theorem Shape.ok_iff (sh : Shape) : sh.ok = true ↔
    sh.mem = .fresh ∧ sh.tbl = .fresh ∧ sh.glob = .fresh ∧ sh.dhdr = .fresh ∧ sh.ehdr = .fresh ∧ sh.sys = .fresh := by
  simp only [Shape.ok, Bool.and_eq_true, beq_iff_eq, and_assoc]

theorem mkInst_of_ok (sh : Shape) (hs : sh.ok = true) (mid iid : Nat) : mkInst sh mid iid = ownInst iid mid := by
  obtain ⟨h1, h2, h3, h4, h5, h6⟩ := (Shape.ok_iff sh).1 hs
  simp only [mkInst, h1, h2, h3, h4, h5, h6, fldAddr]

/-- instances made by `instantiate` under an ok shape have private mutable objects -/
theorem instantiate_private (sh : Shape) (hs : sh.ok = true) (h : Heap) (mid : Nat) (md : Module) (iid : Nat) :
    Private (instantiate sh h mid md iid).2 ∧ (instantiate sh h mid md iid).2.id = iid := by
  show Private (mkInst sh mid iid) ∧ _
  rw [mkInst_of_ok sh hs]
  exact ⟨⟨rfl, rfl, rfl, rfl, rfl, rfl, mid, rfl⟩, rfl⟩

/-! ## one step -/

/-- a step of instance `i` changes only objects owned by `i` … -/
theorem step_frames_instance (env : Env) (h : Heap) (i : Inst) (op : Op) (hp : Private i) (a : Addr)
    (ha : ∀ f, a ≠ .own i.id f) : (hstep env h i op).1.get a = h.get a :=
  hstep_frame env h i op hp a ha

/-- … in particular never an object of a compiled module, nor any instance's segment copy -/
theorem step_never_writes_shared (env : Env) (h : Heap) (i : Inst) (op : Op) (hp : Private i) (mid : Nat) (sl : Slot) :
    (hstep env h i op).1.get (.shared mid sl) = h.get (.shared mid sl) :=
  hstep_frame env h i op hp _ (fun _ e => by cases e)

/-- a step in the shared heap is exactly the step of the lone instance (state and output) -/
theorem step_refines_lone (env : Env) (h : Heap) (i : Inst) (s : LState) (op : Op) (hp : Private i) (r : Rel h i s) :
    Rel (hstep env h i op).1 i (lstep env s op).1 ∧ (hstep env h i op).2 = (lstep env s op).2 := by
  obtain ⟨mid, e⟩ := hp.eq_ownInst
  rw [e] at r ⊢
  have rm := r.mem; have rt := r.tbl; have rg := r.glob; have rs := r.sys; have rc := r.code
  obtain ⟨dh, rdh, fd⟩ := r.data
  obtain ⟨eh, reh, fe⟩ := r.elem
  cases op with
  | m o => simp only [hstep, lstep, rm]; exact ⟨rel_set r (.mem _), trivial⟩
  | g o => simp only [hstep, lstep, rg]; exact ⟨rel_set r (.glob _), trivial⟩
  | t o => simp only [hstep, lstep, rt]; exact ⟨rel_set r (.tbl _), trivial⟩
  | calli ix => simp only [hstep, lstep, rt, rc, rg]; exact ⟨r, trivial⟩
  | minit k d sO n =>
    simp only [hstep, lstep, rdh, rm]
    cases hk : dh[k]? with
    | none => simp only [All2.get_none fd k hk]; exact ⟨r, trivial⟩
    | some e =>
      obtain ⟨y, hy, ry⟩ := All2.get fd k e hk
      simp only [hy, segBytes, seg_of_rel ry]
      exact ⟨rel_set r (.mem _), trivial⟩
  | ddrop k =>
    simp only [hstep, lstep, rdh, All2.length_eq fd]
    split
    · exact ⟨rel_set r (.ddrop rdh k), rfl⟩
    · exact ⟨r, rfl⟩
  | tinit k d sO n =>
    simp only [hstep, lstep, reh, rt]
    cases hk : eh[k]? with
    | none => simp only [All2.get_none fe k hk]; exact ⟨r, trivial⟩
    | some e =>
      obtain ⟨y, hy, ry⟩ := All2.get fe k e hk
      simp only [hy, segRefs, seg_of_rel ry]
      exact ⟨rel_set r (.tbl _), trivial⟩
  | edrop k =>
    simp only [hstep, lstep, reh, All2.length_eq fe]
    split
    · exact ⟨rel_set r (.edrop reh k), rfl⟩
    · exact ⟨r, rfl⟩
  | s o =>
    simp only [hstep, lstep, rm, rs]
    exact ⟨rel_set (rel_set r (.mem _)) (.sys _), trivial⟩

/-- a step of instance `i` is invisible to every other instance -/
theorem step_preserves_others (env : Env) (h : Heap) (i j : Inst) (sj : LState) (op : Op)
    (hpi : Private i) (hpj : Private j) (hne : j.id ≠ i.id) (r : Rel h j sj) : Rel (hstep env h i op).1 j sj :=
  rel_frame i.id (fun a ha => hstep_frame env h i op hpi a (fun _ e => ha (e ▸ rfl))) hpj hne r

/-! ## all interleavings -/

/-- FULL STATEMENT. For every schedule (= every interleaving of the op lists of any number of instances, of the
same or of different compiled modules) run in one heap, the projection to instance `i` — its final state AND its
outputs — is the lone run of `i`'s own ops. `tab` is any instance table whose instances have private mutable
objects (which `instantiate` guarantees for the regenerated shape: `shape_ok`, `instantiate_private`). -/
theorem noninterference (env : Env) (tab : Nat → Option Inst)
    (htab : ∀ k inst, tab k = some inst → inst.id = k ∧ Private inst)
    (i : Inst) (hi : tab i.id = some i) :
    ∀ (sched : List (Nat × Op)) (h : Heap) (s : LState), Rel h i s →
      Rel (hrun env tab h sched).1 i (lrun env s (proj i.id sched)).1 ∧
      projRes i.id (hrun env tab h sched).2 = (lrun env s (proj i.id sched)).2 := by
  have hpi := (htab _ _ hi).2
  intro sched
  induction sched with
  | nil => intro h s r; exact ⟨r, rfl⟩
  | cons e rest ih =>
    intro h s r
    obtain ⟨k, o⟩ := e
    by_cases hk : k = i.id
    · subst hk
      obtain ⟨r', ho⟩ := step_refines_lone env h i s o hpi r
      simpa [hrun, hi, proj, lrun, projRes, ho] using ih _ _ r'
    · cases ht : tab k with
      | none => simpa [hrun, ht, proj, hk] using ih h s r
      | some inst =>
        obtain ⟨hid, hpj⟩ := htab k inst ht
        have r' := step_preserves_others env h inst i s o hpj hpi (hid ▸ Ne.symm hk) r
        simpa [hrun, ht, proj, projRes, hk] using ih _ s r'

/-- whatever instance `i` just did, the next step of another instance `j` has the result and the effect it has for
`j` alone -/
theorem step_after_other (env : Env) (h : Heap) (i j : Inst) (sj : LState) (op op' : Op)
    (hpi : Private i) (hpj : Private j) (hne : j.id ≠ i.id) (r : Rel h j sj) :
    let h' := (hstep env h i op).1
    (hstep env h' j op').2 = (lstep env sj op').2 ∧ Rel (hstep env h' j op').1 j (lstep env sj op').1 :=
  (step_refines_lone env _ j sj op' hpj (step_preserves_others env h i j sj op hpi hpj hne r)).symm

/-- dropping a data segment in instance `i` leaves every other instance `j` able to `memory.init` from it:
the `memory.init` of `j` after `i`'s drop has the result and the effect it has for `j` alone -/
theorem drop_is_local (env : Env) (h : Heap) (i j : Inst) (sj : LState) (k k' d s n : Nat)
    (hpi : Private i) (hpj : Private j) (hne : j.id ≠ i.id) (r : Rel h j sj) :
    let h' := (hstep env h i (.ddrop k)).1
    (hstep env h' j (.minit k' d s n)).2 = (lstep env sj (.minit k' d s n)).2 ∧
    Rel (hstep env h' j (.minit k' d s n)).1 j (lstep env sj (.minit k' d s n)).1 :=
  step_after_other env h i j sj (.ddrop k) (.minit k' d s n) hpi hpj hne r

/-- same for element segments and `table.init` -/
theorem elem_drop_is_local (env : Env) (h : Heap) (i j : Inst) (sj : LState) (k k' d s n : Nat)
    (hpi : Private i) (hpj : Private j) (hne : j.id ≠ i.id) (r : Rel h j sj) :
    let h' := (hstep env h i (.edrop k)).1
    (hstep env h' j (.tinit k' d s n)).2 = (lstep env sj (.tinit k' d s n)).2 ∧
    Rel (hstep env h' j (.tinit k' d s n)).1 j (lstep env sj (.tinit k' d s n)).1 :=
  step_after_other env h i j sj (.edrop k) (.tinit k' d s n) hpi hpj hne r

/-! ## instantiating later does not disturb, and is not disturbed -/

theorem setMany_frame (mk : Nat → Addr) (mkObj : List Nat → Obj) (a : Addr) (ha : ∀ k, a ≠ mk k) :
    ∀ (xs : List (List Nat)) (h : Heap) (k : Nat), (setMany h mk mkObj k xs).get a = h.get a
  | [], _, _ => rfl
  | x :: xs, h, k => by
    simp only [setMany]
    rw [setMany_frame mk mkObj a ha xs _ (k + 1)]
    exact Heap.get_set_ne _ _ _ _ (ha k)

/-- `instantiate` of a new instance `iid` writes only `iid`'s own objects and segment copies -/
theorem instantiate_frame (sh : Shape) (hs : sh.ok = true) (h : Heap) (mid : Nat) (md : Module) (iid : Nat) (a : Addr)
    (h1 : ∀ f, a ≠ .own iid f) (h2 : ∀ k, a ≠ .ownD iid k) (h3 : ∀ k, a ≠ .ownE iid k) :
    (instantiate sh h mid md iid).1.get a = h.get a := by
  have hD := setMany_frame (fun k => Addr.ownD iid k) Obj.bytes a h2
  have hE := setMany_frame (fun k => Addr.ownE iid k) Obj.refs a h3
  simp only [instantiate, mkInst_of_ok sh hs, setIf, (Shape.ok_iff sh).1 hs, beq_self_eq_true, if_true,
    Heap.get_set_ne _ _ _ _ (h1 _)]
  split <;> split <;> simp only [hD, hE]

/-- an instance created while others are running leaves every existing instance exactly as it was -/
theorem instantiate_preserves_others (sh : Shape) (hs : sh.ok = true) (h : Heap) (mid : Nat) (md : Module) (iid : Nat)
    (j : Inst) (sj : LState) (hpj : Private j) (hne : j.id ≠ iid) (r : Rel h j sj) :
    Rel (instantiate sh h mid md iid).1 j sj :=
  rel_frame iid (fun a ha => instantiate_frame sh hs h mid md iid a
    (fun _ e => ha (e ▸ rfl)) (fun _ e => ha (e ▸ rfl)) (fun _ e => ha (e ▸ rfl))) hpj hne r

/-! ## non-vacuity and the necessity of the shape obligation (samples: tests, not proofs of the property) -/

def exEnv : Env := ⟨[7, 8, 9, 10], [([102, 48], [65, 66, 67])], [120, 121]⟩
def exMod : Module :=
  { memMin := 1, memMax := 2, tblMin := 3, tblMax := 4, globals := [(32, 5)], fns := [(1001, true), (1002, false)],
    dpas := [[11, 12, 13]], dact := [(16, [1, 2])], epas := [[1, 0, 2]], eact := [(0, [2])] }
def exHeap (sh : Shape) : Heap × Inst × Inst :=
  let h := loadModule Heap.empty 0 exMod
  let r0 := instantiate sh h 0 exMod 0
  let r1 := instantiate sh r0.1 0 exMod 1
  (r1.1, r0.2, r1.2)

/-- sample: two instances of one module under the regenerated shape are `Private` and their views are the lone
initial state — the hypotheses of `noninterference` are met by a concrete non-trivial heap -/
example : view (exHeap Wz.Gen.C11Sharing.shape).1 (exHeap Wz.Gen.C11Sharing.shape).2.1 = some (linit exMod) := by
  rw [shape_asIs]; decide +kernel
example : view (exHeap Wz.Gen.C11Sharing.shape).1 (exHeap Wz.Gen.C11Sharing.shape).2.2 = some (linit exMod) := by
  rw [shape_asIs]; decide +kernel
example : Private (exHeap Shape.asIs).2.1 := ⟨rfl, rfl, rfl, rfl, rfl, rfl, 0, rfl⟩

/-- sample: the abstraction relation itself holds for both instances of the sample heap (the hypothesis `Rel h i s` of
`noninterference` is met by a concrete heap with an aliased data segment and a per-instance element copy) -/
example : Rel (exHeap Shape.asIs).1 (exHeap Shape.asIs).2.1 (linit exMod) :=
  ⟨by decide +kernel, by decide +kernel, by decide +kernel, by decide +kernel, by decide +kernel,
   ⟨[some (.shared 0 (.dseg 0))], by decide +kernel, .cons ⟨trivial, by decide +kernel⟩ .nil⟩,
   ⟨[some (.ownE 0 0)], by decide +kernel, .cons ⟨rfl, by decide +kernel⟩ .nil⟩⟩
example : Rel (exHeap Shape.asIs).1 (exHeap Shape.asIs).2.2 (linit exMod) :=
  ⟨by decide +kernel, by decide +kernel, by decide +kernel, by decide +kernel, by decide +kernel,
   ⟨[some (.shared 0 (.dseg 0))], by decide +kernel, .cons ⟨trivial, by decide +kernel⟩ .nil⟩,
   ⟨[some (.ownE 1 0)], by decide +kernel, .cons ⟨rfl, by decide +kernel⟩ .nil⟩⟩

/-- sample: instance 0 drops data segment 0 and writes its memory; instance 1 can still `memory.init` from the segment
and reads 0 where instance 0 wrote -/
example :
    let w := exHeap Shape.asIs
    let h1 := (hstep exEnv w.1 w.2.1 (.ddrop 0)).1
    let h2 := (hstep exEnv h1 w.2.1 (.m (.store8 100 77))).1
    (hstep exEnv h2 w.2.1 (.minit 0 200 0 3)).2 = .trap "mem" ∧
    (hstep exEnv h2 w.2.2 (.minit 0 200 0 3)).2 = .ok [] ∧
    (hstep exEnv h2 w.2.2 (.m (.load8 100))).2 = .ok [0] := by decide +kernel

/-- WITNESS that the obligation `shape_ok` is what carries the property: were the memory buffer cached on the compiled
module (shape.mem = shared), a store of instance 0 would be read by instance 1 -/
theorem shared_memory_interferes :
    let sh : Shape := { Shape.asIs with mem := .shared }
    let w := exHeap sh
    (hstep exEnv (hstep exEnv w.1 w.2.1 (.m (.store8 100 77))).1 w.2.2 (.m (.load8 100))).2 = .ok [77] := by decide +kernel

/-- … and were the data-instance header list shared (built once per compiled module), a drop would be global -/
theorem shared_headers_interfere :
    let sh : Shape := { Shape.asIs with dhdr := .shared }
    let w := exHeap sh
    (hstep exEnv (hstep exEnv w.1 w.2.1 (.ddrop 0)).1 w.2.2 (.minit 0 200 0 3)).2 = .trap "mem" := by decide +kernel

end Wz.C11
