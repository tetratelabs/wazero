/-
C20 — Function listeners see every call, correctly bracketed.

Theorems about `Wz.Model.Listener.run` (the event stream of a call forest as each engine produces it).
Engine variants (`Engine` record = the finding switches): `interpAsIs`, `wazevoAsIs` (the code as it is) and
`repaired`.  The harness selects, per engine, the variant that the real code is tied to on each run.
-/
import Wz.Model.Listener
import Wz.Proofs.C20_Bracket
import Wz.Proofs.C20_Project
import Wz.Proofs.C20_Params

namespace Wz.C20
open Wz.Model.Listener

/-! ### Bracketing -/

/-- General form: any engine variant brackets its events on every forest that meets `good`
(no in-place/jump tail call, overflow panics without announcing the call, chains within the abort cap). -/
theorem events_bracketed_of_good (E : Engine) (C : Cfg) (fr : Forest) (h : good E C 0 fr = true) :
    WellBracketed (events E C fr) :=
  (run_post E C fr true [] [] h).closed

theorem good_repaired (C : Cfg) : ∀ fr d, good repaired C d fr = true := by
  intro fr
  induction fr with
  | done => intro d; rfl
  | call tail f args body out next ihb ihn =>
    intro d
    have hb := ihb (if C.host f = true then 0 else d + 1)
    have hn := ihn d
    unfold repaired at hb hn
    simp only [good, repaired, Bool.or_self, Bool.and_false, Bool.not_false, Bool.and_self, Bool.or_true, hb, hn]

/-- FULL STRENGTH (repaired variant): for every call forest (every call form, nesting, traps, exits, host
panics, overflow, tail calls), every host/listener assignment: every `Before` is matched by exactly one
`After`/`Abort`, properly nested. -/
theorem events_bracketed (C : Cfg) (fr : Forest) : WellBracketed (events repaired C fr) :=
  events_bracketed_of_good repaired C fr (good_repaired C fr 0)

theorem good_of_syntactic (E : Engine) (C : Cfg) (c : Nat) (hc : E.abortCap = some c) :
    ∀ fr d, noTail fr = true → noOverflow fr = true → fits C c d fr = true → good E C d fr = true := by
  intro fr
  induction fr with
  | done => intro d _ _ _; rfl
  | call tail f args body out next ihb ihn =>
    intro d ht ho hf
    simp only [noTail, noOverflow, fits, Bool.and_eq_true, Bool.not_eq_true', bne_iff_ne, decide_eq_true_eq] at ht ho hf
    obtain ⟨⟨ht1, ht2⟩, ht3⟩ := ht
    obtain ⟨⟨ho1, ho2⟩, ho3⟩ := ho
    obtain ⟨⟨hf1, hf2⟩, hf3⟩ := hf
    simp only [good, hc, ht1, Bool.false_and, Bool.not_false, Bool.true_and, Bool.and_eq_true, Bool.or_eq_true,
      bne_iff_ne, decide_eq_true_eq]
    exact ⟨⟨⟨Or.inl ho1, hf1⟩, ihb _ ht2 ho2 hf2⟩, ihn _ ht3 ho3 hf3⟩

/-- PARTIAL (interpreter as it is).  Full statement: `∀ C fr, WellBracketed (events interpAsIs C fr)` — false:
`deep_unwind_witness`, `interp_overflow_witness`, `interp_tail_witness`.  Proved under: no call chain inside
one call engine deeper than 30 frames, no stack overflow, no tail call. -/
theorem events_bracketed_interp_partial (C : Cfg) (fr : Forest)
    (ht : noTail fr = true) (ho : noOverflow fr = true) (hf : fits C 30 0 fr = true) :
    WellBracketed (events interpAsIs C fr) :=
  events_bracketed_of_good _ C fr (good_of_syntactic _ C 30 rfl fr 0 ht ho hf)

/-- PARTIAL (compiler as it is).  Full statement false: `wazevo_deep_unwind_witness`,
`overflow_no_abort_witness`, `wazevo_tail_witness`. Same hypotheses as for the interpreter. -/
theorem events_bracketed_wazevo_partial (C : Cfg) (fr : Forest)
    (ht : noTail fr = true) (ho : noOverflow fr = true) (hf : fits C 30 0 fr = true) :
    WellBracketed (events wazevoAsIs C fr) :=
  events_bracketed_of_good _ C fr (good_of_syntactic _ C 30 rfl fr 0 ht ho hf)

/-! ### Witnesses of the findings (concrete counterexamples, evaluated by the kernel) -/

def allOn : Cfg := { host := fun f => f == 3, lsn := fun _ => true }

/-- 31 nested calls (f1/f2 alternating), the innermost executes `unreachable`. -/
def deep31 : Forest := chain 1 2 30 (.node 1 [0] .done (.fail .unreachable))
/-- unbounded recursion cut off by the engine after 5 frames (the depth is implementation-defined). -/
def overflow5 : Forest := chain 1 2 5 (.node 2 [0] .done (.fail .overflow))
/-- f1 leaves through `return_call f2`. -/
def tail12 : Forest := .node 1 [] (.call true 2 [3] .done (.ret [10]) .done) (.ret [10])

/-- F22: the interpreter as it is leaves the outermost of 31 frames open. -/
theorem deep_unwind_witness : ¬ WellBracketed (events interpAsIs allOn deep31) := by decide +kernel
/-- F22 (compiler): same cap through `UnwindStack`. -/
theorem wazevo_deep_unwind_witness : ¬ WellBracketed (events wazevoAsIs allOn deep31) := by decide +kernel
/-- F21: the compiler as it is delivers no `Abort` at all on stack overflow. -/
theorem overflow_no_abort_witness : ¬ WellBracketed (events wazevoAsIs allOn overflow5) := by decide +kernel
/-- F22b: the interpreter announces the call that overflows (Before) although it never gets a frame. -/
theorem interp_overflow_witness : ¬ WellBracketed (events interpAsIs allOn overflow5) := by decide +kernel
/-- F31: interpreter, in-place tail call: the callee gets no events at all (here the stream stays
bracketed but the call of f2 is invisible) ... -/
theorem interp_tail_witness :
    events interpAsIs allOn tail12 = [.before 1 [] [1], .after 1 [10]] := by decide +kernel
/-- F32: compiler, tail call as a jump: the caller is never closed. -/
theorem wazevo_tail_witness : ¬ WellBracketed (events wazevoAsIs allOn tail12) := by decide +kernel
/-- F30: the compiler's stack iterator lists 29 of the 31 frames at the innermost `Before`. -/
theorem wazevo_stack_truncated_witness :
    ((events wazevoAsIs allOn deep31).filterMap (fun e => match e with
      | .before _ [0] s => some s.length | _ => none)) = [29] := by decide +kernel
/-- the repaired variant on the same inputs (test, not a proof of the general statement) -/
example : WellBracketed (events repaired allOn deep31) := by decide +kernel
example : WellBracketed (events repaired allOn overflow5) := by decide +kernel
example : events repaired allOn tail12 = [.before 1 [] [1], .before 2 [3] [2, 1], .after 2 [10], .after 1 [10]] := by decide +kernel

/-- non-vacuity of the `_partial` hypotheses: a 30-frame chain with a host call-back that traps meets them -/
example : noTail (chain 1 2 29 (.node 3 [] (.node 1 [7] .done (.fail .divZero)) (.ret []))) = true ∧
    noOverflow (chain 1 2 29 (.node 3 [] (.node 1 [7] .done (.fail .divZero)) (.ret []))) = true ∧
    fits allOn 30 0 (chain 1 2 29 (.node 3 [] (.node 1 [7] .done (.fail .divZero)) (.ret []))) = true := by decide +kernel

/-! ### Listener subsets: results and events -/

/-- `results_independent_of_listeners`: the outcome of a run (which failure, if any, and the frames unwound)
is the same for every listener assignment — for every engine variant and forest. (The values returned are tree data;
that the real engines return the same values with and without listeners is checked by the harness monitor.) -/
theorem results_independent_of_listeners (E : Engine) (host : Nat → Bool) (S S' : Nat → Bool) (fr : Forest) :
    result E ⟨host, S⟩ fr = result E ⟨host, S'⟩ fr := by
  unfold result
  rw [run_project E host S, run_project E host S']
  rfl

/-- `subset_events_are_projection`: what a listener subset `S` sees is exactly the projection of what all listeners
see — same order, same parameters/results, same stack snapshots. For every engine variant and forest. -/
theorem subset_events_are_projection (E : Engine) (host : Nat → Bool) (S : Nat → Bool) (fr : Forest) :
    events E ⟨host, S⟩ fr = (events E ⟨host, fun _ => true⟩ fr).filter (fun e => S e.fn) :=
  congrArg Prod.fst (run_project E host S fr true [])

/-- `events_carry_actual_params_results`: for EVERY engine variant, listener assignment and forest, each `Before`
in the stream carries the function and the arguments of a call node of the forest, and each `After` the function and
the returned values of a node that returns: no event is invented, none carries another call's values. (Which node
the values are compared with on the real engines is tie B: the reference evaluator.) -/
theorem events_carry_actual_params_results (E : Engine) (C : Cfg) (fr : Forest) :
    (∀ f a s, Event.before f a s ∈ events E C fr → (f, a) ∈ calls fr) ∧
    (∀ f v, Event.after f v ∈ events E C fr → (f, Outcome.ret v) ∈ outs fr) :=
  ⟨fun f a s h => (run_isEventOf E C fr true [] (.before f a s) h).1,
   fun f v h => run_isEventOf E C fr true [] (.after f v) h⟩

/-- `stack_iterator_starts_at_callee` (a first part of `stack_iterator_is_chain`): for every engine variant whose stack
iterator yields at least one frame (`stackCap ≠ some 0`; all three variants), every forest and listener assignment, the
first frame the iterator handed to `Before` yields is the function being called. -/
theorem stack_iterator_starts_at_callee (E : Engine) (C : Cfg) (fr : Forest) (hc : E.stackCap ≠ some 0) :
    ∀ f a s, Event.before f a s ∈ events E C fr → s.head? = some f :=
  fun f a s h => (run_isEventOf E C fr true [] (.before f a s) h).2 hc

/-- the hypothesis holds for the three engine variants of the model -/
example : interpAsIs.stackCap ≠ some 0 ∧ wazevoAsIs.stackCap ≠ some 0 ∧ repaired.stackCap ≠ some 0 := by decide +kernel

/-- the statement is not vacuous: the stream of the tail-call sample has both kinds of event -/
example : Event.before 2 [3] [2, 1] ∈ events repaired allOn tail12 ∧ Event.after 2 [10] ∈ events repaired allOn tail12 := by
  decide +kernel

/-
Not proved here (left out for time; covered by ties B and C on the real code):
* `stack_iterator_is_chain` (beyond `stack_iterator_starts_at_callee` above): in the model the snapshot at a `Before` is `snapshot E (f :: st)` where `st` is the chain of the
  enclosing calls of the same call engine, all frames with or without listener, by construction of `run`;
  `subset_events_are_projection` shows it does not depend on the listener set, `wazevo_stack_truncated_witness` shows the
  as-is compiler truncates it (F30). The harness monitor `chainMonitor` checks it against the open-call stack of the real stream.
* (`params_results_actual` is `events_carry_actual_params_results` above.)
* `engines_same_events`: the as-is variants differ only in `beforeAtOverflow/overflowPanics/tail*/stackCap`; equality of the two
  real engines' streams is checked directly by the harness (`C20:engines-differ`).
-/

end Wz.C20
