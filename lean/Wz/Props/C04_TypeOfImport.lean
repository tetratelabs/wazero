import Wz.Proofs.ShapeLookup
/-!
# C04 companion: the type of a re-exported imported function

When an export of the exporter is itself an imported function, the linker matches an import against
`typeOfFunction(k)`: the type of the `k`-th FUNCTION import of the exporter, whose import section mixes functions with
globals, memories and tables.  Model: the import section as a list of (is it a function?, type index); `scan` is the
loop of `typeOfFunction` (skip non-functions, compare the running function index, increment).  Started at the head
with counter 0 it returns exactly the `k`-th element of the list of function imports, for every import section and
every `k` (`scan_is_kth_function_import`, by the general statement for any counter value).  Starting it at position `k`
with the counter preset to `k` - seeded change C04-7 - can return an earlier function's type once a non-function
import precedes (witness).  The loop's shape on the source is regenerated.
-/

namespace Wz.C04

/-- the loop of `typeOfFunction` over (isFunc, typeIdx), with running function index `cur`, looking for `k` -/
def scan : List (Bool × Nat) → Nat → Nat → Option Nat
  | [], _, _ => none
  | (false, _) :: r, cur, k => scan r cur k
  | (true, t) :: r, cur, k => if k = cur then some t else scan r (cur + 1) k

/-- the types of the function imports, in order: index space of imported functions -/
def funcImports (imps : List (Bool × Nat)) : List Nat := (imps.filter (·.1)).map (·.2)

theorem scan_general (imps : List (Bool × Nat)) (cur k : Nat) (h : cur ≤ k) :
    scan imps cur k = (funcImports imps)[k - cur]? := by
  induction imps generalizing cur with
  | nil => rfl
  | cons x r ih =>
    obtain ⟨b, t⟩ := x
    cases b with
    | false => exact ih cur h
    | true =>
      show (if k = cur then some t else scan r (cur + 1) k) = (t :: funcImports r)[k - cur]?
      by_cases hk : k = cur
      · rw [if_pos hk, hk, Nat.sub_self]; rfl
      · rw [if_neg hk, ih (cur + 1) (by omega), show k - cur = (k - (cur + 1)) + 1 by omega]; rfl

/-- **the scan from the head returns the k-th function import**, whatever else is imported in between -/
theorem scan_is_kth_function_import (imps : List (Bool × Nat)) (k : Nat) :
    scan imps 0 k = (funcImports imps)[k]? := by
  simpa using scan_general imps 0 k (Nat.zero_le k)

/-- the skip-ahead variant: start at position k with the counter preset to k.  Imports (func t0, GLOBAL, func t1,
func t2), k = 2: the right answer is t2, the variant answers t1 -/
theorem skip_ahead_witness :
    let imps := [(true, 10), (false, 99), (true, 11), (true, 12)]
    scan imps 0 1 = some 11 ∧ scan (imps.drop 1) 1 1 = some 11 ∧
    scan imps 0 2 = some 12 ∧ scan (imps.drop 2) 2 2 = some 11 := by decide

/-- non-vacuity: functions interleaved with a global, a memory and a table -/
example : scan [(false, 0), (true, 7), (false, 0), (false, 0), (true, 8), (true, 9)] 0 2 = some 9 := by decide

/-- the loop on the source, regenerated: counter from 0, over the whole import section, non-functions skipped -/
theorem type_of_import_scans_from_the_head :
    Wz.Gen.Shapes.get "c04.type_of_import" =
      some "cur := Index(0) ;; for i := range m.ImportSection ;; skip if imp.Type != ExternTypeFunc ;; hit if funcIdx == cur ;; cur++" := by
  shape_lookup

end Wz.C04
