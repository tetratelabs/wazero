import Wz.Proofs.ShapeLookup
/-!
# C10 companion: closing an instance visits EVERY descriptor

`FSContext.Close` - the step of `Module.Close`, `CloseWithExitCode` and `Runtime.Close` that releases the files, directories
and sockets an instance still holds - walks the descriptor table with `Table.Range`: for every 64-bit mask word, for
every set bit, the callback.  A descriptor table may be SPARSE (`fd_renumber` places a descriptor anywhere; closing
descriptors empties words in the middle), so an all-zero word is skipped (`continue`), not taken as the end (`break`).
`range_visits_every_set_bit`: with `continue` the walk visits exactly the set positions, for every list of words;
`break_misses_descriptors_behind_a_gap_witness`: with `break` a descriptor behind an empty word is never visited (seeded
change C10-11).  The loop headers and what each skip condition does are a regenerated shape.
-/

namespace Wz.C10

/-- the positions visited inside one word (bits as booleans), numbered from `base` -/
def visitWord (base : Nat) : List Bool → List Nat
  | [] => []
  | b :: bs => (if b then [base] else []) ++ visitWord (base + 1) bs

/-- `Range` with `continue` on an empty word (words of `w` bits each) -/
def rangeContinue (w : Nat) : Nat → List (List Bool) → List Nat
  | _, [] => []
  | i, word :: rest => (if word.all (· == false) then [] else visitWord (i * w) word) ++ rangeContinue w (i + 1) rest

/-- `Range` with `break` on an empty word -/
def rangeBreak (w : Nat) : Nat → List (List Bool) → List Nat
  | _, [] => []
  | i, word :: rest => if word.all (· == false) then [] else visitWord (i * w) word ++ rangeBreak w (i + 1) rest

theorem visitWord_empty_of_all_false (base : Nat) (word : List Bool) (h : word.all (· == false) = true) : visitWord base word = [] := by
  induction word generalizing base with
  | nil => rfl
  | cons b bs ih =>
    simp only [List.all_cons, Bool.and_eq_true, beq_iff_eq] at h
    simp [visitWord, h.1, ih (base + 1) h.2]

/-- skipping an empty word loses nothing: the walk is the concatenation of the per-word visits, for EVERY table -/
theorem range_visits_every_set_bit (w : Nat) (words : List (List Bool)) (i : Nat) :
    rangeContinue w i words = (words.zipIdx i).flatMap (fun p => visitWord (p.2 * w) p.1) := by
  induction words generalizing i with
  | nil => rfl
  | cons word rest ih =>
    simp only [rangeContinue, List.zipIdx_cons, List.flatMap_cons, ih]
    by_cases h : word.all (· == false) = true
    · rw [if_pos h, visitWord_empty_of_all_false _ _ h]
    · rw [if_neg h]

/-- descriptors 0, 1 in word 0, nothing in word 1, descriptor 8 in word 2 (words of 4 bits): `break` never reaches 8 -/
theorem break_misses_descriptors_behind_a_gap_witness :
    rangeContinue 4 0 [[true, true, false, false], [false, false, false, false], [true, false, false, false]] = [0, 1, 8] ∧
    rangeBreak 4 0 [[true, true, false, false], [false, false, false, false], [true, false, false, false]] = [0, 1] := by
  decide +kernel

theorem table_range_shape :
    Wz.Gen.Shapes.get "c10.table_range" =
      some "range t.masks ;; if mask == 0 -> continue ;; for j := Key(0); j < 64; j++ ;; if (mask & (1 << j)) == 0 -> continue ;; if key := Key(i)*64 + j; !f(key, t.items[key]) -> return" := by
  shape_lookup

end Wz.C10
