import Wz.Proofs.ShapeLookup
/-!
# C10 companion: the runtime's closed word

`Runtime.CloseWithExitCode` publishes "closed with exit code c" as ONE 64-bit word that is compared with 0 by every later
operation (`failIfClosed`) and claimed by a compare-and-swap from 0.  The word has to be non-zero for EVERY exit code,
and the exit code has to be recoverable from it.  `1 + c·2^32` does both (`closed_word_ne_zero`,
`closed_word_exit_code`); the tempting shorter encoding `c + 1` computed in 32 bits is 0 for the exit code 0xffffffff
(`sys.ExitCodeContextCanceled`): the runtime would close its store and engine and still believe it is open
(`succ32_word_zero_witness`, seeded change C10-8).  The source text of the definition, of the test and of the recovery
is a regenerated shape.
-/

namespace Wz.C10

/-- `uint64(1) + uint64(exitCode)<<32` -/
def closedWord (c : BitVec 32) : BitVec 64 := 1#64 + (c.zeroExtend 64) <<< 32

/-- `uint64(exitCode + 1)` -/
def succ32Word (c : BitVec 32) : BitVec 64 := (c + 1#32).zeroExtend 64

theorem closed_word_toNat (c : BitVec 32) : (closedWord c).toNat = 1 + c.toNat * 2 ^ 32 := by
  have h := c.isLt
  simp only [closedWord, BitVec.toNat_add, BitVec.toNat_shiftLeft, BitVec.toNat_setWidth, BitVec.toNat_ofNat]
  rw [Nat.shiftLeft_eq]
  omega

/-- the word is non-zero for every exit code: a closed runtime is never mistaken for an open one -/
theorem closed_word_ne_zero (c : BitVec 32) : closedWord c ≠ 0#64 := by
  intro h
  have := congrArg BitVec.toNat h
  rw [closed_word_toNat] at this
  simp at this

/-- `uint32(closed >> 32)` recovers the exit code -/
theorem closed_word_exit_code (c : BitVec 32) : ((closedWord c) >>> 32).truncate 32 = c := by
  apply BitVec.eq_of_toNat_eq
  have h := c.isLt
  simp only [BitVec.truncate, BitVec.toNat_setWidth, BitVec.toNat_ushiftRight, closed_word_toNat, Nat.shiftRight_eq_div_pow]
  omega

/-- two different exit codes give two different words (the first close wins and its code is the one reported) -/
theorem closed_word_injective (a b : BitVec 32) (h : closedWord a = closedWord b) : a = b := by
  rw [← closed_word_exit_code a, ← closed_word_exit_code b, h]

/-- the 32-bit successor encoding loses the exit code 0xffffffff: its word is 0 = "never closed" -/
theorem succ32_word_zero_witness : succ32Word 0xffffffff#32 = 0#64 := by decide

theorem runtime_closed_word_shape :
    Wz.Gen.Shapes.get "c10.runtime_closed_word" =
      some "closed := uint64(1) + uint64(exitCode)<<32 ;; closed := r.closed.Load(); closed != 0 ;; uint32(closed >> 32)" := by
  shape_lookup

end Wz.C10
