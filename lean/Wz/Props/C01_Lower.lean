/-
C01 (lowering) — the interpreter's lowering of structured control flow to flat code with labels, branch
targets, drop ranges and stack-relative local accesses preserves the semantics.

Model: `Wz.Model.FlatLower` (`lower` mirrors compiler.go + lowerIR, `runFlat` mirrors callNativeFunc; tied to
the real code by the harness `hlower`, see docs/C01_lower.md).  Reference: `runStruct`, i.e.
`Wz.Spec.Wasm.invoke` on the embedding of the fragment into `Wz.Spec.Wasm.Instr`.

Proved here for EVERY function `f` of the fragment with `wellTyped f` (decidable stack typing of live code),
`Small f` (fewer than 2^64-1 lowered operations) and EVERY argument vector that fits the parameter types:

* `C01_lower_refines`  — forward (a structured run that finishes with fuel `n` is matched by the flat run for
  every sufficiently large flat fuel: same result values / same trap), backward (a flat run that finishes is
  matched by a structured run), and divergence (the structured run exhausts every fuel iff the flat run does);
* `C01_lower_no_panic` — the flat executor never evaluates an out-of-range slice or index expression
  (`Pick`/`Set` depths, drop ranges, `popValue` on an empty stack, the result slice): the outcome `panic` is
  impossible;
* `C01_lower_targets_valid` — every branch target in `lower f` (of `Br`, `BrIf`, `BrTable`) is the return
  address or the index of a `Label` operation (for every `f`, typed or not);
* `C01_lower_labels_unique` — no label is defined twice.
-/
import Wz.Proofs.C01_FlatLower

namespace Wz.C01
open Wz.Spec.Wasm Wz.Model.FlatLower Wz.Proofs.FlatLower

/-- the arguments fit the parameter types: right number, an i32 argument is `< 2^32`, an i64 argument `< 2^64` -/
abbrev ArgsOK (f : Fn) (args : List Nat) : Prop := ValsOK f.params args

instance (f : Fn) : Decidable (Small f) := inferInstanceAs (Decidable ((lowerSym f).length < retAddr))

/-- **Refinement, both directions and divergence.** -/
theorem C01_lower_refines (f : Fn) (hwt : wellTyped f = true) (hsmall : Small f) (args : List Nat)
    (hargs : ArgsOK f args) :
    (∀ n, runStruct f args n ≠ .exhausted →
      ∃ m, ∀ m', m ≤ m' → runFlat f args m' = FlatOut.ofSpec (runStruct f args n)) ∧
    (∀ m, runFlat f args m ≠ .exhausted →
      ∃ n, FlatOut.ofSpec (runStruct f args n) = runFlat f args m) ∧
    ((∀ n, runStruct f args n = .exhausted) ↔ (∀ m, runFlat f args m = .exhausted)) :=
  ⟨lower_forward f hwt hsmall args hargs, lower_backward f hwt hsmall args hargs,
    lower_diverges f hwt hsmall args hargs⟩

/-- consequence: result values agree (for the structured fuel `n` there is a flat fuel `m` and vice versa) -/
theorem C01_lower_values (f : Fn) (hwt : wellTyped f = true) (hsmall : Small f) (args : List Nat)
    (hargs : ArgsOK f args) (vs : List Nat) :
    (∃ n, runStruct f args n = .values vs) ↔ (∃ m, runFlat f args m = .values vs) :=
  lower_outcome_iff f hwt hsmall args hargs (.values vs) (by simp)

/-- consequence: traps agree -/
theorem C01_lower_traps (f : Fn) (hwt : wellTyped f = true) (hsmall : Small f) (args : List Nat)
    (hargs : ArgsOK f args) (k : String) :
    (∃ n, runStruct f args n = .trap k) ↔ (∃ m, runFlat f args m = .trap k) :=
  lower_outcome_iff f hwt hsmall args hargs (.trap k) (by simp)

/-- **Safety of the executor**: no out-of-range slice / index expression is ever evaluated. -/
theorem C01_lower_no_panic (f : Fn) (hwt : wellTyped f = true) (hsmall : Small f) (args : List Nat)
    (hargs : ArgsOK f args) (m : Nat) (w : String) : runFlat f args m ≠ .panic w := by
  intro h
  obtain ⟨n, hn⟩ := lower_backward f hwt hsmall args hargs m (by rw [h]; simp)
  rw [h] at hn
  cases hs : runStruct f args n <;> rw [hs] at hn <;> simp [FlatOut.ofSpec] at hn

/-- **Branch targets**: every target of a `Br` / `BrIf` / `BrTable` of the lowered code is the return address or
the index of a `Label` operation. -/
theorem C01_lower_targets_valid (f : Fn) (op : FlatOp) (hop : op ∈ lower f) (t : Nat) (ht : t ∈ refsOf op) :
    t = retAddr ∨ ∃ l, (lower f)[t]? = some (.label l) := by
  simp only [lower, resolve, List.mem_map] at hop
  obtain ⟨sop, hsop, rfl⟩ := hop
  rw [refsOf_mapT, List.mem_map] at ht
  obtain ⟨l, hl, rfl⟩ := ht
  by_cases hk : l.kind = .ret
  · left; simp [resolveT, hk]
  · right
    rcases lowerSym_refs f l (List.mem_flatMap.mpr ⟨sop, hsop, hl⟩) with h | h
    · exact absurd h hk
    · exact ⟨l, resolve_label_at (lowerSym_nodup f) h hk⟩

/-- label definitions are unique -/
theorem C01_lower_labels_unique (f : Fn) : (labelsOf (lowerSym f)).Nodup := lowerSym_nodup f

/-! ### non-vacuity -/

/-- a loop with `br_if` and a local counter: count up to the argument
`block (loop (local.get 1; i32.const 1; i32.add; local.tee 1; local.get 0; i32.ge_u; br_if 1; br 0)); local.get 1` -/
def countTo : Fn :=
  { params := [.i32], results := [.i32], locals := [.i32],
    body := [.block none [.loop none [.localGet 1, .const .i32 1, .num2 "i32.add", .localTee 1, .localGet 0,
      .num2 "i32.ge_u", .brIf 1, .br 0]], .localGet 1] }

theorem countTo_wellTyped : wellTyped countTo = true := by decide +kernel
theorem countTo_small : Small countTo := by decide +kernel

example : wellTyped countTo = true := countTo_wellTyped
example : Small countTo := countTo_small

/-- its lowering: locals' default value, `Br`/`Label` of the loop header (frame 3), the body with `Pick`/`Set`
depths relative to the static height, the `br_if` with its own else-label (frame 4), the back edge, the
continuation label of the block (frame 2), and the function's `end`: drop parameters and locals under the result -/
example : lower countTo =
    [.const .i32 0, .br 2, .label ⟨.header, 3⟩, .pick 0, .const .i32 1, .num2 "i32.add", .pick 0, .set 2,
     .pick 2, .num2 "i32.ge_u", .brIf 15 11 none, .label ⟨.header, 4⟩, .br 2, .label ⟨.cont, 3⟩, .br 15,
     .label ⟨.cont, 2⟩, .pick 0, .drop ⟨1, 2⟩, .br retAddr] := by rfl


/-! the two runs on the argument 2, evaluated by `simp` (the numeric table dispatches on `name.splitOn "."`,
which the kernel cannot evaluate by `decide`; `splitOn_singleton` takes the two names apart) -/

theorem scalar_add (a b : Nat) :
    Wz.Spec.Num.scalar "i32.add" [a, b] =
      some (.val (Wz.Spec.Int.iadd (Wz.Spec.Num.bv 32 a) (Wz.Spec.Num.bv 32 b)).toNat) := by
  rw [Wz.Proofs.NumNames.scalar_ibin (Wz.Proofs.SplitOn.splitOn_singleton '.' _) .i32]; rfl
theorem scalar_geu (a b : Nat) :
    Wz.Spec.Num.scalar "i32.ge_u" [a, b] =
      some (.val (Wz.Spec.Int.igeU (Wz.Spec.Num.bv 32 a) (Wz.Spec.Num.bv 32 b)).toNat) := by
  rw [Wz.Proofs.NumNames.scalar_ibin (Wz.Proofs.SplitOn.splitOn_singleton '.' _) .i32]; rfl

/-- the flat run (of the code stated above) counts to 2 … -/
example : runFlat countTo [2] 40 = .values [2] := by
  simp only [runFlat, runCode]
  conv in lower countTo => reduce
  simp +decide [runFrom, step, numStep, scalar_add, scalar_geu, numResult, applyDrop, Wz.Spec.Int.iadd,
    Wz.Spec.Int.igeU, Wz.Spec.Int.b2i, Wz.Spec.Num.bv, countTo]

/-- … and so does the structured reference semantics -/
example : runStruct countTo [2] 40 = .values [2] := by
  simp +decide [runStruct, invoke, callFunc, funcType, Fn.toModule, countTo, toInstrs, FI.toInstr, execSeq,
    execInstr, scalar_add, scalar_geu, numResult, Wz.Spec.Int.iadd, Wz.Spec.Int.igeU, Wz.Spec.Int.b2i,
    Wz.Spec.Num.bv, splitTop, arity]

/-- the theorems apply to it, for every argument -/
example (a : Nat) (ha : a < 2 ^ 32) (m : Nat) (w : String) : runFlat countTo [a] m ≠ .panic w :=
  C01_lower_no_panic countTo countTo_wellTyped countTo_small [a] ⟨ha, trivial⟩ m w

example (a : Nat) (ha : a < 2 ^ 32) (vs : List Nat) :
    (∃ n, runStruct countTo [a] n = .values vs) ↔ (∃ m, runFlat countTo [a] m = .values vs) :=
  C01_lower_values countTo countTo_wellTyped countTo_small [a] ⟨ha, trivial⟩ vs

/-- nested blocks with a branch out of two levels that carries a value over a pending operand:
`block i32 (i64.const 1; block (i32.const 7; br 1); drop; i32.const 9)` -/
def brOut : Fn :=
  { params := [], results := [.i32], locals := [],
    body := [.block (some .i32) [.const .i64 1, .block none [.const .i32 7, .br 1], .drop, .const .i32 9]] }

example : wellTyped brOut = true := by decide +kernel
example : Small brOut := by decide +kernel

/-- the branch drops the pending i64 under the carried value (`Drop 1..1`); the code after it is not emitted up
to the inner `end`, whose continuation label is emitted because the end is unreachable -/
example : lower brOut =
    [.const .i64 1, .const .i32 7, .drop ⟨1, 1⟩, .br 8, .label ⟨.cont, 3⟩, .drop ⟨0, 0⟩, .const .i32 9, .br 8,
     .label ⟨.cont, 2⟩, .br retAddr] := by rfl

/-- both semantics return 7 (computed by the kernel), as the theorem says they must agree -/
example : runStruct brOut [] 10 = .values [7] ∧ runFlat brOut [] 10 = .values [7] := by decide +kernel

example : (∃ n, runStruct brOut [] n = .values [7]) ↔ (∃ m, runFlat brOut [] m = .values [7]) :=
  C01_lower_values brOut (by decide +kernel) (by decide +kernel) [] trivial [7]

end Wz.C01
