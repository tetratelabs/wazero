import Wz.Proofs.ShapeLookup
/-!
# C14 companion: the compiler's memory.size reads the length at run time

The optimizing compiler lowers `memory.size` to "load the memory's byte length (from the module context, or through the
imported memory instance), shift right by 16".  The length is a run-time quantity: `memory.grow`, `api.Memory.Grow` and
a limit configured on ANOTHER runtime that shares the compilation cache all change what the same machine code must
answer.  `size_from_length_exact`: the shift of the loaded length is the page count for every page count up to 65535
(the 32-bit length of a 4 GiB memory is finding F13).  `folded_constant_wrong_witness`: a constant folded at compile time
(min == max under the compiling runtime's limit, seeded change C14-8) is wrong for an instance whose memory may grow
under the instantiating runtime's limit.  That the lowering consists of loads, the shift constant and the shift, and
pushes only the shifted value, is a regenerated shape.
-/

namespace Wz.C14

def sizeFromLength (lenBytes : Nat) : Nat := (lenBytes % 2 ^ 32) >>> 16

theorem size_from_length_exact (pages : Nat) (h : pages < 65536) : sizeFromLength (pages * 65536) = pages := by
  have hlt : pages * 65536 < 2 ^ 32 := (Nat.mul_lt_mul_right (by decide)).mpr h
  unfold sizeFromLength
  rw [Nat.mod_eq_of_lt hlt, Nat.shiftRight_eq_div_pow]
  exact Nat.mul_div_cancel _ (by decide)

/-- after a growth by `d` pages the same code answers the new size -/
theorem size_follows_growth (pages d : Nat) (h : pages + d < 65536) :
    sizeFromLength ((pages + d) * 65536) = sizeFromLength (pages * 65536) + d := by
  rw [size_from_length_exact _ h, size_from_length_exact _ (Nat.lt_of_le_of_lt (Nat.le_add_right _ _) h)]

/-- a constant folded under limit = min answers `min` although the instance (limit = min + 1) has grown -/
theorem folded_constant_wrong_witness : ∃ min d : Nat, d > 0 ∧ sizeFromLength ((min + d) * 65536) ≠ min :=
  ⟨1, 1, by decide, by decide⟩

theorem compiler_memory_size_is_loads_and_a_shift :
    Wz.Gen.Shapes.get "c14.compiler_memory_size" = some "AsLoad AsLoad AsLoad AsIconst32 AsUshr state.push(memSize)" := by
  shape_lookup

end Wz.C14
