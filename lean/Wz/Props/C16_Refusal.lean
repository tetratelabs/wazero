import Wz.Proofs.ShapeLookup
/-!
# C16 companion: a refused operation leaves the descriptor table as it found it

`fd_renumber` (and every table operation) is a list of steps: checks that may refuse the call with an errno, and
mutations of the table / of host files.  "Descriptors stay valid until closed" needs every refusal to happen before the
first mutation.  Model: steps over any state; execution stops at the first failing check.  If no check comes after a
mutation, a refused run returns the state it was given, for every state and every step list
(`refused_leaves_state_unchanged`); a mutation hoisted above a failing check changes the state although the call is
refused (`mutation_before_check_witness`: seeded change C16-7, `Delete(from)` moved above the test of the target).
The order of error returns and mutations in `FSContext.Renumber` is a regenerated shape: all reachable error returns
precede the first mutation (the `EBADF` after `InsertAt` cannot happen: `InsertAt` fails only for a negative target,
which the first check has refused).
-/

namespace Wz.C16

inductive Step (σ : Type) where
  | check (p : σ → Bool)
  | mutate (f : σ → σ)

/-- (accepted?, state afterwards) -/
def exec {σ : Type} : List (Step σ) → σ → Bool × σ
  | [], s => (true, s)
  | .check p :: rest, s => if p s then exec rest s else (false, s)
  | .mutate f :: rest, s => exec rest (f s)

/-- no check after a mutation -/
def checksFirst {σ : Type} : List (Step σ) → Bool
  | [] => true
  | .check _ :: rest => checksFirst rest
  | .mutate _ :: rest => rest.all fun st => match st with | .mutate _ => true | .check _ => false

theorem exec_mutations_only_accept {σ : Type} (steps : List (Step σ)) (s : σ)
    (h : steps.all (fun st => match st with | .mutate _ => true | .check _ => false) = true) : (exec steps s).1 = true := by
  induction steps generalizing s with
  | nil => rfl
  | cons st rest ih =>
    cases st with
    | check p => simp at h
    | mutate f =>
      simp only [List.all_cons, Bool.true_and] at h
      exact ih (f s) h

/-- **a refused call changes nothing**, for every state, when all checks precede all mutations -/
theorem refused_leaves_state_unchanged {σ : Type} (steps : List (Step σ)) (s : σ)
    (hc : checksFirst steps = true) (hr : (exec steps s).1 = false) : (exec steps s).2 = s := by
  induction steps generalizing s with
  | nil => cases hr
  | cons st rest ih =>
    cases st with
    | check p =>
      unfold exec at hr ⊢
      split
      · rw [if_pos ‹_›] at hr
        exact ih s hc hr
      · rfl
    | mutate f =>
      -- nothing but mutations follows, so the call was accepted
      rw [show (exec (.mutate f :: rest) s).1 = true from exec_mutations_only_accept rest (f s) hc] at hr
      cases hr

/-- the hoisted mutation: [delete source; check target] on (source present?, target is a pre-open?) -/
theorem mutation_before_check_witness :
    exec [Step.mutate (fun (s : Bool × Bool) => (false, s.2)), Step.check (fun s => !s.2)] (true, true) = (false, (false, true)) := by
  rfl

/-- non-vacuity: check, check, mutate on a refusing state -/
example : checksFirst [Step.check (fun (n : Nat) => n != 3), Step.check (fun n => n < 10), Step.mutate (· + 1)] = true ∧
    exec [Step.check (fun (n : Nat) => n != 3), Step.check (fun n => n < 10), Step.mutate (· + 1)] 3 = (false, 3) := by
  constructor <;> rfl

/-- the order on the source, regenerated -/
theorem renumber_refuses_before_it_mutates :
    Wz.Gen.Shapes.get "c16.renumber_order" =
      some "ret:EBADF ; ret:ENOTSUP ; ret:ENOTSUP ; mut:Close ; mut:Delete ; mut:InsertAt ; ret:EBADF" := by
  shape_lookup

end Wz.C16
