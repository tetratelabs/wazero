/-
C01 — Compiler and interpreter agree on every valid program.  (partial; see DESIGN.md)

Proved here, all for EVERY program / operand value / history of the stated fragment:
* `interp_refines_spec_straightline` — on straight-line integer code the interpreter (its step
  functions regenerated from interpreter.go on every run) computes exactly what the specification
  computes, traps exactly when it traps, never raises a Go run-time panic, never underflows;
* `spec_name_table_agrees_*` — the instruction-name table of the reference semantics
  (`Wz.Spec.Num`, used by the oracle of the three-way differential run) denotes the same functions as
  the typed specification the theorem above is about;
* basic facts about the reference semantics `Wz.Spec.Wasm` (totality by fuel, histories are folds).
Not proved (decided by the three-way differential run only): the interpreter's control lowering,
floats, memory, calls, and everything in the compiler.
-/
import Wz.Spec.Wasm
import Wz.Proofs.C01_straight
import Wz.Gen.NopElim
import Wz.Gen.SideEffects
import Wz.Gen.InstrGroups
import Wz.Proofs.C01_groups
import Wz.Model.CalleeSaved
import Wz.Gen.RegSaved
import Wz.Model.ParMove
import Wz.Proofs.C01_parmove
import Wz.Gen.BlockArgs

namespace Wz.C01
open Wz.Spec Wz.Spec.Wasm Wz.Model.InterpStraight

/-- **Straight-line refinement** (restated; proof in `Wz.Proofs.C01_straight`). -/
theorem C01_interp_straightline (p : List SInstr) (s : List SVal) (o : IOut)
    (h : expected (specRun p s) = some o) : interpRun p (s.map slot) = o :=
  interp_refines_spec_straightline p s o h

/-- consequence: on validated straight-line code the interpreter never raises a Go panic and never
pops an empty stack -/
theorem interp_no_internal_failure (p : List SInstr) (s : List SVal)
    (hv : specRun p s ≠ .error .illTyped) :
    (∀ w, interpRun p (s.map slot) ≠ .goPanic w) ∧ interpRun p (s.map slot) ≠ .underflow := by
  cases hr : specRun p s with
  | ok s' =>
    have := interp_refines_spec_straightline p s (.ok (s'.map slot)) (by simp [hr, expected])
    simp [this]
  | error e =>
    cases e with
    | trap t =>
      have := interp_refines_spec_straightline p s (.trap (trapName t)) (by simp [hr, expected])
      simp [this]
    | illTyped => exact absurd hr hv

/-- non-vacuity: a concrete program with wrap-around, a shift count ≥ width and a signed division
meets the hypothesis, and the theorem pins the interpreter's result -/
example : interpRun [.const (.i32 0xffffffff#32), .const (.i32 2#32), .bin .i32 .add,
      .const (.i32 33#32), .bin .i32 .shl, .const (.i32 0xffffffff#32), .bin .i32 .divS]
    [] = .ok [0xfffffffe#64] := by decide +kernel

example : expected (specRun [.const (.i32 0x80000000#32), .const (.i32 0xffffffff#32), .bin .i32 .divS] [])
    = some (.trap "ErrRuntimeIntegerOverflow") := by decide +kernel

/-! ### the name table of the reference semantics denotes the typed specification -/

def IBinOp.name : IBinOp → String
  | .add => "add" | .sub => "sub" | .mul => "mul" | .divS => "div_s" | .divU => "div_u"
  | .remS => "rem_s" | .remU => "rem_u" | .and => "and" | .or => "or" | .xor => "xor"
  | .shl => "shl" | .shrS => "shr_s" | .shrU => "shr_u" | .rotl => "rotl" | .rotr => "rotr"

def IRelOp.name : IRelOp → String
  | .eq => "eq" | .ne => "ne" | .ltS => "lt_s" | .ltU => "lt_u" | .gtS => "gt_s" | .gtU => "gt_u"
  | .leS => "le_s" | .leU => "le_u" | .geS => "ge_s" | .geU => "ge_u"

def resOfBin {n : Nat} (r : Except Trap (BitVec n)) : Num.Res :=
  match r with
  | .ok v => .val v.toNat
  | .error .divByZero => .trap "div0"
  | .error .overflow => .trap "overflow"

theorem bv_toNat {n : Nat} (a : BitVec n) : Num.bv n a.toNat = a := by
  simp [Num.bv]

/- `Num.ibin` dispatches on the instruction name by a `match` on string literals, i.e. a chain of `if op = "…"`:
unfolding the matcher leaves one test per literal, each decided by `String.reduceEq` (`simp` reducing the `match`
itself evaluates `String.decEq` in the elaborator, which is slow). -/
theorem spec_name_table_agrees_bin (n : Nat) (op : IBinOp) (a b : BitVec n) :
    Num.ibin n (IBinOp.name op) a.toNat b.toNat = some (resOfBin (op.eval a b)) := by
  delta Num.ibin Num.ibin.match_1
  cases op <;> simp only [IBinOp.name, String.reduceEq, ↓reduceDIte, bv_toNat, IBinOp.eval, resOfBin, Num.optRes]
  case divU => cases Int.idivU a b <;> rfl
  case remU => cases Int.iremU a b <;> rfl
  case remS => cases Int.iremS a b <;> rfl
  case divS =>
    simp only [beq_iff_eq, Wz.Proofs.SpecInt.toNat_eq_zero]
    split
    · rfl
    · cases Int.idivS a b <;> rfl

theorem spec_name_table_agrees_rel (n : Nat) (op : IRelOp) (a b : BitVec n) :
    Num.ibin n (IRelOp.name op) a.toNat b.toNat = some (.val (op.eval a b).toNat) := by
  delta Num.ibin Num.ibin.match_1
  cases op <;> simp only [IRelOp.name, String.reduceEq, ↓reduceDIte, bv_toNat, IRelOp.eval]

/-- the regenerated rule only concerns the three shift opcodes -/
theorem nop_elim_opcodes : Wz.Gen.NopElim.opcodes = ["Ishl", "Sshr", "Ushr"] := rfl

theorem shift_by_multiple {w : Nat} (hw : w ∣ 2 ^ w) (x : BitVec w) (v : Nat) (hv : v % w = 0) :
    Int.ishl x (BitVec.ofNat w v) = x ∧ Int.ishrU x (BitVec.ofNat w v) = x ∧ Int.ishrS x (BitVec.ofNat w v) = x := by
  have h0 : (BitVec.ofNat w v).toNat % w = 0 := by rw [BitVec.toNat_ofNat, Nat.mod_mod_of_dvd v hw, hv]
  simp only [Int.ishl, Int.ishrU, Int.ishrS, h0, BitVec.shiftLeft_zero, BitVec.ushiftRight_zero,
    BitVec.sshiftRight_zero, and_self]

/-- `passNopInstElimination` replaces a shift by its first operand when the constant amount `v`
satisfies the regenerated condition: for every operand and every 64-bit constant that is sound,
for i32 and i64 shifts left, right logical and right arithmetic (counts are taken modulo the width). -/
theorem nop_elim_sound32 (x : BitVec 32) (v : Nat) (h : Wz.Gen.NopElim.fires false v = true) :
    Int.ishl x (BitVec.ofNat 32 v) = x ∧ Int.ishrU x (BitVec.ofNat 32 v) = x ∧
      Int.ishrS x (BitVec.ofNat 32 v) = x :=
  shift_by_multiple (by decide) x v (by simpa [Wz.Gen.NopElim.fires, Wz.Gen.NopElim.mod32] using h)

theorem nop_elim_sound64 (x : BitVec 64) (v : Nat) (h : Wz.Gen.NopElim.fires true v = true) :
    Int.ishl x (BitVec.ofNat 64 v) = x ∧ Int.ishrU x (BitVec.ofNat 64 v) = x ∧
      Int.ishrS x (BitVec.ofNat 64 v) = x :=
  shift_by_multiple (by decide) x v (by simpa [Wz.Gen.NopElim.fires, Wz.Gen.NopElim.mod64] using h)

/-- non-vacuity, and the classic wrong modulus: a 64-bit shift by 32 is NOT a no-op -/
example : Wz.Gen.NopElim.fires true 64 = true ∧ Wz.Gen.NopElim.fires true 32 = false ∧
    Int.ishl (1#64) (BitVec.ofNat 64 32) ≠ 1#64 := by decide +kernel

/-! ### dead-code elimination never removes an instruction that can trap, write or transfer control -/

/-- SSA opcodes whose execution is observable even when their result is unused: calls, stores, traps
(`Exit…`), integer division/remainder (trap on zero / overflow), trapping float-to-int conversions,
atomics and control transfers.  `passDeadCodeEliminationOpt` keeps exactly the instructions whose entry
in `instructionSideEffects` is not `sideEffectNone`. -/
def mustKeep : List String :=
  ["Jump", "Call", "CallIndirect", "Store", "Istore8", "Istore16", "Istore32", "ExitWithCode",
   "ExitIfTrueWithCode", "Return", "Brz", "Brnz", "BrTable", "FcvtToSint", "FcvtToUint", "Sdiv", "Srem",
   "Udiv", "Urem", "AtomicRmw", "AtomicStore", "AtomicCas", "Fence", "TailCallReturnCall",
   "TailCallReturnCallIndirect"]

def classOf (op : String) : Option String :=
  (Wz.Gen.SideEffects.table.find? (·.1 == op)).map (·.2)

/-- on the regenerated table: every such opcode is registered and is not eliminable -/
theorem dce_keeps_observable_instructions :
    mustKeep.all (fun op => match classOf op with
      | some c => c != "sideEffectNone"
      | none => false) = true := by decide +kernel

/-- non-vacuity: the table does mark pure instructions as eliminable -/
example : classOf "Iadd" = some "sideEffectNone" := by decide +kernel

/-! ### instruction groups: merging a definition into its consumer never crosses a store or a call

The back ends merge a single-use definition (a load feeding a compare, a compare feeding a branch) into the
instruction that uses it when both carry the same *instruction group id*; that executes the definition at
the consumer's position.  `Wz.Model.InstrGroups` models the numbering of `passDeadCodeEliminationOpt`
(assign, then bump on a strict side effect) and a small machine with loads, pure operations, traps, stores
and calls.  Finding F39 (a load executed after a store it preceded) was a violation of the regenerated
obligation `every_late_instruction_has_a_group` below, not of the rule itself. -/

open Wz.Model.InstrGroups in
/-- **Same group ⇒ nothing with a strict side effect in between.**  For every instruction list numbered from
any start, if the instruction after the prefix `pre` and the one `mid.length + 1` positions later carry the
same group id, then neither the first nor anything between them is a store or a call. -/
theorem same_group_no_strict_between (g : Nat) (pre : List Ins) (a : Ins) (mid : List Ins) (b : Ins) (post : List Ins)
    (h : (gidsFrom g (pre ++ a :: (mid ++ b :: post)))[pre.length]? =
         (gidsFrom g (pre ++ a :: (mid ++ b :: post)))[pre.length + 1 + mid.length]?) :
    a.eff ≠ .strict ∧ ∀ i ∈ mid, i.eff ≠ .strict := by
  have h1 := gid_after_prefix g pre a (mid ++ b :: post)
  have h2 := gid_after_prefix g (pre ++ a :: mid) b post
  have e : pre ++ a :: (mid ++ b :: post) = (pre ++ a :: mid) ++ b :: post := by simp
  rw [e] at h h1
  have hl : (pre ++ a :: mid).length = pre.length + 1 + mid.length := by simp; omega
  rw [hl] at h2
  rw [h1, h2, countStrict_append] at h
  have hz : countStrict (a :: mid) = 0 := by
    have := Option.some.inj h
    omega
  exact List.forall_mem_cons.1 (countStrict_zero hz)

open Wz.Model.InstrGroups in
/-- **Merging within a group is sound.**  A load whose group equals the group of its consumer (the head of
`rest`) can be executed at the consumer's position: for every program around it, every start state and every
memory, the two programs end in the same state (or both trap), provided the instructions in between do not
touch the loaded register (SSA: one definition, the consumer is the only use). -/
theorem fusion_within_group_sound (g d addr : Nat) (pre mid : List Ins) (c : Ins) (post : List Ins) (s : State)
    (hg : (gidsFrom g (pre ++ Ins.load d addr :: (mid ++ c :: post)))[pre.length]? =
          (gidsFrom g (pre ++ Ins.load d addr :: (mid ++ c :: post)))[pre.length + 1 + mid.length]?)
    (hi : ∀ i ∈ mid, Indep d i) :
    exec (pre ++ Ins.load d addr :: (mid ++ c :: post)) s = exec (pre ++ (mid ++ Ins.load d addr :: c :: post)) s := by
  have hns := (same_group_no_strict_between g pre (Ins.load d addr) mid c post hg).2
  rw [exec_append, exec_append]
  cases exec pre s with
  | none => rfl
  | some s1 =>
    simp only [Option.bind_some]
    exact sink_load d addr mid (c :: post) s1 (fun i hm => ⟨hns i hm, hi i hm⟩)

open Wz.Model.InstrGroups in
/-- The rule is needed: across a store (another group) sinking the load changes the result.
`r0 := mem[7]; mem[7] := r1; r2 := r0` with `r1 = 5`, `mem[7] = 3`. -/
theorem fusion_across_store_unsound_witness :
    let s0 : State := { regs := fun r => if r = 1 then 5 else 0, mem := fun a => if a = 7 then 3 else 0 }
    let use : Ins := .pure 2 (fun r => r 0)
    gidsFrom 0 [Ins.load 0 7, Ins.store 7 1, use] = [0, 0, 1] ∧
    (exec [Ins.load 0 7, Ins.store 7 1, use] s0).map (·.regs 2) = some 3 ∧
    (exec [Ins.store 7 1, Ins.load 0 7, use] s0).map (·.regs 2) = some 5 := by decide

/-- non-vacuity of `fusion_within_group_sound`: a load, a trap check on another register and the consumer are
one group -/
example : Wz.Model.InstrGroups.gidsFrom 4 [.load 0 7, .trapIf 3, .pure 2 (fun r => r 0)] = [4, 4, 4] := by decide

/-- Regenerated shape of the numbering loop: the id is assigned before the instruction is looked at, and the
counter is bumped in exactly one place, the `sideEffectStrict` case - what `gidsFrom`/`bump` model. -/
theorem numbering_matches_model :
    Wz.Gen.InstrGroups.assignFirst = true ∧ Wz.Gen.InstrGroups.bumpCases = ["sideEffectStrict"] ∧
    Wz.Gen.InstrGroups.bumpStatements = 1 := ⟨rfl, rfl, rfl⟩

/-- Regenerated: both matchers of the back end refuse a definition from another group. -/
theorem matchers_check_group :
    Wz.Gen.InstrGroups.matchers = [("MatchInstr", true), ("MatchInstrOneOf", true)] := rfl

/-- Regenerated: every instruction a pass allocates AFTER the numbering inherits a group from an existing
instruction (F39: `splitCriticalEdge` left its replacement branch in group 0), and nothing but the two
construction-time helpers allocates instructions outside the passes. -/
theorem every_late_instruction_has_a_group :
    Wz.Gen.InstrGroups.passAllocations.all (fun a => a.2.2.2) = true ∧
    Wz.Gen.InstrGroups.builderAllocations.map (fun a => a.2.1) = ["InsertZeroValue", "InsertUndefined"] := ⟨rfl, rfl⟩

/-- Regenerated side-effect table: what the machine calls `load` is class none, stores and calls are strict
(so they start a new group), and the trapping instructions are not strict. -/
theorem group_classes_match_model :
    classOf "Load" = some "sideEffectNone" ∧ classOf "Uload8" = some "sideEffectNone" ∧
    classOf "Store" = some "sideEffectStrict" ∧ classOf "Istore8" = some "sideEffectStrict" ∧
    classOf "Call" = some "sideEffectStrict" ∧ classOf "CallIndirect" = some "sideEffectStrict" ∧
    classOf "AtomicRmw" = some "sideEffectStrict" ∧ classOf "ExitIfTrueWithCode" = some "sideEffectStrict" ∧
    -- EVERY instruction that writes memory, calls, exits or synchronises is strict (none of them may merely "trap")
    (["Store", "Istore8", "Istore16", "Istore32", "AtomicStore", "AtomicRmw", "AtomicCas", "AtomicLoad", "Fence",
      "Call", "CallIndirect", "TailCallReturnCall", "TailCallReturnCallIndirect", "ExitWithCode", "ExitIfTrueWithCode",
      "Return", "Jump", "Brz", "Brnz", "BrTable"].all (fun o => classOf o == some "sideEffectStrict")) = true := by decide +kernel

/-- **Every callee-saved register is preserved** by a function whose written registers are all recorded -
for any body, any register contents (model `Wz.Model.CalleeSaved`; the save set is what
`determineCalleeSavedRealRegs` computes). -/
theorem callee_saved_registers_preserved (calleeSaved recorded writes : List Nat) (w : Nat → Nat)
    (rs : Wz.Model.CalleeSaved.Regs) (hrec : ∀ r ∈ writes, r ∈ recorded) :
    ∀ r ∈ calleeSaved, Wz.Model.CalleeSaved.call (Wz.Model.CalleeSaved.savedSet recorded calleeSaved) writes w rs r = rs r :=
  Wz.Model.CalleeSaved.callee_saved_preserved calleeSaved recorded writes w rs hrec

/-- The hypothesis is needed: a scratch register (8, callee-saved) written but not recorded comes back changed
- the shape of a seeded change in `reconcileEdge`. -/
theorem unrecorded_scratch_register_witness :
    Wz.Model.CalleeSaved.call (Wz.Model.CalleeSaved.savedSet [0, 1] [8, 9]) [0, 1, 8] (fun _ => 7) (fun _ => 3) 8 = 7 ∧
    Wz.Model.CalleeSaved.call (Wz.Model.CalleeSaved.savedSet [0, 1, 8] [8, 9]) [0, 1, 8] (fun _ => 7) (fun _ => 3) 8 = 3 := by decide

/-- **Regenerated obligation** (backend/regalloc/regalloc.go): the save set is the recorded set filtered by the
callee-saved registers, and every instruction the allocator inserts that writes a real register (reload, move,
swap - including the swap's scratch register) records that register. -/
theorem every_inserted_register_write_is_recorded :
    Wz.Gen.RegSaved.savedSetShape = "a.state.allocatedRegSet | a.regInfo.CalleeSavedRegisters" ∧
    Wz.Gen.RegSaved.writes.all (fun w => w.2.2.2) = true ∧
    (Wz.Gen.RegSaved.writes.filter (fun w => w.2.1 == "SwapBefore")).length = 3 ∧
    5 ≤ Wz.Gen.RegSaved.writes.length := ⟨rfl, rfl, by decide +kernel, by decide +kernel⟩

/-- **Sequential moves implement the parallel assignment** whenever `lowerBlockArguments`' test holds: no
destination register is a source register of any edge (earlier OR later) - for every edge list with distinct
destinations (block parameters) and every register file. -/
theorem block_arguments_sequential_moves_sound (es : List (Nat × Nat)) (ρ : Wz.Model.ParMove.Env)
    (hs : Wz.Model.ParMove.separated es = true) (hd : Wz.Model.ParMove.distinctDsts es) :
    Wz.Model.ParMove.seqMoves es ρ = Wz.Model.ParMove.parMoves es ρ :=
  Wz.Model.ParMove.seq_eq_par_of_ordered es ρ (Wz.Model.ParMove.ordered_of_separated es hs hd)

/-- The test must look at ALL sources: `prev := cur; cur := new`, as edges (source, destination) `[(new, cur), (cur, prev)]`
- destination `cur` of the first edge is the source of a LATER edge; moved one after the other `prev` receives
the new value (the shape of a seeded change that tested each destination only against the sources seen so far). -/
theorem block_arguments_later_source_witness :
    let ρ : Wz.Model.ParMove.Env := fun r => [16, 5, 0].getD r 0   -- r0 = new value, r1 = cur, r2 = prev
    Wz.Model.ParMove.separated [(0, 1), (1, 2)] = false ∧
    Wz.Model.ParMove.seqMoves [(0, 1), (1, 2)] ρ 2 = 16 ∧ Wz.Model.ParMove.parMoves [(0, 1), (1, 2)] ρ 2 = 5 := by decide

/-- **The temporaries branch is sound as well**: moving every source into a fresh temporary and then every
temporary into its destination implements the parallel assignment on all registers but the temporaries - for
every edge list with distinct destinations and every list of as many distinct temporaries that are neither a
source nor a destination.  Together with the theorem above: whichever branch `lowerBlockArguments` takes, the
jump's arguments arrive as the semantics of block parameters says. -/
theorem block_arguments_via_temporaries_sound (es : List (Nat × Nat)) (temps : List Nat) (ρ : Wz.Model.ParMove.Env)
    (hl : es.length = temps.length) (hd : (es.map (·.2)).Nodup) (ht : temps.Nodup)
    (hfresh : ∀ t ∈ temps, ∀ e ∈ es, e.1 ≠ t ∧ e.2 ≠ t) :
    ∀ r, r ∉ temps → Wz.Model.ParMove.viaTemps es temps ρ r = Wz.Model.ParMove.parMoves es ρ r := by
  intro r hr
  have hd' := List.pairwise_iff_getElem.mp (List.pairwise_map.mp hd)
  have ht' := List.pairwise_iff_getElem.mp ht
  -- both phases are ordered: the temporaries are fresh, and distinct like the destinations
  have h1 : Wz.Model.ParMove.Ordered (List.zipWith (fun e t => (e.1, t)) es temps) :=
      List.pairwise_iff_getElem.mpr fun i j hi hj hij => by
    simp only [List.length_zipWith, ← hl, Nat.min_self] at hi hj
    simp only [List.getElem_zipWith]
    exact ⟨(hfresh _ (List.getElem_mem (hl ▸ hi)) _ (List.getElem_mem hj)).1, Ne.symm (ht' i j (hl ▸ hi) (hl ▸ hj) hij)⟩
  have h2 : Wz.Model.ParMove.Ordered (List.zipWith (fun e t => (t, e.2)) es temps) :=
      List.pairwise_iff_getElem.mpr fun i j hi hj hij => by
    simp only [List.length_zipWith, ← hl, Nat.min_self] at hi hj
    simp only [List.getElem_zipWith]
    exact ⟨Ne.symm (hfresh _ (List.getElem_mem (hl ▸ hj)) _ (List.getElem_mem hi)).2, Ne.symm (hd' i j hi hj hij)⟩
  unfold Wz.Model.ParMove.viaTemps
  rw [Wz.Model.ParMove.seq_eq_par_of_ordered _ ρ h1, Wz.Model.ParMove.seq_eq_par_of_ordered _ _ h2]
  by_cases hdst : ∃ e ∈ es, e.2 = r
  · obtain ⟨e, he, rfl⟩ := hdst
    obtain ⟨i, hi, rfl⟩ := List.getElem_of_mem he
    have hz : i < (List.zipWith (fun e t => (t, e.2)) es temps).length := by simp [← hl, hi]
    have hz' : i < (List.zipWith (fun e t => (e.1, t)) es temps).length := by simp [← hl, hi]
    have e2 := Wz.Model.ParMove.parMoves_getElem _
      (Wz.Model.ParMove.parMoves (List.zipWith (fun e t => (e.1, t)) es temps) ρ) (h2.imp And.right) i hz
    have e1 := Wz.Model.ParMove.parMoves_getElem _ ρ (h1.imp And.right) i hz'
    simp only [List.getElem_zipWith] at e1 e2
    rw [e2, e1, Wz.Model.ParMove.parMoves_getElem es ρ (List.pairwise_map.mp hd |>.imp Ne.symm) i hi]
  · have hn : ∀ e ∈ es, e.2 ≠ r := fun e he h => hdst ⟨e, he, h⟩
    rw [Wz.Model.ParMove.parMoves_of_not_dst _ _ r, Wz.Model.ParMove.parMoves_of_not_dst _ _ r,
      Wz.Model.ParMove.parMoves_of_not_dst es ρ r hn]
    · intro x hx
      obtain ⟨i, hi, rfl⟩ := List.getElem_of_mem hx
      simp only [List.length_zipWith, ← hl, Nat.min_self] at hi
      simp only [List.getElem_zipWith]
      exact fun h => hr (h ▸ List.getElem_mem (hl ▸ hi))
    · intro x hx
      obtain ⟨i, hi, rfl⟩ := List.getElem_of_mem hx
      simp only [List.length_zipWith, ← hl, Nat.min_self] at hi
      simp only [List.getElem_zipWith]
      exact hn _ (List.getElem_mem hi)

/-- non-vacuity: the shift `[(new, cur), (cur, prev)]` through temporaries 7 and 8 -/
example : Wz.Model.ParMove.viaTemps [(0, 1), (1, 2)] [7, 8] (fun r => [16, 5, 0].getD r 0) 2 = 5 := by decide

/-- **Regenerated obligation** (backend/compiler_lower.go): `lowerBlockArguments` first marks the sources of all
edges, then - in a separate loop - tests every destination against that complete set, then emits the moves. -/
theorem block_arguments_test_sees_all_sources :
    Wz.Gen.BlockArgs.phases = ["mark", "test", "move", "move", "move"] := rfl

/-- with zero fuel every entry point reports `exhausted`: an answer other than `exhausted` was
computed by the rules -/
theorem zero_fuel_exhausted (m : Module) (f : Nat) (fr : Frame) (st : Store) :
    (callFunc m 0 f fr st).1 = .exhausted := by
  simp [callFunc]

theorem invoke_exhausted_of_zero (m : Module) (f : Nat) (args : List Nat) (st : Store) :
    (invoke m 0 f args st).1 = .exhausted := by
  simp [invoke, callFunc]

/-- histories are folds: one outcome per call -/
theorem runHistory_length (m : Module) (fuel : Nat) (h : List (Nat × List Nat)) (st : Store) :
    (runHistory m fuel h st).1.length = h.length := by
  induction h generalizing st with
  | nil => simp [runHistory]
  | cons c rest ih =>
    obtain ⟨f, args⟩ := c
    simp [runHistory, ih]

end Wz.C01
