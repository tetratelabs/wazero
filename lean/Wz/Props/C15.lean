/-
C15 — WASI calls are safe for any argument values.

Theorems about the footprint models of `Wz.Model.Wasi` (transcriptions of imports/wasi_snapshot_preview1/*.go
in wrap-around arithmetic; tie B: `hc15` compares errno, exact byte diff and descriptor table of every modelled
function with the real code on boundary grids; tie A: errno/event constants and `MemoryInstance.hasSize` are
regenerated) and of `Wz.Model.DescTable` (internal/descriptor/table.go).

Full statement of the property over the model, for reference:
  for every function fn, argument tuple a, memory m, descriptor table fds, host configuration h:
    (call fn a).err ≠ panic                                           (no_host_index_oob)
    ∧ every region in (call fn a).acc lies inside [0, m.size)          (footprint_in_bounds)
    ∧ every write of (call fn a).writes lies inside designated fn a    (writes_within_designated)
    ∧ the table invariant is preserved                                 (table_inv)
    ∧ (call fn a).alloc ≤ c · m.size + c'                              (table_space_bounded)
Proved below: theorems about single functions of `Wz.Model.Wasi` (`Fn1`), the descriptor table, the 24 functions of
`Wz.Model.WasiFs2` (`Fn2`: `call2e_fine`, `wasi_*`), then — "all 46 functions" — one theorem per statement quantified
over the function name in `modelled`, for every argument tuple, memory image, descriptor table, host configuration and
every alternative the host may select:
  all_no_host_panic                       (46; repaired poll_oneoff — F15 witness `poll_overflow_witness`)
  all_writes_in_memory_and_designated     (46; repaired sock_recv PEEK and readv — witnesses `sockRecv_peek_witness` = F61,
                                           `readv_alias_witness` = F62)
  all_failed_call_keeps_table             (46)
  all_alloc_bounded                       (45; fd_renumber is unbounded — `renumber_alloc_witness`, F16)
plus the shape part of table_inv over all histories and table_space_bounded_partial.  Not proved (checked on the real
code only): footprint_in_bounds (`acc`) of the iovec walks and of args_get, the bit⇔item part of table_inv.
-/
import Wz.Proofs.C15_Fs2
import Wz.Proofs.C15_All

namespace Wz.C15
open Wz.Model Wz.Model.Wasi Wz.Model.DescTable Wz.Gen.Wasi

/-- every region the call was granted by the memory API lies inside the memory -/
def AccInBounds (m : Mem) (r : Res) : Prop := ∀ x ∈ r.acc, x.1 + x.2 ≤ m.size

/-- a one-page memory whose content is all zero (for witnesses and non-vacuity examples) -/
def zeroPage : Mem := { size := 65536, data := #[] }
def stdio : Fds := (insertAt (insertAt (insertAt empty Kind.stdin 0).1 Kind.stdout 1).1 Kind.stderr 2).1

/-- `api.Memory` grants an access exactly when it lies inside the buffer (regenerated `hasSize`). -/
theorem mem_guard_iff (m : Mem) (off cnt : Nat) (ho : off < 4294967296) (hc : cnt < 4294967296)
    (hs : m.size < 9223372036854775808) : m.has off cnt = true ↔ off + cnt ≤ m.size :=
  has_iff m off cnt ho hc hs

example : zeroPage.has 65532 4 = true ∧ zeroPage.has 65533 4 = false := by decide +kernel  -- test (samples)

/-- F15: on the pinned tree `nsubscriptions = 2^28` makes `nsubscriptions*48` wrap to 0; both bounds checks pass
on empty buffers and the first loop iteration indexes `inBuf[8]` out of range. -/
theorem poll_overflow_witness :
    (pollOneoff false stdio zeroPage 0 1024 268435456 2048).err = Err.panic := by decide +kernel

/-- the same call is rejected with EFAULT by the repaired variant (test, sample) -/
example : (pollOneoff true stdio zeroPage 0 1024 268435456 2048).err = Err.errno ErrnoFault := by decide +kernel

/-- no_host_index_oob for poll_oneoff, repaired variant: for ALL argument values, memories and tables. -/
theorem poll_no_host_index_oob (fds : Fds) (m : Mem) (inp out n res : Nat) :
    (pollOneoff true fds m inp out n res).err ≠ Err.panic :=
  pollOneoff_no_panic true fds m inp out n res (Or.inl rfl)

/-- no_host_index_oob for poll_oneoff as it is on the pinned tree — partial: only when the byte size of the
subscriptions does not wrap (`n*48 < 2^32`); `poll_overflow_witness` shows the rest is false. -/
theorem poll_no_host_index_oob_partial (fds : Fds) (m : Mem) (inp out n res : Nat) (h : n * 48 < 4294967296) :
    (pollOneoff false fds m inp out n res).err ≠ Err.panic :=
  pollOneoff_no_panic false fds m inp out n res (Or.inr h)

example : (3 : Nat) * 48 < 4294967296 := by decide  -- the hypothesis is met by ordinary calls

/-- footprint_in_bounds for poll_oneoff, both variants: the three buffers are inside the memory (or EFAULT). -/
theorem poll_footprint_in_bounds (fixed : Bool) (fds : Fds) (m : Mem) (inp out n res : Nat)
    (hi : inp < 4294967296) (ho : out < 4294967296) (hr : res < 4294967296) (hs : m.size < 9223372036854775808) :
    AccInBounds m (pollOneoff fixed fds m inp out n res) :=
  (pollOneoff_tame fixed fds m inp out n res hi ho hr).acc hs

example : AccInBounds zeroPage (pollOneoff false stdio zeroPage 1024 4096 3 2048) :=
  poll_footprint_in_bounds false stdio zeroPage 1024 4096 3 2048 (by decide) (by decide) (by decide) (by decide)

theorem writeU64_in_bounds (m : Mem) (p v : Nat) (hp : p < 4294967296) (hs : m.size < 9223372036854775808) :
    AccInBounds m (writeU64 m p v) := by
  unfold writeU64
  exact ifElim (AccInBounds m) (fun _ => nofun)
    (fun h => List.forall_mem_singleton.2 (has_le m p 8 hp (by decide) hs (has_of_not h)))

/-- footprint_in_bounds: clock_res_get, clock_time_get, fd_prestat_get (one 8-byte result). -/
theorem clock_footprint_in_bounds (h : Host) (m : Mem) (id res : Nat) (hr : res < 4294967296)
    (hs : m.size < 9223372036854775808) :
    AccInBounds m (clockResGet h m id res) ∧ AccInBounds m (clockTimeGet h m id res) :=
  clock_cases h m id res nofun (fun v => writeU64_in_bounds m res v hr hs)

/-- footprint_in_bounds: args_sizes_get / environ_sizes_get. -/
theorem sizes_footprint_in_bounds (m : Mem) (p1 v1 p2 v2 : Nat) (h1 : p1 < 4294967296) (h2 : p2 < 4294967296)
    (hs : m.size < 9223372036854775808) : AccInBounds m (write2xU32 m p1 v1 p2 v2) := by
  unfold write2xU32
  refine ifElim (AccInBounds m) (fun _ => nofun) (fun g1 => ?_)
  have g1 := has_le m p1 4 h1 (by decide) hs (has_of_not g1)
  exact ifElim (AccInBounds m) (fun _ => List.forall_mem_singleton.2 g1)
    (fun g2 => List.forall_mem_cons.2 ⟨g1, List.forall_mem_singleton.2 (has_le m p2 4 h2 (by decide) hs (has_of_not g2))⟩)

/-- footprint_in_bounds: random_get (the whole requested buffer must be inside the memory). -/
theorem random_footprint_in_bounds (m : Mem) (buf len : Nat) (hb : buf < 4294967296) (hl : len < 4294967296)
    (hs : m.size < 9223372036854775808) : AccInBounds m (randomGet m buf len) := by
  unfold randomGet
  exact ifElim (AccInBounds m) (fun _ => nofun)
    (fun h => List.forall_mem_singleton.2 (has_le m buf len hb hl hs (has_of_not h)))

/-- no_host_index_oob: fd_prestat_dir_name — `name[:pathLen]` is guarded by the ENAMETOOLONG check. -/
theorem prestatDirName_no_host_index_oob (h : Host) (fds : Fds) (m : Mem) (fd path pathLen : Nat) :
    (fdPrestatDirName h fds m fd path pathLen).err ≠ Err.panic := by
  unfold fdPrestatDirName
  split
  · nofun
  · rename_i name _
    split
    · nofun
    · rw [if_neg (by unfold w32 at *; omega : ¬ pathLen > name.length)]
      split <;> nofun

/-- footprint_in_bounds: fd_prestat_dir_name. -/
theorem prestatDirName_footprint_in_bounds (h : Host) (fds : Fds) (m : Mem) (fd path pathLen : Nat)
    (hp : path < 4294967296) (hl : pathLen < 4294967296) (hs : m.size < 9223372036854775808) :
    AccInBounds m (fdPrestatDirName h fds m fd path pathLen) := by
  fun_cases fdPrestatDirName h fds m fd path pathLen
  all_goals first
    | exact List.forall_mem_singleton.2 (has_le m path pathLen hp hl hs (has_of_not (by assumption)))
    | nofun

/-- footprint_in_bounds: fd_fdstat_get / fd_filestat_get (result buffer checked before the descriptor). -/
theorem statLike_footprint_in_bounds (fds : Fds) (m : Mem) (fd res size : Nat) (hr : res < 4294967296)
    (hz : size < 4294967296) (hs : m.size < 9223372036854775808) : AccInBounds m (statLike fds m fd res size) := by
  unfold statLike
  refine ifElim (AccInBounds m) (fun _ => nofun) (fun h => ?_)
  have g := has_le m res size hr hz hs (has_of_not h)
  split <;> exact List.forall_mem_singleton.2 g

example : AccInBounds zeroPage (randomGet zeroPage 65000 536) :=
  random_footprint_in_bounds zeroPage 65000 536 (by decide) (by decide) (by decide)

/-- table_inv, shape part (`len items = 64·len masks`), preserved by every operation for every key
(negative, huge) over all histories. The bit⇔item part is checked on the real table after every operation by
the harness (reflection), not proved. -/
theorem table_inv_shape_partial {α} (ops : List (Op α)) : Shape (applyAll (empty : Table α) ops) :=
  shape_applyAll ops empty shape_empty

example : Shape (applyAll (empty : Table Nat) [.insert 1, .insertAt 2 (-5), .insertAt 3 200, .delete 0, .reset]) :=
  table_inv_shape_partial _

/-- table_space_bounded — partial: histories without `InsertAt` occupy at most 64 slots per `Insert`.
Full statement (false, see `renumber_alloc_witness`): the same bound for every history. -/
theorem table_space_bounded_partial {α} (ops : List (Op α)) (h : ∀ op ∈ ops, Op.isInsertAt op = false) :
    slots (applyAll (empty : Table α) ops) ≤ 64 * countInserts ops := by
  have := space_applyAll ops empty h
  simpa [slots, empty] using this

example : ∀ op ∈ ([.insert 1, .delete 0, .insert 2, .reset] : List (Op Nat)), Op.isInsertAt op = false := by decide

/-- `InsertAt` sizes the table by the key alone. -/
theorem insertAt_slots {α} (t : Table α) (x : α) (k : Int) (hk : 0 ≤ k) (h : Shape t) :
    slots (insertAt t x k).1 = max (slots t) (64 * (k.toNat / 64 + 1)) := by
  unfold insertAt
  have : ¬ k < 0 := by omega
  simp only [this, if_false]
  unfold Shape at h
  split
  · simp only [slots_setBit, slots_grow]
    simp only [slots]
    omega
  · simp only [slots_setBit]
    simp only [slots]
    omega

/-- F16: one `InsertAt` (fd_renumber to 2^31-1) on an empty table occupies 2^31 item slots (16 GiB of pointers). -/
theorem renumber_alloc_witness {α} (x : α) : slots (insertAt (empty : Table α) x 2147483647).1 = 2147483648 := by
  rw [insertAt_slots _ _ _ (by decide) shape_empty]
  simp [slots, empty]

/-! ## function names

The by-name dispatchers look the function up in `Fn1.all` / `Fn2.all` by comparing names; that the 46 names are
pairwise different is one evaluation. -/

theorem modelled_nodup : modelled.Nodup := by decide +kernel

theorem find_name {α : Type} (name : α → String) : ∀ (l : List α), (l.map name).Nodup → ∀ f ∈ l,
    l.find? (fun g => name g == name f) = some f := by
  intro l
  induction l with
  | nil => intro _ f hf; cases hf
  | cons g l ih =>
    intro hnd f hf
    rw [List.map_cons, List.nodup_cons] at hnd
    by_cases hg : name g = name f
    · rw [List.find?_cons_of_pos (by simpa using hg)]
      rcases List.mem_cons.1 hf with rfl | hf
      · rfl
      · exact absurd (hg ▸ List.mem_map_of_mem hf) hnd.1
    · rw [List.find?_cons_of_neg (by simpa using hg)]
      rcases List.mem_cons.1 hf with rfl | hf
      · exact absurd rfl hg
      · exact ih hnd.2 f hf

theorem find_name_none {α : Type} (name : α → String) (l : List α) (s : String) (hs : s ∉ l.map name) :
    l.find? (fun g => name g == s) = none := by
  rw [List.find?_eq_none]
  intro g hg hn
  exact hs ((beq_iff_eq.1 hn) ▸ List.mem_map_of_mem hg)

theorem fn1_mem (f : Fn1) : f ∈ Fn1.all := by cases f <;> decide
theorem fn2_mem (f : Fn2) : f ∈ Fn2.all := by cases f <;> decide

theorem find_fn1 (f : Fn1) : Fn1.all.find? (fun g => g.name == f.name) = some f :=
  find_name Fn1.name Fn1.all (List.nodup_append.1 modelled_nodup).1 f (fn1_mem f)

theorem find_fn2 (f : Fn2) : Fn2.all.find? (fun g => g.name == f.name) = some f :=
  find_name Fn2.name Fn2.all (List.nodup_append.1 modelled_nodup).2.1 f (fn2_mem f)

theorem find_fn2_of_fn1 (f : Fn1) : Fn2.all.find? (fun g => g.name == f.name) = none :=
  find_name_none Fn2.name Fn2.all f.name (fun h =>
    (List.nodup_append.1 modelled_nodup).2.2 _ (List.mem_map_of_mem (fn1_mem f)) _ h rfl)

theorem find_fn1_of_fn2 (f : Fn2) : Fn1.all.find? (fun g => g.name == f.name) = none :=
  find_name_none Fn1.name Fn1.all f.name (fun h =>
    (List.nodup_append.1 modelled_nodup).2.2 _ h _ (List.mem_map_of_mem (fn2_mem f)) rfl)

/-! ## the remaining 24 functions (`Wz.Model.WasiFs2`): fd_readdir, path_*, fd_*set*, fd_allocate/advise/sync, sock_*,
proc_raise

A call is answered by a list of alternatives (the host file system / the network selects one); every statement
below holds for EVERY alternative, for every argument tuple (any naturals: the dispatcher reduces them to 32 / 64
bits as the ABI does), every memory image, every descriptor table and every host configuration. -/

/-- one constructor of `Fn2`: destructure the argument list and apply the function's lemma -/
macro "fs2_case" hc:ident t:term : tactic =>
  `(tactic| (simp only [call2e] at $hc:ident; split at $hc:ident <;>
      first | (cases $hc:ident; done) | (simp only [Option.some.injEq] at $hc:ident; subst $hc:ident; exact $t)))

/-- `Fn2` enumerates exactly the names in `modelled2`, and the by-name dispatcher / region table agree with the
enumerated ones. -/
theorem fn2_names : Fn2.all.map Fn2.name = modelled2 := rfl

theorem call2_by_name (fixedRecv fixedRead : Bool) (h : Host) (fds : Fds) (m : Mem) (f : Fn2) (a : List Nat) :
    call2 fixedRecv fixedRead h fds m f.name a = call2e fixedRecv fixedRead h fds m f a := by
  unfold call2
  rw [find_fn2]

theorem designated_by_name (h : Host) (m : Mem) (f : Fn2) (a : List Nat) :
    designated h m f.name a = designated2e m f a := by
  unfold designated
  rw [find_fn2]

/-- one constructor of `Fn2`, for the region statement -/
macro "fs2_wcase" hc:ident t:term : tactic =>
  `(tactic| (simp only [call2e] at $hc:ident; split at $hc:ident <;>
      first | (cases $hc:ident; done)
            | (simp only [Option.some.injEq] at $hc:ident; subst $hc:ident
               simp only [designated2e, List.map]; exact $t)))

/-- `fixedRecv` is the repaired sock_recv PEEK (F61), `fixedRead` the repaired `readv` (F62).  For the 17 functions
that designate nothing the lemma holds for any regions, and `designated2e` need not be evaluated. -/
theorem call2e_fine (fixedRecv fixedRead : Bool) (h : Host) (hh : HostNamesOk h) (fds : Fds) (m : Mem)
    (hs : m.size < 9223372036854775808) (f : Fn2) (a : List Nat) (rs : List Res)
    (hc : call2e fixedRecv fixedRead h fds m f a = some rs) : ∀ r ∈ rs, (Bytes m → Safe m r) ∧
      (fixedRecv = true ∧ fixedRead = true → Fine m (designated2e m f (a.map w32)) r) := by
  cases f
  case fd_readdir => fs2_wcase hc ((fdReaddir_fine h hh m fds _ _ _ _ _ (w32_lt _) (w32_lt _) (w32_lt _)).cond hs)
  case path_open => fs2_wcase hc ((pathOpen_fine m fds _ _ _ _ _ (w32_lt _)).cond hs)
  case path_filestat_get => fs2_wcase hc ((pathFilestatGet_fine m fds _ _ _ _ (w32_lt _)).cond hs)
  case path_readlink => fs2_wcase hc ((pathReadlink_fine m fds _ _ _ _ _ _ (w32_lt _)).cond hs)
  case fd_fdstat_set_flags => fs2_case hc ((fdFdstatSetFlags_fine m _ fds _ _).cond hs)
  case fd_filestat_set_size => fs2_case hc ((fdFilestatSetSize_fine m _ fds _).cond hs)
  case fd_filestat_set_times => fs2_case hc ((fdFilestatSetTimes_fine m _ fds _ _).cond hs)
  case path_filestat_set_times => fs2_case hc ((pathFilestatSetTimes_fine m _ fds _ _ _ _).cond hs)
  case fd_allocate => fs2_case hc ((fdAllocate_fine m _ fds _ _ _).cond hs)
  case fd_advise => fs2_case hc ((fdAdvise_fine m _ fds _ _).cond hs)
  case fd_datasync | fd_sync => fs2_case hc ((fdSyncLike_fine m _ fds _).cond hs)
  case fd_fdstat_set_rights | proc_raise => fs2_case hc ((allFine_rE (by decide)).cond hs)
  case path_create_directory | path_remove_directory | path_unlink_file =>
    fs2_case hc ((pathOp_fine m _ fds _ _ _).cond hs)
  case path_rename | path_link => fs2_case hc ((pathOp2_fine m _ fds _ _ _ _ _ _).cond hs)
  case path_symlink => fs2_case hc ((pathSymlink_fine m _ fds _ _ _ _ _).cond hs)
  case sock_accept => fs2_wcase hc ((sockAccept_fine m fds _ _ (w32_lt _)).cond hs)
  case sock_recv => fs2_wcase hc (sockRecv_fine _ _ m fds _ _ _ _ _ _ (w32_lt _) (w32_lt _) (w32_lt _) hs)
  case sock_send => fs2_wcase hc ((sockSend_fine m fds _ _ _ _ _ (w32_lt _)).cond hs)
  case sock_shutdown => fs2_case hc ((sockShutdown_fine m _ fds _ _).cond hs)

/-- All of `Safe` at once, for both variants of sock_recv (the F61 defect is about WHERE it writes, not about
host safety): no alternative is a host panic, every write lies inside the memory, an alternative that does not
answer errno 0 leaves the descriptor table untouched, and the predicted host allocation is ≤ 512 bytes. -/
theorem wasi_call_safe (fixedRecv fixedRead : Bool) (h : Host) (hh : HostNamesOk h) (fds : Fds) (m : Mem) (hb : Bytes m)
    (hs : m.size < 9223372036854775808) (f : Fn2) (a : List Nat) (rs : List Res)
    (hc : call2e fixedRecv fixedRead h fds m f a = some rs) : ∀ r ∈ rs, Safe m r :=
  fun r hr => (call2e_fine fixedRecv fixedRead h hh fds m hs f a rs hc r hr).1 hb

/-- writes_within_designated, repaired variant of sock_recv: every write of every alternative lies inside the
regions the signature designates (`designated`, the table the harness monitor uses, compared with spec.go on every
generated case).  `m.size ≤ 2^32` is the wasm32 limit. -/
theorem wasi_writes_within_designated (h : Host) (hh : HostNamesOk h) (fds : Fds) (m : Mem)
    (hm : m.size ≤ 4294967296) (f : Fn2) (a : List Nat) (rs : List Res)
    (hc : call2e true true h fds m f a = some rs) :
    ∀ r ∈ rs, ∀ w ∈ r.writes, Wr.within w (designated2e m f (a.map w32)) :=
  fun r hr w hw =>
    (((call2e_fine true true h hh fds m (by omega) f a rs hc r hr).2 ⟨rfl, rfl⟩).placed w hw (by omega)).1

theorem call_by_name (fixed fixedRecv fixedRead : Bool) (h : Host) (fds : Fds) (m : Mem) (f : Fn2) (a : List Nat) :
    call fixed fixedRecv fixedRead h fds m f.name a = call2e fixedRecv fixedRead h fds m f a := by
  unfold call call1
  rw [find_fn1_of_fn2]
  exact call2_by_name fixedRecv fixedRead h fds m f a

theorem call_modelled2_safe (fixed fixedRecv fixedRead : Bool) (h : Host) (hh : HostNamesOk h) (fds : Fds) (m : Mem)
    (hb : Bytes m) (hs : m.size < 9223372036854775808) (fn : String) (hfn : fn ∈ modelled2) (a : List Nat)
    (rs : List Res) (hc : call fixed fixedRecv fixedRead h fds m fn a = some rs) : ∀ r ∈ rs, Safe m r := by
  obtain ⟨f, _, rfl⟩ := List.mem_map.1 hfn
  rw [call_by_name] at hc
  exact wasi_call_safe fixedRecv fixedRead h hh fds m hb hs f a rs hc

/-- no_host_index_oob for every function of `modelled2`: no alternative is a Go runtime error. -/
theorem wasi_no_host_panic (fixed fixedRecv fixedRead : Bool) (h : Host) (hh : HostNamesOk h) (fds : Fds) (m : Mem)
    (hb : Bytes m) (hs : m.size < 9223372036854775808) (fn : String) (hfn : fn ∈ modelled2) (a : List Nat)
    (rs : List Res) (hc : call fixed fixedRecv fixedRead h fds m fn a = some rs) : ∀ r ∈ rs, r.err ≠ Err.panic :=
  fun r hr => (call_modelled2_safe fixed fixedRecv fixedRead h hh fds m hb hs fn hfn a rs hc r hr).noPanic

/-- writes never extend beyond the memory. -/
theorem wasi_writes_in_memory (fixed fixedRecv fixedRead : Bool) (h : Host) (hh : HostNamesOk h) (fds : Fds) (m : Mem)
    (hb : Bytes m) (hs : m.size < 9223372036854775808) (fn : String) (hfn : fn ∈ modelled2) (a : List Nat)
    (rs : List Res) (hc : call fixed fixedRecv fixedRead h fds m fn a = some rs) :
    ∀ r ∈ rs, ∀ w ∈ r.writes, w.len = 0 ∨ w.off + w.len ≤ m.size :=
  fun r hr => (call_modelled2_safe fixed fixedRecv fixedRead h hh fds m hb hs fn hfn a rs hc r hr).inMem

/-- a call that does not answer errno 0 (an errno, or "any"/"nz" of the host) leaves the descriptor table as it
was; no exception among these 24 functions (path_open that fails with EFAULT inserts and closes the new
descriptor again: the entries are the same). -/
theorem wasi_failed_call_keeps_table (fixed fixedRecv fixedRead : Bool) (h : Host) (hh : HostNamesOk h) (fds : Fds) (m : Mem)
    (hb : Bytes m) (hs : m.size < 9223372036854775808) (fn : String) (hfn : fn ∈ modelled2) (a : List Nat)
    (rs : List Res) (hc : call fixed fixedRecv fixedRead h fds m fn a = some rs) :
    ∀ r ∈ rs, r.err ≠ Err.errno 0 → r.fds = none :=
  fun r hr => (call_modelled2_safe fixed fixedRecv fixedRead h hh fds m hb hs fn hfn a rs hc r hr).table

/-- the host allocation the model predicts is bounded by a linear function of the guest memory size (here even a
constant: one growth step of the descriptor table, 64 slots of 8 bytes). -/
theorem wasi_alloc_bounded (fixed fixedRecv fixedRead : Bool) (h : Host) (hh : HostNamesOk h) (fds : Fds) (m : Mem)
    (hb : Bytes m) (hs : m.size < 9223372036854775808) (fn : String) (hfn : fn ∈ modelled2) (a : List Nat)
    (rs : List Res) (hc : call fixed fixedRecv fixedRead h fds m fn a = some rs) : ∀ r ∈ rs, r.alloc ≤ 512 + 0 * m.size :=
  fun r hr => Nat.le_trans (call_modelled2_safe fixed fixedRecv fixedRead h hh fds m hb hs fn hfn a rs hc r hr).alloc
    (Nat.le_add_right _ _)

/-- writes_within_designated by name (repaired sock_recv). -/
theorem wasi_writes_within_designated_by_name (fixed : Bool) (h : Host) (hh : HostNamesOk h) (fds : Fds) (m : Mem)
    (hm : m.size ≤ 4294967296) (fn : String) (hfn : fn ∈ modelled2) (a : List Nat) (rs : List Res)
    (hc : call fixed true true h fds m fn a = some rs) :
    ∀ r ∈ rs, ∀ w ∈ r.writes, Wr.within w (designated h m fn (a.map w32)) := by
  obtain ⟨f, _, rfl⟩ := List.mem_map.1 hfn
  rw [call_by_name] at hc
  rw [designated_by_name]
  exact wasi_writes_within_designated h hh fds m hm f a rs hc

/-- an accepted connection at 4 besides stdio -/
def connFds : Fds := (insertAt stdio Kind.conn 4).1
/-- a memory whose first iovec names the 16 bytes at 256 -/
def iovPage : Mem := { size := 65536, data := #[0, 1, 0, 0, 16, 0, 0, 0] }

/-- F61: on the pinned tree sock_recv with RI_RECV_PEEK and ri_data_len = 0 has an alternative (data is waiting)
that writes the 16 bytes at 256 named by the bytes at ri_data — outside the designated regions, which for
ri_data_len = 0 are only the two result cells. -/
theorem sockRecv_peek_witness :
    ∃ r ∈ sockRecv false false connFds iovPage 4 0 0 1 16640 16704, ∃ w ∈ r.writes,
      ¬ Wr.within w (designated2e iovPage Fn2.sock_recv [4, 0, 0, 1, 16640, 16704]) := by
  have hmap : (sockRecv false false connFds iovPage 4 0 0 1 16640 16704).map (·.writes) =
      [[], [Wr.region 256 16, Wr.region 16640 4, Wr.bytes 16704 [0, 0]]] := by decide +kernel
  have hin : [Wr.region 256 16, Wr.region 16640 4, Wr.bytes 16704 [0, 0]] ∈
      (sockRecv false false connFds iovPage 4 0 0 1 16640 16704).map (·.writes) := by rw [hmap]; simp
  obtain ⟨r, hr, hrw⟩ := List.mem_map.1 hin
  refine ⟨r, hr, Wr.region 256 16, by rw [hrw]; simp, ?_⟩
  intro hw
  obtain ⟨r, hr, h1, h2⟩ := hw 256 (by decide) (by decide)
  simp only [designated2e, iovRegions, List.nil_append, List.mem_cons, List.not_mem_nil, or_false] at hr
  rcases hr with rfl | rfl
  · simp at h1
  · simp at h1

/-- a memory whose iovec array at 0 has two entries: the buffer of the first (8, 8) IS the second entry, which
names (3000, 4) when the call starts -/
def aliasPage : Mem := { size := 65536, data := #[8, 0, 0, 0, 8, 0, 0, 0, 184, 11, 0, 0, 4, 0, 0, 0] }
/-- a host whose stdin delivers the bytes of the iovec (4096, 4) followed by "ABCD" -/
def aliasHost : Host := { stdin := [0, 16, 0, 0, 4, 0, 0, 0, 65, 66, 67, 68] }

/-- F62: on the pinned tree `readv` reads every iovec from the live memory: the 8 bytes read into the first buffer
replace the second entry, and the next 4 bytes go to 4096 — a place that the iovec array named at call time
(`designated`: (8,8), (3000,4), the result cell) does not contain.  The data, not the arguments, decide. -/
theorem readv_alias_witness :
    Wr.bytes 4096 [65, 66, 67, 68] ∈ (fdRead false aliasHost stdio aliasPage 0 0 2 16576).writes ∧
    ¬ Wr.within (Wr.bytes 4096 [65, 66, 67, 68]) (designated1e aliasHost aliasPage Fn1.fd_read [0, 0, 2, 16576]) := by
  refine ⟨by decide +kernel, ?_⟩
  intro hw
  obtain ⟨r, hr, h1, h2⟩ := hw 4096 (by decide) (by decide)
  have hd : designated1e aliasHost aliasPage Fn1.fd_read [0, 0, 2, 16576] = [(8, 8), (3000, 4), (16576, 4)] := by
    decide +kernel
  rw [hd] at hr
  simp only [List.mem_cons, List.not_mem_nil, or_false] at hr
  rcases hr with rfl | rfl | rfl <;> simp at h1 h2 <;> omega

/-- the repaired `readv` (iovec array copied at the start) fills the two buffers named at call time (test, sample) -/
example : (fdRead true aliasHost stdio aliasPage 0 0 2 16576).writes =
    [Wr.bytes 8 [0, 16, 0, 0, 4, 0, 0, 0], Wr.bytes 3000 [65, 66, 67, 68], Wr.bytes 16576 [12, 0, 0, 0]] := by decide +kernel

/-- the repaired variant answers ro_datalen = 0 and writes nothing else (test, sample) -/
example : (sockRecv true true connFds iovPage 4 0 0 1 16640 16704).map (·.writes) =
    [[Wr.bytes 16640 [0, 0, 0, 0], Wr.bytes 16704 [0, 0]]] := by decide +kernel

/-- the hypotheses are met by ordinary states: a memory of bytes, a host with short names -/
example : Bytes iovPage := by
  intro a
  unfold Mem.get iovPage
  by_cases h : a < 8
  · have : a = 0 ∨ a = 1 ∨ a = 2 ∨ a = 3 ∨ a = 4 ∨ a = 5 ∨ a = 6 ∨ a = 7 := by omega
    rcases this with rfl | rfl | rfl | rfl | rfl | rfl | rfl | rfl <;> decide
  · simp [Array.getD, h]
example : HostNamesOk { preEntries := [1, 5, 4], dirEntries := [1] } := by unfold HostNamesOk; decide
example : "fd_readdir" ∈ modelled2 ∧ "sock_recv" ∈ modelled2 ∧ modelled2.length = 24 := by decide +kernel

/-- descriptor table of the harness state `dir`: stdio, the pre-opened directory, a file, a directory -/
def dirFds : Fds := (insertAt (insertAt (insertAt stdio Kind.pre 3).1 Kind.file 4).1 Kind.dir 5).1

/-- non-vacuity of the dispatcher: fd_readdir of the sub-directory (".", "..", "g") into a 256-byte buffer writes
76 bytes and bufused = 76; path_open has a successful alternative that hands out descriptor 6 (tests, samples) -/
example : (call true true true { preEntries := [1, 5, 4], dirEntries := [1] } dirFds zeroPage "fd_readdir" [5, 8192, 256, 0, 16384]).map
      (fun rs => rs.map (fun r => (r.err, r.writes)))
    = some [(Err.errno 0, [Wr.region 8192 76, Wr.bytes 16384 [76, 0, 0, 0]])] := by decide +kernel
/-- with the names known the dirents themselves are predicted: d_next = 1, 2, 3, d_namlen, d_type = directory,
directory, regular file, and the names ".", "..", "g" (test, sample) -/
example : (call true true true { dirEntries := [1], dirNames := [([103], 4)] } dirFds zeroPage "fd_readdir" [5, 8192, 256, 0, 16384]).map
      (fun rs => rs.map (fun r => (r.err, r.writes.length, r.writes.getLast?)))
    = some [(Err.errno 0, 11, some (Wr.bytes 16384 [76, 0, 0, 0]))] := by decide +kernel
example : ((pathOpen dirFds zeroPage 3 2048 0 0 16384).map (fun r => (r.err, r.writes))) =
    [(Err.errno 28, [])] := by decide +kernel   -- path_len = 0: EINVAL

/-! ## all 46 functions: one theorem per statement, quantified over the function name in `modelled`

`modelled = modelled1 ++ modelled2`; the first batch has one alternative per call.  Proved for all 46: no host panic
(repaired poll_oneoff; `HostArgsOk`: the sizes of the host's argument and environment lists fit 32 bits), failed
call keeps the table, allocation bounded (all but fd_renumber = F16, `renumber_alloc_witness`), and where a call
writes (repaired sock_recv PEEK and `readv`). -/

theorem call1_by_name (fixed : Bool) (h : Host) (fds : Fds) (m : Mem) (f : Fn1) (a : List Nat) :
    call1 fixed fixedRead h fds m f.name a = call1e fixed fixedRead h fds m f a := by
  unfold call1
  rw [find_fn1]

theorem call2_of_fn1 (fixedRecv fixedRead : Bool) (h : Host) (fds : Fds) (m : Mem) (f : Fn1) (a : List Nat) :
    call2 fixedRecv fixedRead h fds m f.name a = none := by
  unfold call2
  rw [find_fn2_of_fn1]

theorem call_fn1 (fixed fixedRecv fixedRead : Bool) (h : Host) (fds : Fds) (m : Mem) (f : Fn1) (a : List Nat) (rs : List Res)
    (hc : call fixed fixedRecv fixedRead h fds m f.name a = some rs) : ∃ r, call1e fixed fixedRead h fds m f a = some r ∧ rs = [r] := by
  unfold call at hc
  rw [call1_by_name] at hc
  split at hc
  · rename_i r hr
    exact ⟨r, hr, by simpa using hc.symm⟩
  · rw [call2_of_fn1] at hc
    cases hc

theorem modelled_cases (fixed fixedRecv fixedRead : Bool) (h : Host) (fds : Fds) (m : Mem) (fn : String)
    (hfn : fn ∈ modelled) (a : List Nat) (rs : List Res) (hc : call fixed fixedRecv fixedRead h fds m fn a = some rs) :
    (∃ f r, f.name = fn ∧ call1e fixed fixedRead h fds m f a = some r ∧ rs = [r]) ∨ fn ∈ modelled2 := by
  unfold modelled at hfn
  rcases List.mem_append.1 hfn with h1 | h2
  · obtain ⟨f, _, rfl⟩ := List.mem_map.1 h1
    obtain ⟨r, hr, hrs⟩ := call_fn1 fixed fixedRecv fixedRead h fds m f a rs hc
    exact Or.inl ⟨f, r, rfl, hr, hrs⟩
  · exact Or.inr h2

/-- one constructor of `Fn1` -/
macro "fs1_case" hc:ident t:term : tactic =>
  `(tactic| (simp only [call1e] at $hc:ident; split at $hc:ident <;>
      first | (cases $hc:ident; done) | (simp only [Option.some.injEq] at $hc:ident; subst $hc:ident; exact $t)))

/-- one constructor of `Fn1`, for the two statements about where a call writes -/
macro "fs1_wcase" hc:ident t:term : tactic =>
  `(tactic| (simp only [call1e] at $hc:ident; split at $hc:ident <;>
      first | (cases $hc:ident; done)
            | (simp only [Option.some.injEq] at $hc:ident; subst $hc:ident
               simp only [designated1e, List.map]; exact $t)))

theorem designated_by_name1 (h : Host) (m : Mem) (f : Fn1) (a : List Nat) :
    designated h m f.name a = designated1e h m f a := by
  unfold designated
  rw [find_fn2_of_fn1, find_fn1]

theorem call1e_fine (fixed fixedRead : Bool) (h : Host) (fds : Fds) (m : Mem) (f : Fn1) (a : List Nat) (r : Res)
    (hc : call1e fixed fixedRead h fds m f a = some r) :
    Fine1 fixed fixedRead h m (designated1e h m f (a.map w32)) f r := by
  cases f
  case poll_oneoff => fs1_wcase hc (pollOneoff_fine1 fds _ _ _ _ (w32_lt _) (w32_lt _) (w32_lt _))
  case fd_read => fs1_wcase hc (fdRead_cases (P := Fine1 _ _ _ m _ _) _ h fds m _ _ _ _ (fine_err (by decide)).fine1
    (fun rd => fdReadCommon_fine1 rd _ _ _ (w32_lt _) (w32_lt _))).1
  case fd_pread => fs1_wcase hc (fdRead_cases (P := Fine1 _ _ _ m _ _) _ h fds m _ _ _ _ (fine_err (by decide)).fine1
    (fun rd => fdReadCommon_fine1 rd _ _ _ (w32_lt _) (w32_lt _))).2
  case fd_write => fs1_wcase hc (fdWrite_fine fds m _ _ _ _ (w32_lt _)).1.fine1
  case fd_pwrite => fs1_wcase hc (fdWrite_fine fds m _ _ _ _ (w32_lt _)).2.fine1
  case args_get => fs1_wcase hc (writeOffsetsAndValues_fine1 h.args _ _ (w32_lt _) (w32_lt _) (fun ha => ⟨ha.1, ha.2.1⟩))
  case environ_get => fs1_wcase hc (writeOffsetsAndValues_fine1 h.env _ _ (w32_lt _) (w32_lt _) (fun ha => ha.2.2))
  case args_sizes_get | environ_sizes_get => fs1_wcase hc (write2xU32_fine m _ _ _ _ (w32_lt _) (w32_lt _)).fine1
  case clock_res_get => fs1_wcase hc (clock_cases (P := Fine1 _ _ _ m _ _) h m _ _ (fine_err (by decide)).fine1
    (fun v => (writeU64_fine m _ v (w32_lt _)).fine1)).1
  case clock_time_get => fs1_wcase hc (clock_cases (P := Fine1 _ _ _ m _ _) h m _ _ (fine_err (by decide)).fine1
    (fun v => (writeU64_fine m _ v (w32_lt _)).fine1)).2
  case random_get => fs1_wcase hc (randomGet_fine m _ _ (w32_lt _) (w32_lt _)).fine1
  case fd_prestat_get => fs1_wcase hc (fdPrestatGet_fine h fds m _ _ (w32_lt _)).fine1
  case fd_prestat_dir_name => fs1_wcase hc (fdPrestatDirName_fine h fds m _ _ _ (w32_lt _) (w32_lt _)).fine1
  case fd_renumber => fs1_case hc (renumber_fine1 _ _ _ _)
  case fd_close => fs1_case hc (fdClose_fine fds m _).fine1
  case fd_fdstat_get | fd_filestat_get => fs1_wcase hc (statLike_fine fds m _ _ _ (w32_lt _) (by decide)).fine1
  case fd_seek | fd_tell => fs1_wcase hc (seekLike_fine fds m _ _ (w32_lt _)).fine1
  case proc_exit | sched_yield => fs1_case hc (fine_err (by decide)).fine1

/-- no host panic, first batch (repaired poll_oneoff) -/
theorem call1e_no_host_panic (h : Host) (ha : HostArgsOk h) (fds : Fds) (m : Mem) (f : Fn1) (a : List Nat) (r : Res)
    (hc : call1e true fixedRead h fds m f a = some r) : r.err ≠ Err.panic :=
  (call1e_fine true fixedRead h fds m f a r hc).noPanic rfl ha

def Wr1 (m : Mem) (d : List (Nat × Nat)) (r : Res) : Prop :=
  (∀ w ∈ r.writes, w.len = 0 ∨ w.off + w.len ≤ m.size) ∧ (∀ w ∈ r.writes, Wr.within w d)

/-- where the first batch writes: inside the memory and inside the designated regions — all 22 functions
(repaired `readv`, F62; `readv_alias_witness` shows the statement is false for fd_read on the pinned tree; either
variant of poll_oneoff). -/
theorem call1e_writes (fixed : Bool) (h : Host) (ha : HostArgsOk h) (fds : Fds) (m : Mem) (hb : Bytes m)
    (hs : m.size < 9223372036854775808) (f : Fn1) (a : List Nat) (r : Res)
    (hc : call1e fixed true h fds m f a = some r) : Wr1 m (designated1e h m f (a.map w32)) r :=
  have hp := (call1e_fine fixed true h fds m f a r hc).placed rfl ha
  ⟨fun w hw => (hp w hw hs).2 hb, fun w hw => (hp w hw hs).1⟩

/-- **no_host_index_oob, all 46 functions**: whatever the arguments, the memory image and the descriptor table, no
alternative of any call is a Go runtime error in the host (repaired poll_oneoff, either variant of sock_recv). -/
theorem all_no_host_panic (fixedRecv fixedRead : Bool) (h : Host) (hh : HostNamesOk h) (ha : HostArgsOk h) (fds : Fds) (m : Mem)
    (hb : Bytes m) (hs : m.size < 9223372036854775808) (fn : String) (hfn : fn ∈ modelled) (a : List Nat)
    (rs : List Res) (hc : call true fixedRecv fixedRead h fds m fn a = some rs) : ∀ r ∈ rs, r.err ≠ Err.panic := by
  rcases modelled_cases true fixedRecv fixedRead h fds m fn hfn a rs hc with ⟨f, r, rfl, hr, rfl⟩ | h2
  · exact List.forall_mem_singleton.2 (call1e_no_host_panic h ha fds m f a r hr)
  · exact wasi_no_host_panic true fixedRecv fixedRead h hh fds m hb hs fn h2 a rs hc

/-- **descriptor table, all 46 functions**: an alternative that does not answer errno 0 leaves the descriptor table
as it was (no exception; proc_exit, which closes everything, answers `exit`, and its model leaves the table to the
engine). -/
theorem all_failed_call_keeps_table (fixed fixedRecv fixedRead : Bool) (h : Host) (hh : HostNamesOk h) (fds : Fds) (m : Mem)
    (hb : Bytes m) (hs : m.size < 9223372036854775808) (fn : String) (hfn : fn ∈ modelled) (a : List Nat)
    (rs : List Res) (hc : call fixed fixedRecv fixedRead h fds m fn a = some rs) :
    ∀ r ∈ rs, r.err ≠ Err.errno 0 → r.fds = none := by
  rcases modelled_cases fixed fixedRecv fixedRead h fds m fn hfn a rs hc with ⟨f, r, rfl, hr, rfl⟩ | h2
  · exact List.forall_mem_singleton.2 (call1e_fine fixed fixedRead h fds m f a r hr).table
  · exact wasi_failed_call_keeps_table fixed fixedRecv fixedRead h hh fds m hb hs fn h2 a rs hc

/-- **host allocation, 45 functions**: the allocation the model predicts is at most 512 bytes — a constant, a
fortiori linear in the guest memory size.  fd_renumber is the exception (F16, `renumber_alloc_witness`). -/
theorem all_alloc_bounded (fixed fixedRecv fixedRead : Bool) (h : Host) (hh : HostNamesOk h) (fds : Fds) (m : Mem)
    (hb : Bytes m) (hs : m.size < 9223372036854775808) (fn : String) (hfn : fn ∈ modelled) (hne : fn ≠ "fd_renumber")
    (a : List Nat) (rs : List Res) (hc : call fixed fixedRecv fixedRead h fds m fn a = some rs) :
    ∀ r ∈ rs, r.alloc ≤ 512 + 0 * m.size := by
  rcases modelled_cases fixed fixedRecv fixedRead h fds m fn hfn a rs hc with ⟨f, r, rfl, hr, rfl⟩ | h2
  · have := (call1e_fine fixed fixedRead h fds m f a r hr).alloc (fun hf => hne (hf ▸ rfl))
    exact List.forall_mem_singleton.2 (by omega)
  · exact wasi_alloc_bounded fixed fixedRecv fixedRead h hh fds m hb hs fn h2 a rs hc

/-- **where a call writes, all 46 functions** (repaired sock_recv PEEK = F61 and readv = F62; either variant of
poll_oneoff): every write of every alternative lies inside the memory AND inside the regions `designated` gives for
the function (the table that mirrors spec.go).  `m.size ≤ 2^32` is the wasm32 limit. -/
theorem all_writes_in_memory_and_designated (fixed : Bool) (h : Host) (hh : HostNamesOk h) (ha : HostArgsOk h)
    (fds : Fds) (m : Mem) (hb : Bytes m) (hm : m.size ≤ 4294967296) (fn : String) (hfn : fn ∈ modelled)
    (a : List Nat) (rs : List Res) (hc : call fixed true true h fds m fn a = some rs) :
    ∀ r ∈ rs, ∀ w ∈ r.writes, (w.len = 0 ∨ w.off + w.len ≤ m.size) ∧ Wr.within w (designated h m fn (a.map w32)) := by
  have hs : m.size < 9223372036854775808 := by omega
  rcases modelled_cases fixed true true h fds m fn hfn a rs hc with ⟨f, r, rfl, hr, rfl⟩ | h2
  · have := call1e_writes fixed h ha fds m hb hs f a r hr
    rw [designated_by_name1]
    exact List.forall_mem_singleton.2 (fun w hw => ⟨this.1 w hw, this.2 w hw⟩)
  · intro r hr w hw
    exact ⟨wasi_writes_in_memory fixed true true h hh fds m hb hs fn h2 a rs hc r hr w hw,
      wasi_writes_within_designated_by_name fixed h hh fds m hm fn h2 a rs hc r hr w hw⟩

example : modelled.length = 46 ∧ modelled.Nodup := ⟨rfl, modelled_nodup⟩

theorem zeroPage_bytes : Bytes zeroPage := by
  intro a
  simp [Mem.get, zeroPage]

/-- the side conditions of the all-46 theorems are met by an ordinary state (the harness state `dir` on a zeroed
page, an empty host configuration): the theorems apply to, e.g., path_open and fd_read there -/
example (rs : List Res) (hc : call true true true {} dirFds zeroPage "path_open" [3, 0, 2048, 5, 0, 0, 0, 0, 16384] = some rs) :
    ∀ r ∈ rs, ∀ w ∈ r.writes, (w.len = 0 ∨ w.off + w.len ≤ zeroPage.size) ∧
      Wr.within w (designated {} zeroPage "path_open" ([3, 0, 2048, 5, 0, 0, 0, 0, 16384].map w32)) :=
  all_writes_in_memory_and_designated true {} (by unfold HostNamesOk; decide) (by unfold HostArgsOk nulSize; decide)
    dirFds zeroPage zeroPage_bytes (by decide) "path_open" (by decide) _ rs hc
example (rs : List Res) (hc : call true false false {} dirFds zeroPage "fd_read" [4, 0, 2, 16384] = some rs) :
    ∀ r ∈ rs, r.err ≠ Err.panic :=
  all_no_host_panic false false {} (by unfold HostNamesOk; decide) (by unfold HostArgsOk nulSize; decide)
    dirFds zeroPage zeroPage_bytes (by decide) "fd_read" (by decide) _ rs hc
example : HostArgsOk { args := [[112, 114, 111, 103], [45, 120]], env := [[65, 61, 98]] } := by
  unfold HostArgsOk nulSize; decide

end Wz.C15
