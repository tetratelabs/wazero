import Wz.Proofs.ShapeLookup
/-!
# C02 companion: an i32 produced by truncation is zero-extended in its register

The amd64 address-mode lowering folds a single-use `UExtend` of a 32-bit value into the addressing mode by using the
32-bit value's REGISTER as the 64-bit index (`lowerAddendFromInstr`).  That is sound exactly when every producer of an
i32 leaves the upper half of its 64-bit register zero.  32-bit ALU instructions do so architecturally; `i32.wrap_i64`
(`Ireduce`) has to do it explicitly with `movzx.lq` (`mov r32, r32`).  `movzx_index_exact`: with the zero-extending move
the folded address is base + the 32-bit value, for every 64-bit source; `plain_move_escapes_witness`: with a plain 64-bit
move the folded address is 4 GiB beyond the addressed byte for source 0x1_0000_0005 (seeded change C02-8).  The
instruction the lowering emits is a regenerated shape.
-/

namespace Wz.C02

/-- `movzx.lq src, dst`: the low half, zero-extended -/
def movzxLQ (src : BitVec 64) : BitVec 64 := (src.truncate 32).zeroExtend 64

/-- the folded address mode: base + index register (64-bit arithmetic) + displacement -/
def folded (base index : BitVec 64) (disp : BitVec 64) : BitVec 64 := base + index + disp

/-- what WebAssembly asks for: base + zero-extended 32-bit address + displacement -/
def wanted (base : BitVec 64) (addr32 : BitVec 32) (disp : BitVec 64) : BitVec 64 := base + addr32.zeroExtend 64 + disp

theorem movzx_clean (src : BitVec 64) : (movzxLQ src).toNat < 2 ^ 32 := by
  simp only [movzxLQ, BitVec.truncate, BitVec.toNat_setWidth]
  omega

/-- with `movzx.lq` the folded address is the wanted one for EVERY 64-bit source value -/
theorem movzx_index_exact (base src disp : BitVec 64) :
    folded base (movzxLQ src) disp = wanted base (src.truncate 32) disp := rfl

/-- a plain 64-bit move leaves the upper half: the access goes 4 GiB beyond the addressed byte -/
theorem plain_move_escapes_witness :
    folded 0x10000#64 0x100000005#64 0#64 ≠ wanted 0x10000#64 ((0x100000005#64).truncate 32) 0#64 ∧
    (folded 0x10000#64 0x100000005#64 0#64).toNat = (wanted 0x10000#64 ((0x100000005#64).truncate 32) 0#64).toNat + 2 ^ 32 := by
  decide

theorem ireduce_emits_movzx_lq :
    Wz.Gen.Shapes.get "c02.ireduce_amd64" =
      some "panic(\"TODO?: Ireduce to non-i32\") | m.insert(m.allocateInstr().asMovzxRmR(extModeLQ, rn, rd))" := by
  shape_lookup

end Wz.C02
