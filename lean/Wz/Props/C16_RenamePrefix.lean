import Wz.Proofs.ShapeLookup
/-!
# C16 companion: a path is a sequence of names, not a string

"`to` lies below `from`" (a directory cannot be moved into itself) is a statement about name sequences: `from` is a
proper prefix of `to` component by component.  A test on the joined path STRINGS is a different relation:
`string_prefix_is_not_below_witness` (`dir/e` is a string prefix of `dir/e2`, and `[dir, e]` is not an ancestor of
`[dir, e2]`); `sibling_never_below`: for EVERY base path and every two distinct names, neither child is below the other
- so a rename between siblings must never be refused as a move below itself (seeded change C16-9 refused `e -> e2`).
`dirFS.Rename` applies no such test of its own (it joins both paths and calls the host's rename): regenerated shape.
-/

namespace Wz.C16

/-- `from` is a proper ancestor of `to` -/
def below (from_ to : List String) : Bool := from_.isPrefixOf to && from_.length < to.length

/-- two entries of the same directory are never below one another -/
theorem sibling_never_below (base : List String) (a b : String) : below (base ++ [a]) (base ++ [b]) = false := by
  simp [below]

/-- and a rename onto a sibling whose name merely EXTENDS the source's name is such a rename -/
theorem string_prefix_is_not_below_witness :
    (['d', 'i', 'r', '/', 'e'].isPrefixOf ['d', 'i', 'r', '/', 'e', '2'] = true) ∧ below ["dir", "e"] ["dir", "e2"] = false ∧ below ["dir", "e"] ["dir", "e", "sub"] = true := by
  decide

theorem dirfs_rename_applies_no_test_of_its_own :
    Wz.Gen.Shapes.get "c16.dirfs_rename" = some "from, to = d.join(from), d.join(to) | return rename(from, to)" := by
  shape_lookup

end Wz.C16
