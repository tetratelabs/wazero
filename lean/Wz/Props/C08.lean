/-
C08 — Values cross the host/guest boundary unchanged.

Part 1 (marshalling): the regenerated `api.Encode*/Decode*` (`Wz.Gen.ApiCodec`), the per-kind
conversions of `callGoFunc` (`Wz.Model.Marshal`, as-is and repaired variants), the engines' view of a slot.
Part 2 (locations): `backend.FunctionABI` (`Wz.Model.Abi`) for EVERY signature, by induction over the
type list, instantiated with the regenerated register lists (`Wz.Gen.AbiRegs`); the Go-call stack view.
Part 3: `Call`/`CallWithStack` slice sizing.
-/
import Wz.Model.Marshal
import Wz.Model.Abi
import Wz.Gen.AbiRegs
import Wz.Proofs.C08_Abi
import Wz.Proofs.ExitCodeIndex

namespace Wz.C08
open Wz.Model.Marshal Wz.Gen.ApiCodec

/-- The maximum as the code computes it. -/
theorem ite_max (p r : Nat) : p ≤ (if p > r then p else r) ∧ r ≤ (if p > r then p else r) ∧
    ((if p > r then p else r) = p ∨ (if p > r then p else r) = r) := by
  split <;> omega

/-- Rounding up to a multiple of 16 as the code does it: `(m + 15) &^ 15`. -/
theorem roundUp16 (m : Nat) :
    (m + 15) / 16 * 16 % 16 = 0 ∧ m ≤ (m + 15) / 16 * 16 ∧ (m + 15) / 16 * 16 < m + 16 := by omega

theorem setWidth_32_64_32 (x : BitVec 32) : (x.setWidth 64).setWidth 32 = x := by
  rw [BitVec.setWidth_setWidth_of_le x (by decide), BitVec.setWidth_eq]

theorem setWidth_64_high (x : BitVec 32) : x.setWidth 64 >>> 32 = 0#64 := by
  apply BitVec.eq_of_toNat_eq
  rw [BitVec.toNat_ushiftRight, BitVec.toNat_setWidth, Nat.mod_eq_of_lt (Nat.lt_trans x.isLt (by decide)),
    Nat.shiftRight_eq_div_pow, Nat.div_eq_of_lt x.isLt]
  rfl

theorem signExtend_64_setWidth_32 (x : BitVec 32) : (x.signExtend 64).setWidth 32 = x := by
  apply BitVec.eq_of_getLsbD_eq
  intro i hi
  simp only [BitVec.getLsbD_setWidth, BitVec.getLsbD_signExtend]
  simp [hi]
  omega

theorem canonical_zext (t : VT) (x : BitVec 32) : canonical t (x.setWidth 64) = true := by
  unfold canonical
  rw [setWidth_64_high, beq_self_eq_true, Bool.or_true]

theorem canon_of_canonical (t : VT) (s : BitVec 64) (h : canonical t s = true) : canon t s = s := by
  unfold canon
  unfold canonical at h
  cases ht : t.is32
  · rfl
  · rw [ht] at h
    have h2 : s.toNat >>> 32 = 0 := congrArg BitVec.toNat (beq_iff_eq.1 h)
    rw [Nat.shiftRight_eq_div_pow] at h2
    have hlt : s.toNat < 2 ^ 32 := (Nat.div_eq_zero_iff.1 h2).resolve_left (by decide)
    apply BitVec.eq_of_toNat_eq
    rw [if_pos rfl, BitVec.toNat_setWidth, BitVec.toNat_setWidth, Nat.mod_eq_of_lt hlt, Nat.mod_eq_of_lt s.isLt]

/-! ## Part 1a: the regenerated api codecs -/

/-- `DecodeI32 (EncodeI32 v) = v` for every int32 (bit pattern). -/
theorem api_roundtrip_i32 (v : BitVec 32) : DecodeI32 (EncodeI32 v) = v := setWidth_32_64_32 v

theorem api_roundtrip_u32 (v : BitVec 32) : DecodeU32 (EncodeU32 v) = v := setWidth_32_64_32 v

/-- The encoders of the 32-bit integer type produce canonical slots (upper half zero), in particular
for negative int32 values. -/
theorem api_slot_canonical (v : BitVec 32) : EncodeI32 v >>> 32 = 0#64 ∧ EncodeU32 v >>> 32 = 0#64 :=
  ⟨setWidth_64_high v, setWidth_64_high v⟩

/-- The decoders read only the low half: a slot and its canonical form decode alike. -/
theorem api_decode_low_half (s : BitVec 64) :
    DecodeI32 s = DecodeI32 (canon .i32 s) ∧ DecodeU32 s = DecodeU32 (canon .i32 s) :=
  ⟨(setWidth_32_64_32 _).symm, (setWidth_32_64_32 _).symm⟩

/-- 64-bit and reference codecs are the identity on bit patterns. -/
theorem api_identity_64 (v : BitVec 64) :
    EncodeI64 v = v ∧ DecodeExternref (EncodeExternref v) = v ∧ EncodeExternref v = v :=
  ⟨rfl, rfl, rfl⟩

/-- Float encoders (hand-written, identity on bit patterns). -/
theorem api_roundtrip_f32 (v : BitVec 32) : DecodeF32 (EncodeF32 v) = v ∧ EncodeF32 v >>> 32 = 0#64 :=
  ⟨setWidth_32_64_32 v, setWidth_64_high v⟩

/-- The 32-bit encoders are injective: two different values never share a slot (corollary of the round trips), so a
value handed to the guest cannot be confused with another one on the way. -/
theorem api_encode_injective (v w : BitVec 32) :
    (EncodeI32 v = EncodeI32 w → v = w) ∧ (EncodeU32 v = EncodeU32 w → v = w) ∧ (EncodeF32 v = EncodeF32 w → v = w) := by
  refine ⟨fun h => ?_, fun h => ?_, fun h => ?_⟩
  · rw [← api_roundtrip_i32 v, h, api_roundtrip_i32]
  · rw [← api_roundtrip_u32 v, h, api_roundtrip_u32]
  · rw [← (api_roundtrip_f32 v).1, h, (api_roundtrip_f32 w).1]

/-! ## Part 1b: float32 through float64 -/

theorem or_quietBit_of_set (b : BitVec 32) (h : b.getLsbD 22 = true) : b ||| quietBit = b := by
  apply BitVec.eq_of_getLsbD_eq
  intro i hi
  simp only [quietBit, BitVec.getLsbD_or, BitVec.getLsbD_twoPow]
  by_cases h22 : 22 = i
  · subst h22; simp [h]
  · simp [h22]

/-- Everything except a signalling NaN survives float32 -> float64 -> float32. -/
theorem viaF64_id_of_not_snan (b : BitVec 32) (h : isSNaN32 b = false) : viaF64 b = b := by
  unfold viaF64
  unfold isSNaN32 at h
  split
  · rename_i hn
    simp only [hn, Bool.true_and, Bool.not_eq_false'] at h
    exact or_quietBit_of_set b h
  · rfl

/-- A signalling NaN does not (it is quieted): the general form of finding F6. -/
theorem viaF64_changes_snan (b : BitVec 32) (h : isSNaN32 b = true) : viaF64 b ≠ b := by
  unfold isSNaN32 at h
  simp only [Bool.and_eq_true, Bool.not_eq_true'] at h
  unfold viaF64
  rw [if_pos h.1]
  intro heq
  have h1 : (b ||| quietBit).getLsbD 22 = b.getLsbD 22 := by rw [heq]
  rw [BitVec.getLsbD_or, h.2] at h1
  simp [quietBit] at h1

/-- Any pair of conversions obeying the two IEEE laws composes to `viaF64`. -/
theorem conv_viaF64 (c : F32Conv) (b : BitVec 32) : c.narrow (c.widen b) = viaF64 b := by
  unfold viaF64
  cases h : isNaN32 b
  · simp [c.exact b h]
  · simp [c.quiets b h]

/-- Non-vacuity of `F32Conv` (this instance is NOT the IEEE encoding of float64; it only shows the laws are consistent). -/
example : F32Conv :=
  { widen := fun b => (viaF64 b).setWidth 64, narrow := fun d => d.setWidth 32,
    exact := fun b h => by rw [setWidth_32_64_32]; unfold viaF64; rw [h]; rfl
    quiets := fun b h => by rw [setWidth_32_64_32]; unfold viaF64; rw [h]; rfl }

/-! ## Part 1c: callGoFunc -/

/-- FULL STATEMENT (`marshal_roundtrip`): for every kind and every value, what a reflected host function
returns and what a reflected host function then receives from that slot is the same value:
`decodeParam (encodeResult x) = x`.  Proved at full strength for the repaired variant … -/
theorem marshal_roundtrip_repaired (k : Kind) (x : BitVec k.width) :
    decodeParam repaired k (encodeResult repaired k x) = x := by
  cases k <;> first | exact setWidth_32_64_32 x | rfl

/-- … and for the as-is variant (the pinned tree) for every kind except float32 (int32 included: the
sign-extended slot decodes back to the same int32) … -/
theorem marshal_roundtrip_partial (k : Kind) (hk : k ≠ .float32) (x : BitVec k.width) :
    decodeParam asIs k (encodeResult asIs k x) = x := by
  cases k <;> first | exact absurd rfl hk | exact setWidth_32_64_32 x | exact signExtend_64_setWidth_32 x | rfl

/-- … and for float32 whenever the value is not a signalling NaN (what is missing: signalling NaNs, F6). -/
theorem marshal_roundtrip_f32_partial (x : BitVec 32) (h : isSNaN32 x = false) :
    decodeParam asIs .float32 (encodeResult asIs .float32 x) = x := by
  show viaF64 (((viaF64 x).setWidth 64).setWidth 32) = x
  rw [viaF64_id_of_not_snan x h, setWidth_32_64_32, viaF64_id_of_not_snan x h]

/-- Non-vacuity: ordinary values, infinities, quiet NaNs with payload meet the hypothesis. -/
example : isSNaN32 0x7fc12345#32 = false ∧ isSNaN32 0xff800000#32 = false ∧ isSNaN32 0x80000000#32 = false := by decide

/-- F6 witness (test on a sample, by evaluation): the signalling NaN `0x7fa00001` arrives at a reflected
float32 parameter as `0x7fe00001`, and is returned by a reflected float32 result as `0x7fe00001`. -/
theorem f32_snan_witness :
    isSNaN32 0x7fa00001#32 = true ∧
    decodeParam asIs .float32 0x7fa00001#64 = 0x7fe00001#32 ∧
    encodeResult asIs .float32 0x7fa00001#32 = 0x7fe00001#64 := by decide

/-- F6 in general: on the as-is variant EVERY signalling NaN is changed in both directions. -/
theorem f32_snan_always_changed (x : BitVec 32) (h : isSNaN32 x = true) :
    decodeParam asIs .float32 (x.setWidth 64) ≠ x ∧ encodeResult asIs .float32 x ≠ x.setWidth 64 := by
  refine ⟨?_, fun heq => ?_⟩
  · show viaF64 ((x.setWidth 64).setWidth 32) ≠ x
    rw [setWidth_32_64_32]; exact viaF64_changes_snan x h
  · have := congrArg (BitVec.setWidth 32) (show (viaF64 x).setWidth 64 = x.setWidth 64 from heq)
    rw [setWidth_32_64_32, setWidth_32_64_32] at this
    exact viaF64_changes_snan x h this

/-- Parameter direction, FULL STATEMENT: the host receives exactly the low `width` bits of the slot the
guest passed.  Repaired variant: every kind, every slot. -/
theorem param_exact_repaired (k : Kind) (s : BitVec 64) : decodeParam repaired k s = s.setWidth k.width := by
  cases k <;> first | rfl | exact (BitVec.setWidth_eq s).symm

/-- As-is variant: every kind except float32 … -/
theorem param_exact_partial (k : Kind) (hk : k ≠ .float32) (s : BitVec 64) :
    decodeParam asIs k s = s.setWidth k.width := by
  cases k <;> first | exact absurd rfl hk | exact (BitVec.setWidth_eq s).symm | rfl

/-- … and float32 when the slot does not hold a signalling NaN. -/
theorem param_exact_f32_partial (s : BitVec 64) (h : isSNaN32 (s.setWidth 32) = false) :
    decodeParam asIs .float32 s = s.setWidth 32 :=
  viaF64_id_of_not_snan _ h

/-- The upper half of a 32-bit slot never reaches the host (the compiler's trampoline writes only four
bytes of such a slot): any variant, any kind. -/
theorem param_ignores_upper_half (v : Variant) (k : Kind) (s : BitVec 64) :
    decodeParam v k s = decodeParam v k (canon k.vt s) := by
  have h : ((s.setWidth 32).setWidth 64).setWidth 32 = s.setWidth 32 := setWidth_32_64_32 _
  cases k <;> first | exact h.symm | exact (congrArg (fun b => if v.f32ParamExact then b else viaF64 b) h).symm | rfl

/-- Result direction, FULL STATEMENT (`slot_canonical` + exactness): the slot a reflected host function's
result is stored in is the zero-extended bit pattern of the value (so it is canonical, and both engines
read the same thing).  Repaired variant: every kind and value. -/
theorem result_exact_repaired (k : Kind) (x : BitVec k.width) :
    encodeResult repaired k x = x.setWidth 64 ∧ canonical k.vt (encodeResult repaired k x) = true := by
  cases k <;> first | exact ⟨rfl, canonical_zext _ x⟩ | exact ⟨(BitVec.setWidth_eq x).symm, rfl⟩

theorem slot_canonical_repaired (k : Kind) (x : BitVec k.width) :
    canonical k.vt (encodeResult repaired k x) = true := (result_exact_repaired k x).2

/-- As-is variant: canonical for every kind except int32 and (exactness) float32 … -/
theorem slot_canonical_partial (k : Kind) (hk : k ≠ .int32) (x : BitVec k.width) :
    canonical k.vt (encodeResult asIs k x) = true := by
  cases k <;> first | exact absurd rfl hk | exact canonical_zext _ x | exact canonical_zext _ (viaF64 x) | rfl

/-- … and for int32 exactly when the value is non-negative (what is missing: negative int32, F5). -/
theorem slot_canonical_int32_iff (x : BitVec 32) :
    canonical .i32 (encodeResult asIs .int32 x) = true ↔ x.msb = false := by
  show canonical .i32 (x.signExtend 64) = true ↔ _
  constructor
  · intro h
    cases hm : x.msb
    · rfl
    · -- bit 32 of the sign extension is the sign
      have h0 : ((x.signExtend 64) >>> 32).getLsbD 0 = (0#64).getLsbD 0 := by rw [beq_iff_eq.1 h]
      simp [BitVec.getElem_signExtend, hm] at h0
  · intro hm
    rw [BitVec.signExtend_eq_setWidth_of_msb_false hm]
    exact canonical_zext _ x

/-- F5 witness: a reflected host function returning `int32(-1)` stores `0xFFFFFFFF_FFFFFFFF`; the slot is
not canonical; the interpreter then evaluates `x != -1` (i32.ne against i32.const -1) to true, the compiler
to false. -/
theorem int32_result_witness :
    encodeResult asIs .int32 0xffffffff#32 = 0xffffffffffffffff#64 ∧
    canonical .i32 (encodeResult asIs .int32 0xffffffff#32) = false ∧
    wasmNeI32 .interpreter (encodeResult asIs .int32 0xffffffff#32) 0xffffffff#32 = true ∧
    wasmNeI32 .compiler (encodeResult asIs .int32 0xffffffff#32) 0xffffffff#32 = false := by decide

/-- Repaired: the same value gives a canonical slot and both engines answer false. -/
theorem int32_result_repaired_witness :
    encodeResult repaired .int32 0xffffffff#32 = 0x00000000ffffffff#64 ∧
    wasmNeI32 .interpreter (encodeResult repaired .int32 0xffffffff#32) 0xffffffff#32 = false ∧
    wasmNeI32 .compiler (encodeResult repaired .int32 0xffffffff#32) 0xffffffff#32 = false := by decide

/-- A canonical slot is read identically by both engines, for every type and slot. -/
theorem canonical_engine_independent (t : VT) (s : BitVec 64) (h : canonical t s = true) :
    guestView .interpreter t s = guestView .compiler t s :=
  (canon_of_canonical t s h).symm

/-- Non-vacuity: a concrete canonical slot of a 32-bit type with the sign bit set. -/
example : canonical .i32 0x00000000ffffffff#64 = true ∧ canonical .f32 0x000000007fa00001#64 = true := by decide

/-- Echo through a reflected host function (guest passes slot `s`, host returns what it received):
the guest gets back the canonical slot of the same value — repaired variant, every kind and slot. -/
theorem echo_repaired (k : Kind) (s : BitVec 64) :
    encodeResult repaired k (decodeParam repaired k s) = canon k.vt s := by
  cases k <;> rfl

/-- `C08` for the marshalling layer, assembled (repaired variant; the as-is variant satisfies the same
statement on the inputs delimited by the `_partial` theorems above): for every kind and every canonical
slot the guest passes, (1) the host receives exactly its value, (2) echoing it back yields exactly that
slot, (3) which both engines read identically. -/
theorem C08_marshal_repaired (k : Kind) (s : BitVec 64) (hs : canonical k.vt s = true) :
    decodeParam repaired k s = s.setWidth k.width ∧
    encodeResult repaired k (decodeParam repaired k s) = s ∧
    guestView .interpreter k.vt (encodeResult repaired k (decodeParam repaired k s)) =
      guestView .compiler k.vt (encodeResult repaired k (decodeParam repaired k s)) := by
  have he : encodeResult repaired k (decodeParam repaired k s) = s :=
    (echo_repaired k s).trans (canon_of_canonical _ s hs)
  exact ⟨param_exact_repaired k s, he, by rw [he]; exact canonical_engine_independent _ _ hs⟩

/-! ## Part 2: argument/result locations for every signature -/

section Abi
open Wz.Model.Abi Wz.C08.AbiLemmas Wz.Gen.AbiRegs

/-- Two located values do not clash: their stack bytes do not overlap and they are not in the same register. -/
def NoClash (a b : Arg) : Prop :=
  (∀ oa ob, a.loc = .stack oa → b.loc = .stack ob → oa + a.ty.slotSize ≤ ob ∨ ob + b.ty.slotSize ≤ oa) ∧
  (∀ c r, a.loc = .reg c r → b.loc ≠ .reg c r)

theorem Sep.noClash {a b : Arg} (h : Sep a b) : NoClash a b ∧ NoClash b a :=
  ⟨⟨fun oa ob ha hb => Or.inl (h.1 oa ob ha hb), h.2⟩,
   ⟨fun oa ob ha hb => Or.inr (h.1 ob oa hb ha), fun c r hb ha => h.2 c r ha hb⟩⟩

/-- `abi_locations_injective`, FULL STATEMENT, for EVERY type list (unbounded arity; induction over the
list in `AbiLemmas`) and every pair of duplicate-free register lists: (1) no two values share a register
or overlapping stack bytes; (2) every stack value lies inside `[0, stackSize)`; (3) register values are in
a register of their own class taken from the list; (4) indices and types are those of the signature.
`setABIArgs` is used for parameters and results alike, so this covers both. -/
theorem abi_locations_injective (ints floats : List Nat) (hI : ints.Nodup) (hF : floats.Nodup) (tys : List Ty) :
    (∀ (i j : Nat) (hi : i < (setABIArgs ints floats tys).1.length) (hj : j < (setABIArgs ints floats tys).1.length),
        i ≠ j → NoClash (setABIArgs ints floats tys).1[i] (setABIArgs ints floats tys).1[j]) ∧
    (∀ a ∈ (setABIArgs ints floats tys).1, ∀ o, a.loc = .stack o → o + a.ty.slotSize ≤ (setABIArgs ints floats tys).2) ∧
    (∀ a ∈ (setABIArgs ints floats tys).1, ∀ r, a.loc = .reg true r → a.ty.isInt = true ∧ r ∈ ints) ∧
    (∀ a ∈ (setABIArgs ints floats tys).1, ∀ r, a.loc = .reg false r → a.ty.isInt = false ∧ r ∈ floats) ∧
    (setABIArgs ints floats tys).1.map Arg.index = List.range tys.length ∧
    (setABIArgs ints floats tys).1.map Arg.ty = tys := by
  have hp := assign_pairwise ints floats hI hF tys st0 0
  have hg := assign_good ints floats tys st0 0
  have hx := assign_index_ty ints floats tys st0 0
  have hreg (c : Bool) : ∀ a ∈ assign ints floats st0 0 tys, ∀ r, a.loc = .reg c r →
      a.ty.isInt = c ∧ r ∈ regs ints floats c := fun a ha r hr =>
    let ⟨ht, _, _, hj⟩ := (hg.2 a ha).reg c r hr; ⟨ht, List.mem_of_getElem? hj⟩
  refine ⟨fun i j hi hj hne => ?_, fun a ha o ho => ((hg.2 a ha).stack o ho).2, hreg true, hreg false, ?_, hx.2⟩
  · rw [List.pairwise_iff_getElem] at hp
    rcases Nat.lt_or_gt_of_ne hne with h | h
    · exact (Sep.noClash (hp i j hi hj h)).1
    · exact (Sep.noClash (hp j i hj hi h)).2
  · exact hx.1.trans List.range_eq_range'.symm

/-- Register-class counts (`ArgIntRealRegs` etc.): exactly `min(list length, number of values of the class)`,
so they never exceed the lists. -/
theorem abi_reg_counts (ints floats : List Nat) (tys : List Ty) :
    ((setABIArgs ints floats tys).1.filter isRegInt).length = min ints.length (countInt tys) ∧
    ((setABIArgs ints floats tys).1.filter isRegFloat).length = min floats.length (countFloat tys) := by
  have h := assign_reg_counts ints floats tys st0 0
  have hi := finalSt_cursors ints floats true tys st0 (Nat.zero_le _)
  have hf := finalSt_cursors ints floats false tys st0 (Nat.zero_le _)
  exact ⟨h.1.trans (hi.trans (congrArg _ (Nat.zero_add _))), h.2.trans (hf.trans (congrArg _ (Nat.zero_add _)))⟩

/-- `abi_cliffs`, FULL STATEMENT: in any signature `pre ++ t :: post` the value `t` (index `pre.length`)
goes to the stack exactly when the number of values of its class before it has reached the length of that
class's register list — i.e. the (k+1)-th int/float is on the stack iff k ≥ list length. -/
theorem abi_cliffs (ints floats : List Nat) (pre post : List Ty) (t : Ty) :
    ∃ a, (setABIArgs ints floats (pre ++ t :: post)).1[pre.length]? = some a ∧ a.index = pre.length ∧ a.ty = t ∧
      ((∃ o, a.loc = .stack o) ↔
        (if t.isInt then ints.length ≤ countInt pre else floats.length ≤ countFloat pre)) := by
  refine ⟨⟨pre.length, t, (place ints floats (finalSt ints floats st0 pre) t).1⟩, ?_, rfl, rfl, ?_⟩
  · simp only [setABIArgs, assign_append, assign, Nat.zero_add]
    rw [List.getElem?_append_right (by rw [assign_length]; exact Nat.le_refl _)]
    simp [assign_length]
  · -- the cursor of `t`'s class after `pre`: its count, capped by the list
    have hc := finalSt_cursors ints floats t.isInt pre st0 (cur_st0 _ ▸ Nat.zero_le _)
    rw [cur_st0, Nat.zero_add] at hc
    have hcliff : (∃ o, (place ints floats (finalSt ints floats st0 pre) t).1 = .stack o) ↔
        (regs ints floats t.isInt).length ≤ count t.isInt pre := by
      rcases place_cases ints floats (finalSt ints floats st0 pre) t with ⟨r, he, h⟩ | ⟨he, h⟩ <;> rw [h]
      · have := (List.getElem?_eq_some_iff.1 he).1
        exact ⟨nofun, fun hle => by omega⟩
      · have := List.getElem?_eq_none_iff.1 he
        exact ⟨fun _ => by omega, fun _ => ⟨_, rfl⟩⟩
    cases ht : t.isInt <;> rw [ht] at hcliff <;> exact hcliff

/-- The regenerated register lists of the real back ends satisfy the hypotheses: no duplicates, the two
classes are disjoint, lengths 9/8 (amd64) and 8/8 (arm64).  (`decide` over the regenerated finite table.) -/
theorem regs_ok :
    amd64IntArgResultRegs.Nodup ∧ amd64FloatArgResultRegs.Nodup ∧
    amd64IntArgResultRegs.length = 9 ∧ amd64FloatArgResultRegs.length = 8 ∧
    (∀ r ∈ amd64IntArgResultRegs, r ∉ amd64FloatArgResultRegs) ∧
    arm64IntArgResultRegs.Nodup ∧ arm64FloatArgResultRegs.Nodup ∧
    arm64IntArgResultRegs.length = 8 ∧ arm64FloatArgResultRegs.length = 8 ∧
    (∀ r ∈ arm64IntArgResultRegs, r ∉ arm64FloatArgResultRegs) := by decide +kernel

/-- Non-vacuity of `abi_locations_injective` for the real lists, on a signature crossing both cliffs with
a vector on the stack (evaluation of the model, a test). -/
example :
    (setABIArgs amd64IntArgResultRegs amd64FloatArgResultRegs
      [.i64, .i64, .i32, .i32, .i32, .i32, .i32, .i32, .i32, .i32, .f32, .f32, .f32, .f32, .f32, .f32, .f32, .f32, .v128, .i64]).2 = 32 := by
  decide

/-- The cliff as the property text states it for amd64: a wasm-level signature is compiled with two leading
i64 parameters (execution context, module context); a wasm integer parameter preceded by `k` integer
parameters is passed on the stack iff `k ≥ 7`, a float parameter preceded by `k` floats iff `k ≥ 8`. -/
theorem abi_cliffs_wasm_amd64 (pre post : List Ty) (t : Ty) :
    ∃ a, (setABIArgs amd64IntArgResultRegs amd64FloatArgResultRegs (.i64 :: .i64 :: (pre ++ t :: post))).1[pre.length + 2]?
        = some a ∧ a.index = pre.length + 2 ∧ a.ty = t ∧
      ((∃ o, a.loc = .stack o) ↔ (if t.isInt then 7 ≤ countInt pre else 8 ≤ countFloat pre)) := by
  obtain ⟨a, h1, h2, h3, h4⟩ :=
    abi_cliffs amd64IntArgResultRegs amd64FloatArgResultRegs (.i64 :: .i64 :: pre) post t
  refine ⟨a, h1, h2, h3, h4.trans ?_⟩
  -- nine integer registers, two of them taken by the context parameters
  have c1 : countInt (.i64 :: .i64 :: pre) = countInt pre + 2 := rfl
  have c2 : countFloat (.i64 :: .i64 :: pre) = countFloat pre := rfl
  rw [c1, c2, show amd64IntArgResultRegs.length = 9 from rfl, show amd64FloatArgResultRegs.length = 8 from rfl]
  split <;> omega

/-- `FunctionABI.Init`: the four byte counters are the exact counts (no wrap-around of the Go `byte`), hence
never exceed the register lists; both stack sizes bound their values (by `abi_locations_injective`). -/
theorem abi_init_counts (ints floats : List Nat) (hi : ints.length < 256) (hf : floats.length < 256) (ps rs : List Ty) :
    (abiInit ints floats ps rs).argIntRealRegs = min ints.length (countInt ps) ∧
    (abiInit ints floats ps rs).argFloatRealRegs = min floats.length (countFloat ps) ∧
    (abiInit ints floats ps rs).retIntRealRegs = min ints.length (countInt rs) ∧
    (abiInit ints floats ps rs).retFloatRealRegs = min floats.length (countFloat rs) := by
  have hp := abi_reg_counts ints floats ps
  have hr := abi_reg_counts ints floats rs
  have hI (n : Nat) : min ints.length n % 256 = min ints.length n :=
    Nat.mod_eq_of_lt (Nat.lt_of_le_of_lt (Nat.min_le_left ..) hi)
  have hF (n : Nat) : min floats.length n % 256 = min floats.length n :=
    Nat.mod_eq_of_lt (Nat.lt_of_le_of_lt (Nat.min_le_left ..) hf)
  unfold abiInit
  dsimp only
  rw [hp.1, hp.2, hr.1, hr.2]
  exact ⟨hI _, hF _, hI _, hF _⟩

/-- `AlignedArgResultStackSlotSize`: a multiple of 16 that covers both areas with less than 16 bytes of padding. -/
theorem aligned_slot_size (a : FunctionABI) (s : Nat) (h : a.alignedSlotSize = some s) :
    s % 16 = 0 ∧ a.retStackSize + a.argStackSize ≤ s ∧ s < a.retStackSize + a.argStackSize + 16 := by
  unfold FunctionABI.alignedSlotSize at h
  dsimp only at h
  split at h
  · cases h
  · cases h; exact roundUp16 _

/-! ### the Go-call stack view -/

/-- `stackview_bijective`, FULL STATEMENT, every type list: the map (value i, half h) ↦ slot
`slotIndex i + h` used by the trampolines for parameters in and results out, and `slotOwner`, are inverse
to each other, and together cover exactly the slots `[0, totalSlots)` (v128 = 2 slots). -/
theorem stackview_bijective (tys : List Ty) :
    (∀ i h t, tys[i]? = some t → h < t.goSlots →
        slotIndex tys i + h < totalSlots tys ∧ slotOwner tys (slotIndex tys i + h) = some (i, h)) ∧
    (∀ s, s < totalSlots tys →
        ∃ i h t, slotOwner tys s = some (i, h) ∧ tys[i]? = some t ∧ h < t.goSlots ∧ slotIndex tys i + h = s) :=
  ⟨slotOwner_slotIndex tys, slotOwner_total tys⟩

/-- For host functions (no vectors): slot i is parameter i in and result i out. -/
theorem stackview_identity (tys : List Ty) (hv : ∀ t ∈ tys, t ≠ .v128) (i : Nat) (hi : i ≤ tys.length) :
    slotIndex tys i = i := by
  induction tys generalizing i with
  | nil => simp at hi; subst hi; simp [slotIndex]
  | cons u us ih =>
    cases i with
    | zero => simp [slotIndex]
    | succ i =>
      rw [slotIndex_cons_succ, ih (fun t ht => hv t (List.mem_cons_of_mem _ ht)) i (by simpa using hi)]
      have : u ≠ .v128 := hv u (List.mem_cons_self ..)
      cases u <;> simp [Ty.goSlots] at this ⊢ <;> omega

/-- Non-vacuity / sample: a vector shifts the following slots by one. -/
example : slotIndex [.i32, .v128, .f64] 2 = 3 ∧ slotOwner [.i32, .v128, .f64] 2 = some (1, 1) ∧
    totalSlots [.i32, .v128, .f64] = 4 := by decide

theorem need_eq_slots (tys : List Ty) :
    (tys.map fun t => if t.size < 8 then 8 else t.size).sum = 8 * totalSlots tys := by
  induction tys with
  | nil => rfl
  | cons t ts ih =>
    rw [List.map_cons, List.sum_cons, ih, show totalSlots (t :: ts) = t.goSlots + totalSlots ts from rfl, Nat.mul_add]
    cases t <;> rfl

/-- `GoFunctionCallRequiredStackSize`: the unaligned size is exactly 8 × max(parameter slots, result slots)
— the shared slice holds all parameters in and all results out — and the aligned size is its 16-byte round-up. -/
theorem gocall_size_fits (ps rs : List Ty) :
    let r := goCallRequiredStackSize ps rs
    8 * totalSlots ps ≤ r.2 ∧ 8 * totalSlots rs ≤ r.2 ∧ (r.2 = 8 * totalSlots ps ∨ r.2 = 8 * totalSlots rs) ∧
      r.2 ≤ r.1 ∧ r.1 < r.2 + 16 ∧ r.1 % 16 = 0 := by
  simp only [goCallRequiredStackSize, need_eq_slots]
  have hm := ite_max (8 * totalSlots ps) (8 * totalSlots rs)
  have h16 := roundUp16 (if 8 * totalSlots ps > 8 * totalSlots rs then 8 * totalSlots ps else 8 * totalSlots rs)
  exact ⟨hm.1, hm.2.1, hm.2.2, h16.2.1, h16.2.2, h16.1⟩

end Abi

/-! ## Part 3: slice sizing -/

/-- `Call` allocates (and `CallWithStack` demands) `max(params, results)` slots: both the parameters and
the results fit, and nothing more is required. -/
theorem slice_fits (p r : Nat) : p ≤ sliceSize p r ∧ r ≤ sliceSize p r ∧ (sliceSize p r = p ∨ sliceSize p r = r) :=
  ite_max p r

/-- The compiler reaches a host function by packing its index into the exit code of the trampoline
(`ExitCodeCallGo[Module]FunctionWithIndex`) and unpacking it in the Go dispatcher (`GoFunctionIndexFromExitCode`):
for every index below 2^24 (host modules hold at most 2^16 functions) and both listener variants the function that
runs is the one that was called.  About the REGENERATED definitions (wazevoapi/exitcode.go). -/
theorem host_function_index_survives_dispatch (i : BitVec 64) (l : Bool) (h : i.toNat < 2 ^ 24) :
    Wz.Gen.CallEngine.GoFunctionIndexFromExitCode (Wz.Gen.CallEngine.ExitCodeCallGoFunctionWithIndex i l) = i ∧
    Wz.Gen.CallEngine.GoFunctionIndexFromExitCode (Wz.Gen.CallEngine.ExitCodeCallGoModuleFunctionWithIndex i l) = i :=
  Wz.Proofs.ExitCode.roundtrip i l h

-- non-vacuity (test on a sample): function 300 of a host module, with a listener
example : Wz.Gen.CallEngine.GoFunctionIndexFromExitCode (Wz.Gen.CallEngine.ExitCodeCallGoFunctionWithIndex 300#64 true) = 300#64 := by decide

end Wz.C08
