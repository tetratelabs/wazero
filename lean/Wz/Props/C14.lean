/-
C14 — Memory size, growth and the host memory API follow the limits exactly.
Property theorems only; all about definitions regenerated from /repo (`Wz.Gen.Memory`) or the
model built on them (`Wz.Model.Memory`).
-/
import Wz.Model.Memory
import Wz.Proofs.GenMemory
import Wz.Proofs.GenSizer
import Wz.Gen.FrontendReload
import Wz.Proofs.ShapeLookup
namespace Wz.C14
open Wz.Gen.Memory Wz.Model.Memory Wz.Proofs.GenSizer

/-- The state invariant: the buffer is a whole number of pages, within [min, max], max ≤ 65536. -/
structure Inv (m : Mem) : Prop where
  whole : ∃ p : Nat, p ≤ 65536 ∧ m.len.toNat = p * 65536
  lo : m.min.toNat * 65536 ≤ m.len.toNat
  hi : m.len.toNat ≤ m.max.toNat * 65536
  maxle : m.max.toNat ≤ 65536

theorem pages_eq (len : BitVec 64) (p : Nat) (hp : p ≤ 65536) (h : len.toNat = p * 65536) :
    (Pages len).toNat = p := by
  simp only [Pages, memoryBytesNumToPages, BitVec.toNat_setWidth, BitVec.toNat_ushiftRight, h,
    Nat.shiftRight_eq_div_pow]
  rw [Nat.mul_div_cancel _ (by decide), Nat.mod_eq_of_lt (Nat.lt_of_le_of_lt hp (by decide))]

theorem pages_toNat (len : BitVec 64) (p : Nat) (hp : p ≤ 65536) (h : len.toNat = p * 65536) :
    (Pages len).toNat = p ∨ (p = 65536 ∧ (Pages len).toNat = 65536) :=
  .inl (pages_eq len p hp h)

theorem bytes_toNat (p : BitVec 32) : (MemoryPagesToBytesNum p).toNat = p.toNat * 65536 := by
  have h : p.toNat < 2 ^ 32 := p.isLt
  simp only [MemoryPagesToBytesNum, BitVec.toNat_shiftLeft, BitVec.toNat_setWidth, Nat.shiftLeft_eq]
  rw [Nat.mod_eq_of_lt (Nat.lt_trans h (by decide)), Nat.mod_eq_of_lt]
  exact Nat.lt_of_lt_of_le ((Nat.mul_lt_mul_right (by decide)).mpr h) (by decide)

theorem hasSize_iff (off : BitVec 32) (n len : BitVec 64) (hn : n.toNat < 2^63) :
    hasSize off n len = true ↔ off.toNat + n.toNat ≤ len.toNat :=
  Wz.Gen.Memory.hasSize_iff off n len hn

/-- The regenerated `Grow` decision tree, flattened. -/
theorem Grow_eq (δ max cap : BitVec 32) (len : BitVec 64) (sh a n mv : Bool) :
    Grow δ sh len max cap a n mv =
      if δ == 0#32 then some (Pages len, true)
      else if BitVec.ult max (Pages len + δ) || BitVec.slt δ 0#32 then some (0#32, false)
      else if a && n then some (0#32, false)
      else if sh && (if a then mv else BitVec.ult cap (Pages len + δ)) then none
      else some (Pages len, true) := by
  cases sh <;> cases a <;> cases n <;> simp [Grow]

/-- The guard of `Grow` in arithmetic: for page counts up to 65536 neither the 32-bit sum nor the
sign test loses anything. -/
theorem guard_iff (δ max pg : BitVec 32) (hpg : pg.toNat ≤ 65536) (hmax : max.toNat ≤ 65536) :
    (BitVec.ult max (pg + δ) || BitVec.slt δ 0#32) = true ↔ max.toNat < pg.toNat + δ.toNat := by
  have hδ := δ.isLt
  rw [BitVec.slt_zero_eq_msb, BitVec.msb_eq_decide]
  simp only [Bool.or_eq_true, BitVec.ult, decide_eq_true_eq, BitVec.toNat_add]
  omega

theorem Grow_fits (δ max cap : BitVec 32) (len : BitVec 64) (sh a n mv : Bool) (r : BitVec 32)
    (hpg : (Pages len).toNat ≤ 65536) (hmax : max.toNat ≤ 65536) (hd : δ ≠ 0#32)
    (hr : Grow δ sh len max cap a n mv = some (r, true)) :
    (Pages len).toNat + δ.toNat ≤ max.toNat := by
  rw [Grow_eq, if_neg (mt beq_iff_eq.mp hd)] at hr
  refine Nat.not_lt.mp fun hk => ?_
  rw [if_pos ((guard_iff δ max _ hpg hmax).mpr hk)] at hr
  cases hr

/-- Grow's decision, at full strength: with current size `cur ≤ 65536` pages and `max ≤ 65536`,
for EVERY 32-bit delta (including ≥ 2^31 and values that wrap `cur+delta`), when the allocator does not
fail, every non-panicking outcome of Grow succeeds iff `cur + delta ≤ max` over the naturals, and then
returns the previous size. -/
theorem grow_iff (δ max cap : BitVec 32) (len : BitVec 64) (sh hasAlloc moved : Bool) (cur : Nat)
    (hcur : cur ≤ 65536) (hlen : len.toNat = cur * 65536) (hmax : max.toNat ≤ 65536)
    (hcm : cur ≤ max.toNat) (r : BitVec 32 × Bool)
    (hr : Grow δ sh len max cap hasAlloc false moved = some r) :
    (r.2 = true ↔ cur + δ.toNat ≤ max.toNat) ∧ (r.2 = true → r.1.toNat = cur) := by
  have hp := pages_eq len cur hcur hlen
  have key := guard_iff δ max (Pages len) (hp ▸ hcur) hmax
  rw [hp] at key
  rw [Grow_eq, Bool.and_false] at hr
  by_cases hd : δ = 0#32
  · subst hd
    cases hr
    exact ⟨iff_of_true rfl hcm, fun _ => hp⟩
  rw [if_neg (mt beq_iff_eq.mp hd)] at hr
  by_cases hk : cur + δ.toNat ≤ max.toNat
  · rw [if_neg (mt key.mp (Nat.not_lt.mpr hk)), if_neg Bool.false_ne_true] at hr
    cases (Option.ite_none_left_eq_some.mp hr).2
    exact ⟨iff_of_true rfl hk, fun _ => hp⟩
  · rw [if_pos (key.mpr (Nat.not_le.mp hk))] at hr
    cases hr
    exact ⟨iff_of_false Bool.false_ne_true hk, nofun⟩

/-- Panic-freedom of Grow when the allocator contract holds (a shared memory never moves) and a
shared memory without allocator has `cap = max` (it is allocated at its maximum). -/
theorem grow_no_panic (δ max cap : BitVec 32) (len : BitVec 64) (sh hasAlloc allocNil moved : Bool)
    (cur : Nat) (hcur : cur ≤ 65536) (hlen : len.toNat = cur * 65536) (hmax : max.toNat ≤ 65536)
    (hmoved : sh = true → moved = false) (hcap : sh = true → hasAlloc = false → cap = max) :
    Grow δ sh len max cap hasAlloc allocNil moved ≠ none := by
  -- only the last of the four tests can panic; under the two contracts it reads `moved = true` or
  -- `max < pages + δ`, and the latter was excluded by the guard before it
  rw [Ne, Grow_eq, ite_some_eq_none, ite_some_eq_none, ite_some_eq_none, ite_eq_left_iff]
  rintro ⟨_, hg, _, h⟩
  have h := Bool.and_eq_true_iff.mp (Decidable.by_contra fun hn => Option.some_ne_none _ (h hn))
  cases hasAlloc
  · rw [hcap h.1 rfl] at h
    exact hg (Bool.or_eq_true_iff.mpr (.inl h.2))
  · exact Bool.false_ne_true (hmoved h.1 ▸ h.2)

/-- The option only moves the capacity from the minimum to the maximum. -/
theorem memorySizer_eq (l m : BitVec 32) (x : Option (BitVec 32)) (c : Bool) :
    memorySizer l c m x = (m, if c then clampMax l x else m, clampMax l x) := by
  cases x with
  | none => cases c <;> rfl
  | some mx =>
    cases c <;> cases h1 : BitVec.ult 65536#32 mx <;> cases h2 : BitVec.ult l mx <;>
      simp [memorySizer, clampMax, BitVec.ule_eq_not_ult, h1, h2]

theorem decodeMemory_ok_iff (l m : BitVec 32) (x : Option (BitVec 32)) (c : Bool)
    (r : BitVec 32 × BitVec 32 × BitVec 32) :
    decodeMemory l c m x = .ok r ↔
      r = (m, if c then clampMax l x else m, clampMax l x) ∧
        (clampMax l x).toNat ≤ l.toNat ∧ m.toNat ≤ (clampMax l x).toNat := by
  have hv : Validate l m (if c then clampMax l x else m) (clampMax l x) = none ↔
      (clampMax l x).toNat ≤ l.toNat ∧ m.toNat ≤ (clampMax l x).toNat := by
    cases c
    · exact (validate_cap l m _).1
    · exact (validate_cap l m _).2
  rw [← hv]
  simp only [decodeMemory, memorySizer_eq]
  split <;> rename_i h
  · exact ⟨nofun, fun ⟨_, hv⟩ => nomatch h.symm.trans hv⟩
  · exact ⟨fun hr => ⟨(Except.ok.inj hr).symm, h⟩, fun hs => congrArg _ hs.1.symm⟩

/-- Every successful decode of a memory type yields limits within the configured limit:
min ≤ max ≤ limit and min ≤ cap ≤ limit, with min the declared minimum. -/
theorem decode_bounds (limit minP : BitVec 32) (maxP : Option (BitVec 32)) (cfm : Bool)
    (r : BitVec 32 × BitVec 32 × BitVec 32) (h : decodeMemory limit cfm minP maxP = .ok r) :
    r.1 = minP ∧ r.1.toNat ≤ r.2.2.toNat ∧ r.2.2.toNat ≤ limit.toNat ∧
      r.1.toNat ≤ r.2.1.toNat ∧ r.2.1.toNat ≤ limit.toNat := by
  obtain ⟨rfl, h1, h2⟩ := (decodeMemory_ok_iff ..).mp h
  cases cfm
  · exact ⟨rfl, h2, h1, Nat.le_refl _, Nat.le_trans h2 h1⟩
  · exact ⟨rfl, h2, h1, h2, h1⟩

/-- With a declared maximum the effective maximum is min(declared max, limit), for both settings of
capacity-from-max and without assuming the declared maximum valid: one above 65536 is passed on unclamped, and accepted
only under a limit above it. -/
theorem decode_max_some (limit minP mx : BitVec 32) (cfm : Bool)
    (r : BitVec 32 × BitVec 32 × BitVec 32) (h : decodeMemory limit cfm minP (some mx) = .ok r) :
    r.2.2.toNat = Nat.min mx.toNat limit.toNat := by
  obtain ⟨rfl, h1, _⟩ := (decodeMemory_ok_iff ..).mp h
  have e := clampMax_toNat limit mx
  show (clampMax limit (some mx)).toNat = min mx.toNat limit.toNat
  split at e <;> omega

/-- When the declared maximum is a valid wasm value (≤ 65536) and capacity-from-max is off, the
effective maximum is exactly min(declared max, limit); without a declared maximum it is the limit. -/
theorem decode_max_exact (limit minP : BitVec 32) (maxP : Option (BitVec 32))
    (r : BitVec 32 × BitVec 32 × BitVec 32) (h : decodeMemory limit false minP maxP = .ok r) :
    r.2.2.toNat = match maxP with
      | some mx => Nat.min mx.toNat limit.toNat
      | none => limit.toNat := by
  cases maxP with
  | some mx => exact decode_max_some _ _ _ _ r h
  | none => exact congrArg (·.2.2.toNat) ((decodeMemory_ok_iff ..).mp h).1

/-- TOTAL and exact, both settings of `WithMemoryCapacityFromMax` (the regenerated sizer + Validate): every memory
type whose declared maximum is a valid wasm value (≤ 65536, the boundary included) and whose minimum fits is
ACCEPTED, keeps its minimum, and gets the effective maximum min(declared max, limit) - for every configured limit. -/
theorem decode_accepts_valid (limit minP mx : BitVec 32) (cfm : Bool)
    (hx : mx.toNat ≤ 65536) (hm : minP.toNat ≤ Nat.min mx.toNat limit.toNat) :
    ∃ r, decodeMemory limit cfm minP (some mx) = .ok r ∧ r.1 = minP ∧
      r.2.2.toNat = Nat.min mx.toNat limit.toNat := by
  have hM : (clampMax limit (some mx)).toNat = min mx.toNat limit.toNat := by
    rw [clampMax_toNat, if_neg (Nat.not_lt.mpr hx)]
  exact ⟨_, (decodeMemory_ok_iff ..).mpr ⟨rfl, hM ▸ Nat.min_le_right .., hM ▸ hm⟩, rfl, hM⟩

/-- … and without a declared maximum the effective maximum is the configured limit. -/
theorem decode_accepts_nomax (limit minP : BitVec 32) (cfm : Bool) (hm : minP.toNat ≤ limit.toNat) :
    ∃ r, decodeMemory limit cfm minP none = .ok r ∧ r.1 = minP ∧ r.2.2 = limit :=
  ⟨_, (decodeMemory_ok_iff ..).mpr ⟨rfl, Nat.le_refl _, hm⟩, rfl, rfl⟩

-- non-vacuity (test on a sample): (memory 1 65536) under WithMemoryLimitPages(3), capacity from max
example : decodeMemory 3#32 true 1#32 (some 65536#32) = .ok (1#32, 3#32, 3#32) := by rfl

theorem grow_len (m : Mem) (h : Inv m) (δ : BitVec 32) (a n mv : Bool)
    (r : Mem × BitVec 32 × Bool) (hr : grow m δ a n mv = some r) :
    (r.1.min = m.min ∧ r.1.max = m.max ∧ r.1.shared = m.shared) ∧
      ∃ q, m.len.toNat ≤ q * 65536 ∧ q ≤ m.max.toNat ∧ r.1.len.toNat = q * 65536 := by
  obtain ⟨p, hp, hlen⟩ := h.whole
  have hq : p ≤ m.max.toNat := Nat.le_of_mul_le_mul_right (hlen ▸ h.hi) (by decide)
  revert hr
  fun_cases grow m δ a n mv <;> intro hr <;> cases hr
  · exact ⟨⟨rfl, rfl, rfl⟩, p, Nat.le_of_eq hlen, hq, hlen⟩
  · exact ⟨⟨rfl, rfl, rfl⟩, p, Nat.le_of_eq hlen, hq, hlen⟩
  · rename_i _ hg hd _ _
    have hpg : (Pages m.len).toNat = p := pages_eq m.len p hp hlen
    have hmax := h.maxle
    have hk := Grow_fits _ _ _ _ _ _ _ _ _ (hpg ▸ hp) hmax (mt beq_iff_eq.mpr hd) hg
    rw [hpg] at hk
    refine ⟨⟨rfl, rfl, rfl⟩, p + δ.toNat,
      Nat.le_trans (Nat.le_of_eq hlen) (Nat.mul_le_mul_right 65536 (Nat.le_add_right p _)), hk, ?_⟩
    show (MemoryPagesToBytesNum (Pages m.len + δ)).toNat = _
    rw [bytes_toNat, BitVec.toNat_add, hpg, Nat.mod_eq_of_lt (by omega)]

/-- The model's `grow` preserves the state invariant for every delta and allocator behaviour. -/
theorem grow_inv (m : Mem) (h : Inv m) (δ : BitVec 32) (a n mv : Bool)
    (r : Mem × BitVec 32 × Bool) (hr : grow m δ a n mv = some r) : Inv r.1 := by
  obtain ⟨⟨hmin, hmax, _⟩, q, hlo, hq, hlen⟩ := grow_len m h δ a n mv r hr
  refine ⟨⟨q, Nat.le_trans hq h.maxle, hlen⟩, ?_, ?_, ?_⟩
  · rw [hmin]; exact Nat.le_trans h.lo (hlen ▸ hlo)
  · rw [hmax, hlen]; exact Nat.mul_le_mul_right _ hq
  · rw [hmax]; exact h.maxle

/-- Memory never shrinks and its declared limits never change: after any grow request (successful,
refused, or of zero pages) the byte length is at least what it was, and `min`, `max` and the shared flag are
what they were. -/
theorem grow_never_shrinks (m : Mem) (h : Inv m) (δ : BitVec 32) (a n mv : Bool)
    (r : Mem × BitVec 32 × Bool) (hr : grow m δ a n mv = some r) :
    m.len.toNat ≤ r.1.len.toNat ∧ r.1.min = m.min ∧ r.1.max = m.max ∧ r.1.shared = m.shared := by
  obtain ⟨hsame, q, hlo, _, hlen⟩ := grow_len m h δ a n mv r hr
  exact ⟨hlen ▸ hlo, hsame⟩

/-- Lift to all histories: any sequence of grow requests (guest or host, any deltas, any allocator
outcomes) from a state satisfying the invariant ends in a state satisfying it (panics stop the run). -/
def growAll (m : Mem) : List (BitVec 32 × Bool × Bool × Bool) → Option Mem
  | [] => some m
  | (δ, a, n, mv) :: rest =>
    match grow m δ a n mv with
    | none => none
    | some r => growAll r.1 rest

/-- Both facts about histories in one induction: the invariant is what lets `grow_never_shrinks` be
applied at every step. -/
theorem growAll_inv_never_shrinks (ops : List (BitVec 32 × Bool × Bool × Bool)) (m m' : Mem) (h : Inv m)
    (hr : growAll m ops = some m') :
    Inv m' ∧ m.len.toNat ≤ m'.len.toNat ∧ m'.min = m.min ∧ m'.max = m.max ∧ m'.shared = m.shared := by
  induction ops generalizing m with
  | nil => cases hr; exact ⟨h, Nat.le_refl _, rfl, rfl, rfl⟩
  | cons op rest ih =>
    obtain ⟨δ, a, n, mv⟩ := op
    simp only [growAll] at hr
    split at hr
    · cases hr
    · rename_i r hg
      obtain ⟨h1, h2, h3, h4⟩ := grow_never_shrinks m h δ a n mv r hg
      obtain ⟨hi, k1, k2, k3, k4⟩ := ih r.1 (grow_inv m h δ a n mv r hg) hr
      exact ⟨hi, Nat.le_trans h1 k1, k2.trans h2, k3.trans h3, k4.trans h4⟩

theorem growAll_inv (ops : List (BitVec 32 × Bool × Bool × Bool)) (m m' : Mem) (h : Inv m)
    (hr : growAll m ops = some m') : Inv m' :=
  (growAll_inv_never_shrinks ops m m' h hr).1

/-- Lifted to all histories: along any sequence of grow requests the length is non-decreasing and the limits
are fixed, so the final size lies between the initial size and `max` (with `growAll_inv`). -/
theorem growAll_never_shrinks (ops : List (BitVec 32 × Bool × Bool × Bool)) (m m' : Mem) (h : Inv m)
    (hr : growAll m ops = some m') :
    m.len.toNat ≤ m'.len.toNat ∧ m'.min = m.min ∧ m'.max = m.max ∧ m'.shared = m.shared :=
  (growAll_inv_never_shrinks ops m m' h hr).2

-- non-vacuity (test on a sample): (memory 1 3): grow by 1 succeeds, grow by 5 is refused; the run ends at 2 pages
example : ∃ m', growAll (newMem 1#32 1#32 3#32 false) [(1#32, false, false, false), (5#32, false, false, false)] = some m' ∧
    m'.len = 131072#64 := by
  refine ⟨_, rfl, ?_⟩; rfl

/-- A fresh memory satisfies the invariant whenever decoding accepted its limits (limit ≤ 65536). -/
theorem newMem_inv (min cap max : BitVec 32) (sh : Bool) (hmm : min.toNat ≤ max.toNat)
    (hmax : max.toNat ≤ 65536) : Inv (newMem min cap max sh) := by
  have hb : (newMem min cap max sh).len.toNat = min.toNat * 65536 := bytes_toNat min
  refine ⟨⟨min.toNat, Nat.le_trans hmm hmax, hb⟩, Nat.le_of_eq hb.symm, ?_, hmax⟩
  rw [hb]
  exact Nat.mul_le_mul_right _ hmm

/-- Growth preserves existing contents: every byte keeps its value. -/
theorem grow_preserves_bytes (m : Mem) (δ : BitVec 32) (a n mv : Bool) (r : Mem × BitVec 32 × Bool)
    (hr : grow m δ a n mv = some r) (i : Nat) : r.1.byteAt i = m.byteAt i := by
  revert hr
  fun_cases grow m δ a n mv <;> intro hr <;> cases hr <;> rfl

/-- All recorded writes lie below the current length. -/
def WritesBelow (m : Mem) : Prop := ∀ w ∈ m.writes, w.1 < m.len.toNat

/-- New pages read as zero: a byte at or beyond the current length (where no write can have
happened) is zero, so after growth the new pages are zero. -/
theorem beyond_len_zero (m : Mem) (hw : WritesBelow m) (i : Nat) (hi : m.len.toNat ≤ i) :
    m.byteAt i = 0#8 := by
  unfold Mem.byteAt
  split
  · rename_i w hf
    have hlt := hw w (List.mem_of_find?_eq_some hf)
    have heq := List.find?_some hf
    have heq : w.1 = i := beq_iff_eq.mp heq
    omega
  · rfl

theorem hasSize_one_iff (m : Mem) (off : BitVec 32) : m.hasSize off 1#64 = true ↔ off.toNat + 1 ≤ m.len.toNat :=
  hasSize_iff off 1#64 m.len (by decide)

theorem writeByte_writesBelow (m : Mem) (hw : WritesBelow m) (off : BitVec 32) (v : BitVec 8) :
    WritesBelow (m.writeByte off v).1 := by
  unfold Mem.writeByte
  split
  · rename_i hs
    intro w hwm
    rcases List.mem_cons.mp hwm with rfl | h
    · exact (hasSize_one_iff m off).mp hs
    · exact hw w h
  · exact hw

/-- Host byte read/write succeed exactly when the offset is within the current size. -/
theorem readByte_ok_iff (m : Mem) (off : BitVec 32) :
    (m.readByte off).isSome ↔ off.toNat + 1 ≤ m.len.toNat := by
  rw [← hasSize_one_iff]
  unfold Mem.readByte
  split <;> simp [*]

/-- Engine views. With a 64-bit load every view agrees with the page count in every state
satisfying the invariant (this is the repaired variant). -/
theorem views_agree_w64 (m : Mem) (h : Inv m) : m.compilerMemorySize 64 = m.pages := rfl

/-- As-is variant (32-bit load of the byte length): agreement holds below 65536 pages ... -/
theorem views_agree_partial (m : Mem) (h : Inv m) (hlt : m.len.toNat < 65536 * 65536) :
    m.compilerMemorySize 32 = m.pages ∧ m.apiSize.toNat = m.len.toNat := by
  obtain ⟨p, hp, hlen⟩ := h.whole
  have h32 : m.len.toNat % 2 ^ 32 = m.len.toNat := Nat.mod_eq_of_lt hlt
  refine ⟨BitVec.eq_of_toNat_eq ?_, h32⟩
  rw [show m.pages.toNat = p from pages_eq m.len p hp hlen]
  show (m.len.setWidth 32 >>> 16).toNat = p
  rw [BitVec.toNat_ushiftRight, BitVec.toNat_setWidth, h32, hlen, Nat.shiftRight_eq_div_pow,
    Nat.mul_div_cancel _ (by decide)]

/-- ... and fails exactly at the 4 GiB limit (findings F13, F14): the compiler's `memory.size`
and `api.Memory.Size()` both report 0 while the memory has 65536 pages. -/
theorem view_4gib_witness :
    let m := newMem 65536#32 65536#32 65536#32 false
    Inv m ∧ m.pages = 65536#32 ∧ m.compilerMemorySize 32 = 0#32 ∧ m.apiSize = 0#32 ∧
      m.compilerLenView 32 = 0#64 := by
  refine ⟨newMem_inv _ _ _ _ (by decide) (by decide), by decide, by decide, by decide, by decide⟩

/-- Non-vacuity: a concrete reachable state meets the hypotheses of `grow_iff`. -/
example : ∃ r, Grow 3#32 false (MemoryPagesToBytesNum 2#32) 5#32 2#32 false false false = some r ∧ r = (2#32, true) := by
  exact ⟨_, rfl, by decide⟩
example : Grow 0x80000000#32 false (MemoryPagesToBytesNum 2#32) 65536#32 2#32 false false false = some (0#32, false) := by
  decide
example : Grow 0xfffffffe#32 false (MemoryPagesToBytesNum 2#32) 65536#32 2#32 false false false = some (0#32, false) := by
  decide


/-! ### "both engines always agree on the current size": the compiler's cached length -/

/-- **Regenerated obligation** (frontend/lower.go): compiled code keeps the memory length in an SSA variable;
the only events that change the length are `memory.grow` (in this function or in a callee) and host calls.
The front end re-reads the length after every call form and after `memory.grow`, unconditionally for
non-shared memories, and never answers from the cache for shared ones - so the cached length always equals
the instance's (a seeded change that skipped the reload for memories pre-allocated up to their maximum broke
exactly this). -/
theorem compiler_rereads_length_after_call :
    Wz.Gen.FrontendReload.reloadGuard = "c.needMemory && !c.memoryShared" ∧
    Wz.Gen.FrontendReload.reloadStatements.contains "c.getMemoryLenValue(true)" = true ∧
    Wz.Gen.FrontendReload.lenCacheGuard = "!forceReload && !c.memoryShared" ∧
    Wz.Gen.FrontendReload.reloadAfterCallCallers =
      ["lowerCall", "lowerCallIndirect", "lowerTailCallReturnCall", "lowerTailCallReturnCallIndirect"] :=
  -- the length reload is the second of the reload statements
  ⟨rfl, List.contains_iff_mem.mpr (.tail _ (.head _)), rfl, rfl⟩


/-- **Regenerated obligation** (wasm/memory.go): the view returned by `Read` is a three-index slice, so its
capacity equals its length and nothing beyond `offset+byteCount` is reachable through it, whatever spare capacity
the buffer has (capacity-from-max, shared memories). -/
theorem read_view_capacity_is_its_length :
    Wz.Gen.Shapes.get "c14.read_view" = some "m.Buffer[offset:][:byteCount:byteCount]" := by
  shape_lookup

end Wz.C14
