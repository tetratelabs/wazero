/-
C01, optimizing compiler: the SSA optimisation passes of wazevo preserve the semantics of a function.

Model: `Wz.Model.SsaPass` (a fragment of wazevo's SSA: blocks with parameters, integer instructions over i32/i64,
loads, stores, calls, trapping instructions, branches with block arguments; an executable semantics; the passes
`deadBlockElim`, `redundantPhiElim`, `nopElim`, `dce` with the instruction group ids, mirroring
internal/engine/wazevo/ssa/pass.go).  The tie of the model to the Go code is the harness `harness/cmd/hssa`.

Everything below holds for EVERY function of the fragment that satisfies the decidable check `wellFormed`
(strict SSA of the reachable part, certified by availability sets and ranks; matching arities; the typing the shift
rule needs), for every callee behaviour `w : World`, every argument vector and every amount of fuel: the outcome
(result values or trap code, final memory, trace of calls, or out of fuel) is the same before and after.
-/
import Wz.Proofs.C01_SsaPass
import Wz.Proofs.C01_SsaPass_Gid
import Wz.Gen.SideEffects
import Wz.Gen.NopElim

namespace Wz.C01
open Wz.Model.SsaPass

def ssaOpcodeName : Opcode → String
  | .Iconst => "Iconst" | .Iadd => "Iadd" | .Isub => "Isub" | .Imul => "Imul" | .Band => "Band" | .Bor => "Bor"
  | .Bxor => "Bxor" | .Ishl => "Ishl" | .Ushr => "Ushr" | .Sshr => "Sshr" | .Rotl => "Rotl" | .Rotr => "Rotr"
  | .Icmp => "Icmp" | .Select => "Select" | .Clz => "Clz" | .Ctz => "Ctz" | .Popcnt => "Popcnt"
  | .UExtend => "UExtend" | .SExtend => "SExtend" | .Ireduce => "Ireduce" | .Load => "Load" | .Store => "Store"
  | .Istore8 => "Istore8" | .Istore16 => "Istore16" | .Istore32 => "Istore32" | .Call => "Call"
  | .Udiv => "Udiv" | .Sdiv => "Sdiv" | .Urem => "Urem" | .Srem => "Srem" | .ExitWithCode => "ExitWithCode"
  | .ExitIfTrueWithCode => "ExitIfTrueWithCode" | .Jump => "Jump" | .Brz => "Brz" | .Brnz => "Brnz"
  | .Return => "Return"

def ssaEffName : Eff → String
  | .none => "sideEffectNone" | .traps => "sideEffectTraps" | .strict => "sideEffectStrict"

def ssaOpcodes : List Opcode :=
  [.Iconst, .Iadd, .Isub, .Imul, .Band, .Bor, .Bxor, .Ishl, .Ushr, .Sshr, .Rotl, .Rotr, .Icmp, .Select, .Clz, .Ctz,
   .Popcnt, .UExtend, .SExtend, .Ireduce, .Load, .Store, .Istore8, .Istore16, .Istore32, .Call, .Udiv, .Sdiv, .Urem,
   .Srem, .ExitWithCode, .ExitIfTrueWithCode, .Jump, .Brz, .Brnz, .Return]

/-- `sideEffect`, the parameter-free table of the model, agrees on every opcode of the fragment with
`instructionSideEffects` as regenerated from instructions.go. -/
theorem ssa_sideEffect_table_is_source (op : Opcode) :
    (Wz.Gen.SideEffects.table.find? (·.1 == ssaOpcodeName op)).map (·.2) = some (ssaEffName (sideEffect op)) := by
  -- one evaluation for the whole list: the kernel decodes the strings of the table once, not once per opcode
  have h : ∀ op ∈ ssaOpcodes,
      (Wz.Gen.SideEffects.table.find? (·.1 == ssaOpcodeName op)).map (·.2) = some (ssaEffName (sideEffect op)) := by
    decide +kernel
  exact h op (by cases op <;> decide +kernel)

/-! ### a non-trivial function of the fragment

A counted loop whose header has a parameter that every predecessor passes unchanged (`v7`: the entry passes
`v4`, the back edge passes `v7` itself), a shift by 64 of an i32 value (`v4 = v1 << 64`, a no-op), dead constants,
a store in the loop, a division whose result is unused, and an unreachable block. -/

def ssaExample : Func :=
  { blocks := [
      { id := 0, key := 1, invalid := false, params := [(0, .i64), (1, .i32)],
        instrs := [.iconst 2 .i32 64, .iconst 3 .i32 5, .bin .ishl 4 .i32 1 2, .iconst 5 .i32 3, .jump 1 [5, 4]] },
      { id := 1, key := 6, invalid := false, params := [(6, .i32), (7, .i32)],
        instrs := [.bin .iadd 8 .i32 7 6, .store .store .i32 8 0 0, .iconst 9 .i32 1, .bin .isub 10 .i32 6 9,
                   .brnz 10 1 [10, 7], .jump 2 []] },
      { id := 2, key := 12, invalid := false, params := [],
        instrs := [.div .udiv 11 .i32 7 1 0, .ret [7]] },
      { id := 3, key := 14, invalid := false, params := [],
        instrs := [.iconst 12 .i32 9, .jump 2 []] } ],
    alias := [] }

/-- what the passes make of it: the block parameter, the shift, its amount and the dead constant are gone, the
uses of `v7` and `v4` read `v1`, the unreachable block is invalid, the division stays -/
def ssaExampleOpt : List Block := [
  { id := 0, key := 1, invalid := false, params := [(0, .i64), (1, .i32)],
    instrs := [.iconst 5 .i32 3, .jump 1 [5]] },
  { id := 1, key := 6, invalid := false, params := [(6, .i32)],
    instrs := [.bin .iadd 8 .i32 1 6, .store .store .i32 8 0 0, .iconst 9 .i32 1, .bin .isub 10 .i32 6 9,
               .brnz 10 1 [10], .jump 2 []] },
  { id := 2, key := 12, invalid := false, params := [],
    instrs := [.div .udiv 11 .i32 1 1 0, .ret [1]] },
  { id := 3, key := 14, invalid := true, params := [],
    instrs := [.iconst 12 .i32 9, .jump 2 []] } ]

/-- a callee that leaves the memory alone and returns nothing -/
def ssaWorld : World := { call := fun _ _ m => some (m, []) }

theorem ssaExample_wellFormed : wellFormed ssaExample = true := by decide +kernel
theorem ssaExample_runPasses : (runPasses ssaExample).blocks = ssaExampleOpt := by decide +kernel

example : wellFormed ssaExample = true := ssaExample_wellFormed
example : (runPasses ssaExample).blocks = ssaExampleOpt := ssaExample_runPasses
example : (dceWithGids (nopElim (redundantPhiElim (deadBlockElim ssaExample)))).map (fun p => p.2.map (·.2)) =
    [[0, 0], [1, 1, 2, 2, 2, 3], [4, 4]] := by decide +kernel
/-- three rounds of the loop, three stores, the value of the parameter is returned -/
example : run ssaWorld ssaExample [4096, 5] 10 =
    .values [5] [(4099, 0), (4098, 0), (4097, 0), (4096, 6), (4099, 0), (4098, 0), (4097, 0), (4096, 7),
                 (4099, 0), (4098, 0), (4097, 0), (4096, 8)] [] := by decide +kernel
/-- with a zero argument the division traps, after the stores -/
example : run ssaWorld ssaExample [4096, 0] 10 =
    .trap codeDivByZero [(4099, 0), (4098, 0), (4097, 0), (4096, 1), (4099, 0), (4098, 0), (4097, 0), (4096, 2),
                 (4099, 0), (4098, 0), (4097, 0), (4096, 3)] [] := by decide +kernel
example : run ssaWorld ssaExample [4096, 5] 3 = .outOfFuel := by decide +kernel

/-- `wellFormed f` is the decidable check `WF` of the function after dead-block elimination against the
certificate computed from it. -/
theorem ssa_wellFormed_spec {f : Func} (h : wellFormed f = true) :
    WF (computeCert (deadBlockElim f)) (deadBlockElim f) := of_decide_eq_true h

theorem ssa_deadBlockElim_ids (f : Func) : (deadBlockElim f).blocks.map (·.id) = f.blocks.map (·.id) :=
  deadBlockElim_ids f

theorem ssa_wellFormed_uniqueIds {f : Func} (h : wellFormed f = true) : UniqueIds f :=
  uniqueIds_of_deadBlockElim (ssa_wellFormed_spec h).ids

/-- **Dead-block elimination** (every function with distinct block ids). -/
theorem ssa_deadBlockElim_sound (w : World) (f : Func) (hu : UniqueIds f) (args : List Nat) (fuel : Nat) :
    run w (deadBlockElim f) args fuel = run w f args fuel :=
  deadBlockElim_sound w f hu args fuel

/-- **Redundant block-parameter elimination**, including the aliasing of the parameter to its unique incoming
value (every function that is well-formed for some certificate). -/
theorem ssa_redundantPhiElim_sound (w : World) (c : Cert) (g : Func) (h : WF c g) (args : List Nat) (fuel : Nat) :
    run w (redundantPhiElim g) args fuel = run w g args fuel :=
  (redundantPhiElim_sound w h).sound args fuel

/-- the step the pass is made of: removing ONE parameter all of whose incoming values are the parameter itself
or one other value -/
theorem ssa_removeParam_sound (w : World) (c : Cert) (g : Func) (h : WF c g) (b : BlockId) (idx : Nat) (p u : Val)
    (pty : Ty) (B : Block) (hB : g.findBlock b = some B) (hb : b ≠ g.entry) (hp : B.params[idx]? = some (p, pty))
    (hred : ∀ a ∈ g.branchArgs b idx, a = p ∨ a = res g.alias u) (args : List Nat) (fuel : Nat) :
    run w (removeParam g b idx p u) args fuel = run w g args fuel :=
  (ParamStep.mk h hB hb hp hred).run w args fuel

/-- non-vacuity: the second parameter `v7` of the loop header of the example; its incoming values are `v4` (from
the entry) and `v7` itself (from the back edge) -/
example (w : World) (args : List Nat) (fuel : Nat) :
    run w (removeParam (deadBlockElim ssaExample) 1 1 7 4) args fuel = run w (deadBlockElim ssaExample) args fuel :=
  ssa_removeParam_sound w (computeCert (deadBlockElim ssaExample)) (deadBlockElim ssaExample)
    (ssa_wellFormed_spec ssaExample_wellFormed) 1 1 7 4 .i32
    { id := 1, key := 6, invalid := false, params := [(6, .i32), (7, .i32)],
      instrs := [.bin .iadd 8 .i32 7 6, .store .store .i32 8 0 0, .iconst 9 .i32 1, .bin .isub 10 .i32 6 9,
                 .brnz 10 1 [10, 7], .jump 2 []] }
    (by decide +kernel) (by decide +kernel) (by decide +kernel) (by decide +kernel) args fuel

/-- **No-op elimination**: aliasing the result of `Ishl/Sshr/Ushr` by a constant multiple of the width to its
first operand. -/
theorem ssa_nopElim_sound (w : World) (c : Cert) (g : Func) (h : WF c g) (args : List Nat) (fuel : Nat) :
    run w (nopElim g) args fuel = run w g args fuel :=
  (nopElim_sound w h).sound args fuel

/-- **Dead-code elimination** driven by the side-effect table (every function whose alias table is in resolved
form; no SSA assumption). -/
theorem ssa_dce_sound (w : World) (g : Func) (h : AliasNF g.alias) (args : List Nat) (fuel : Nat) :
    run w (dce g) args fuel = run w g args fuel :=
  dce_sound w g h args fuel

/-- the passes keep the function well-formed for the same certificate -/
theorem ssa_passes_keep_wellFormed (w : World) (c : Cert) (g : Func) (h : WF c g) :
    WF c (redundantPhiElim g) ∧ WF c (nopElim (redundantPhiElim g)) := by
  have h2 := (redundantPhiElim_sound w h).wf
  exact ⟨h2, (nopElim_sound w h2).wf⟩

/-- **All passes, one after the other, each in its place in `runPreBlockLayoutPasses`.** -/
theorem ssa_each_pass_sound (w : World) (f : Func) (h : wellFormed f = true) (args : List Nat) (fuel : Nat) :
    run w (deadBlockElim f) args fuel = run w f args fuel ∧
    run w (redundantPhiElim (deadBlockElim f)) args fuel = run w (deadBlockElim f) args fuel ∧
    run w (nopElim (redundantPhiElim (deadBlockElim f))) args fuel =
      run w (redundantPhiElim (deadBlockElim f)) args fuel ∧
    run w (dce (nopElim (redundantPhiElim (deadBlockElim f)))) args fuel =
      run w (nopElim (redundantPhiElim (deadBlockElim f))) args fuel := by
  have hwf := ssa_wellFormed_spec h
  obtain ⟨hw2, hw3⟩ := ssa_passes_keep_wellFormed w _ _ hwf
  exact ⟨ssa_deadBlockElim_sound w f (ssa_wellFormed_uniqueIds h) args fuel,
    ssa_redundantPhiElim_sound w _ _ hwf args fuel,
    ssa_nopElim_sound w _ _ hw2 args fuel,
    ssa_dce_sound w _ hw3.aliasNF args fuel⟩

/-- **The optimisation passes preserve the semantics**: for every well-formed function of the fragment, every
callee behaviour, every argument vector and every fuel, the function after all passes has the same outcome. -/
theorem ssa_passes_sound (w : World) (f : Func) (h : wellFormed f = true) (args : List Nat) (fuel : Nat) :
    run w (runPasses f) args fuel = run w f args fuel :=
  passes_sound_of_WF w f _ (ssa_wellFormed_spec h) args fuel

/-- … and the result does not need the alias table any more (every operand has been resolved), as for the
function the back end sees. -/
theorem ssa_passes_sound_without_alias (w : World) (f : Func) (h : wellFormed f = true) (args : List Nat)
    (fuel : Nat) : run w { runPasses f with alias := [] } args fuel = run w f args fuel :=
  passes_sound_of_WF_without_alias w f _ (ssa_wellFormed_spec h) args fuel

/-- non-vacuity: the theorem applies to the example, whose passes do all four kinds of change -/
example (w : World) (args : List Nat) (fuel : Nat) :
    run w { blocks := ssaExampleOpt, alias := (runPasses ssaExample).alias } args fuel = run w ssaExample args fuel := by
  have key : ∀ g : Func, g.blocks = ssaExampleOpt →
      run w { blocks := ssaExampleOpt, alias := g.alias } args fuel = run w g args fuel := by
    rintro ⟨_, _⟩ rfl; rfl
  exact (key _ ssaExample_runPasses).trans (ssa_passes_sound w ssaExample ssaExample_wellFormed args fuel)

/-- Dead-code elimination is sound for EVERY table that classifies as `sideEffectNone` only what the real table
classifies so. -/
theorem ssa_dce_sound_for_sound_tables (w : World) (tbl : Opcode → Eff) (htbl : SoundTable tbl) (g : Func)
    (h : AliasNF g.alias) (args : List Nat) (fuel : Nat) : run w (dceWith tbl g) args fuel = run w g args fuel :=
  dceWith_sound w tbl g h htbl args fuel

/-- **An instruction whose class is `sideEffectNone` and whose results nobody reads can be removed**: `i` is
removed from every valid block of `g`; no remaining instruction of a valid block reads (after alias resolution)
a result of `i`. -/
theorem ssa_remove_unused_pure_instr (w : World) (g : Func) (h : AliasNF g.alias) (i : Instr)
    (hpure : sideEffect i.opcode = .none)
    (hunused : ∀ j ∈ g.validInstrs, j ≠ i → ∀ o ∈ j.operands, res g.alias o ∉ i.results)
    (args : List Nat) (fuel : Nat) :
    run w { g with blocks := g.blocks.map (fun B =>
        if B.invalid then B
        else { B with instrs := (B.instrs.filter (fun j => decide (j ≠ i))).map (·.mapOperands (res g.alias)) }) }
      args fuel = run w g args fuel := by
  have hsel : Selection g (fun j => decide (j ≠ i)) (· ∉ i.results) :=
    ⟨fun j hj hk o ho => hunused j hj (by simpa using hk) o ho,
     fun j _ hk => by
       have : j = i := by simpa using hk
       subst this
       exact ⟨hpure, fun r hr hn => hn hr⟩⟩
  exact run_dce w h hsel args fuel

def ssaTableWithNone (op : Opcode) : Opcode → Eff := fun o => if o = op then .none else sideEffect o

/-- store a value, load it back, return it -/
def ssaStoreLoad : Func :=
  { blocks := [
      { id := 0, key := 1, invalid := false, params := [(0, .i64)],
        instrs := [.iconst 1 .i64 7, .store .store .i64 1 0 0, .load 2 .i64 0 0, .ret [2]] } ],
    alias := [] }

/-- **The table matters (store)**: were `Store` classified `sideEffectNone`, dead-code elimination would remove
the store and the function would return 0 instead of 7. -/
theorem ssa_dce_unsound_if_store_none :
    run ssaWorld (dceWith (ssaTableWithNone .Store) ssaStoreLoad) [4096] 5 ≠ run ssaWorld ssaStoreLoad [4096] 5 := by
  decide +kernel

/-- call a function, return a constant -/
def ssaCallOnly : Func :=
  { blocks := [
      { id := 0, key := 1, invalid := false, params := [(0, .i64)],
        instrs := [.call 3 1 [] [], .iconst 1 .i32 1, .ret [1]] } ],
    alias := [] }

/-- **The table matters (call)**: were `Call` classified `sideEffectNone`, a call without results would be
removed and disappear from the trace. -/
theorem ssa_dce_unsound_if_call_none :
    run ssaWorld (dceWith (ssaTableWithNone .Call) ssaCallOnly) [4096] 5 ≠ run ssaWorld ssaCallOnly [4096] 5 := by
  decide +kernel

/-- divide by the argument, ignore the quotient -/
def ssaDivOnly : Func :=
  { blocks := [
      { id := 0, key := 1, invalid := false, params := [(0, .i64), (1, .i32)],
        instrs := [.div .udiv 2 .i32 1 1 0, .iconst 3 .i32 1, .ret [3]] } ],
    alias := [] }

/-- **The table matters (trapping instruction)**: were `Udiv` classified `sideEffectNone`, the unused division
would be removed and the trap on a zero divisor with it. -/
theorem ssa_dce_unsound_if_udiv_none :
    run ssaWorld (dceWith (ssaTableWithNone .Udiv) ssaDivOnly) [4096, 0] 5 ≠ run ssaWorld ssaDivOnly [4096, 0] 5 := by
  decide +kernel

/-- the real table keeps all three -/
example : run ssaWorld (dce ssaStoreLoad) [4096] 5 = run ssaWorld ssaStoreLoad [4096] 5 ∧
    run ssaWorld (dce ssaCallOnly) [4096] 5 = run ssaWorld ssaCallOnly [4096] 5 ∧
    run ssaWorld (dce ssaDivOnly) [4096, 0] 5 = run ssaWorld ssaDivOnly [4096, 0] 5 := by decide +kernel

/-- non-vacuity of `ssa_remove_unused_pure_instr`: the dead constant of the example -/
example : sideEffect (Instr.iconst 3 .i32 5).opcode = .none ∧
    ∀ j ∈ ssaExample.validInstrs, j ≠ Instr.iconst 3 .i32 5 → ∀ o ∈ j.operands,
      res ssaExample.alias o ∉ (Instr.iconst 3 .i32 5).results := by decide +kernel

/-- **The rule of `passNopInstElimination` is sound for all operand values**: a shift (left, right logical,
right arithmetic) of a value of the shifted type by a constant `c` with `c mod 2^64 mod width = 0` (the constant
may be of either integer type) returns the value. -/
theorem ssa_nop_rule_sound (op : BinOp) (hop : isShift op) (ty cty : Ty) (a c : Nat) (ha : a < 2 ^ ty.bits)
    (hc : c % 2 ^ 64 % ty.bits = 0) : evalBin op ty a (norm cty c) = a :=
  evalBin_shift_zero hop ty ha (amount_zero cty ty c hc)

/-- the condition of the model's rule is the regenerated condition of pass.go (`Wz.Gen.NopElim.fires`) -/
theorem ssa_nop_rule_is_regenerated (ty : Ty) (c : Nat) :
    (c % 2 ^ 64 % ty.bits = 0) ↔ Wz.Gen.NopElim.fires (ty == .i64) (c % 2 ^ 64) = true := by
  cases ty <;> simp [Wz.Gen.NopElim.fires, Wz.Gen.NopElim.mod64, Wz.Gen.NopElim.mod32, Ty.bits]

/-- … and so are the opcodes it applies to -/
theorem ssa_nop_opcodes (op : BinOp) : isShift op ↔ ssaOpcodeName op.opcode ∈ Wz.Gen.NopElim.opcodes := by
  cases op <;> simp [isShift, BinOp.opcode, ssaOpcodeName, Wz.Gen.NopElim.opcodes]

/-- non-vacuity, and the wrong modulus: an i64 shift by 32 is not a no-op, and the rule does not fire -/
example : evalBin .ishl .i64 1 (norm .i64 64) = 1 ∧ evalBin .ishl .i64 1 (norm .i64 32) ≠ 1 ∧
    nopRule ssaExample (.bin .ishl 4 .i32 1 2) = some (4, 1) ∧
    nopRule { ssaExample with blocks := ssaExample.blocks ++
      [{ id := 9, key := 99, invalid := false, params := [], instrs := [.iconst 20 .i64 32] }] }
      (.bin .ishl 21 .i64 0 20) = none := by decide +kernel

/-- **Group-id invariant.**  In the list of the instructions that survive dead-code elimination, each with the
group id `passDeadCodeEliminationOpt` gave it (all valid blocks, in order): two instructions with the same group
id have no `sideEffectStrict` instruction between them, and the earlier of the two is not `sideEffectStrict`. -/
theorem ssa_same_gid_no_strict_between (f : Func) (l1 l2 l3 : List (Instr × Nat)) (a b : Instr × Nat)
    (h : (dceWithGids f).flatMap (·.2) = l1 ++ a :: l2 ++ b :: l3) (hg : a.2 = b.2) :
    sideEffect a.1.opcode ≠ .strict ∧ ∀ k ∈ l2, sideEffect k.1.opcode ≠ .strict :=
  no_strict_between_of_pairwise sideEffect (h ▸ dceWithGids_pairwise f) hg

/-- the same for the numbering itself, before anything is removed, from any start -/
theorem ssa_gids_no_strict_between (is : List Instr) (g0 : Nat) (l1 l2 l3 : List (Instr × Nat)) (a b : Instr × Nat)
    (h : is.zip (gidsFrom sideEffect g0 is) = l1 ++ a :: l2 ++ b :: l3) (hg : a.2 = b.2) :
    sideEffect a.1.opcode ≠ .strict ∧ ∀ k ∈ l2, sideEffect k.1.opcode ≠ .strict :=
  no_strict_between_of_pairwise sideEffect (h ▸ gidsFrom_pairwise sideEffect is g0) hg

/-- non-vacuity: in the loop block of the example the addition and the store share group 1, the constant, the
subtraction and the conditional branch share group 2, the jump is alone in group 3 -/
example : ((dceWithGids (nopElim (redundantPhiElim (deadBlockElim ssaExample)))).flatMap (·.2)).map (·.2) =
    [0, 0, 1, 1, 2, 2, 2, 3, 4, 4] := by decide +kernel

end Wz.C01
