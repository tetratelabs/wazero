import Wz.Proofs.ShapeLookup
import Wz.Proofs.C02_Interp

/-!
# C02 companion: an i32 on the interpreter's stack is a zero-extended 64-bit slot

The interpreter computes an effective address as `offset := op.U2 + ce.popValue()` in 64 bits and traps when the sum
exceeds `MaxUint32` (`popMemoryOffset`).  That is the specification's `i + offset` exactly when the popped slot is the
zero-extended i32: `effective_address_exact` (for every static offset and every 32-bit address the 64-bit sum does not
wrap and equals the sum over the naturals).  A SIGN-extended slot breaks it: `sign_extended_slot_wraps_witness` - with
the slot of a failed `memory.grow` pushed as `uint64(int32(-1))` and static offset 16 the sum wraps to 15, passes the
test, and the access succeeds at address 15 instead of trapping (seeded change C02-9).  What `memory.grow` pushes and
how the offset is added are a regenerated shape.
-/

namespace Wz.C02

/-- `op.U2 + ce.popValue()` -/
def interpEA (staticOff : BitVec 64) (slot : BitVec 64) : BitVec 64 := staticOff + slot

theorem effective_address_exact (off addr : BitVec 32) :
    (interpEA (off.zeroExtend 64) (addr.zeroExtend 64)).toNat = off.toNat + addr.toNat :=
  toNat_add_zext off addr

/-- the trap test `offset > MaxUint32` is the specification's `i + offset ≥ 2^32` -/
theorem trap_test_exact (off addr : BitVec 32) :
    ((interpEA (off.zeroExtend 64) (addr.zeroExtend 64)).toNat > 0xffffffff) ↔ (off.toNat + addr.toNat ≥ 2 ^ 32) := by
  rw [effective_address_exact]
  omega

/-- a sign-extended -1 in the slot: the sum wraps, the test passes, the access goes to offset - 1 -/
theorem sign_extended_slot_wraps_witness :
    (interpEA 16#64 ((0xffffffff#32).signExtend 64)).toNat = 15 ∧
    ¬ ((interpEA 16#64 ((0xffffffff#32).signExtend 64)).toNat > 0xffffffff) ∧
    (16 + (0xffffffff#32).toNat ≥ 2 ^ 32) := by decide

theorem interp_grow_pushes_zero_extended :
    Wz.Gen.Shapes.get "c02.interp_grow_slot" =
      some "ce.pushValue(uint64(0xffffffff)) | ce.pushValue(uint64(res)) ;; offset := op.U2 + ce.popValue() ; if offset > math.MaxUint32 ; return uint32(offset)" := by
  shape_lookup

end Wz.C02
