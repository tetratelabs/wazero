import Wz.Proofs.ShapeLookup
/-!
# C09 companion: what all instances of a compiled module share

An instance keeps its provider alive through what it owns (its module engine's `importedFunctions`, its tables and
globals); anything kept in the COMPILED module is shared by every instance created from it, so per-instance links
stored there are overwritten by the next instantiation (seeded change C09-6: the imported-function slice moved into
`compiledModule`).  The field lists of the two engines' per-compilation objects are regenerated; every field of the
reviewed lists is decided at compile time (code, offsets, listeners, flags).  A new field breaks this obligation and
with it the check, until it is reviewed (the rebinding stage of hc09 searches for the failing history).
-/

namespace Wz.C09

theorem compiled_objects_hold_only_compile_time_state :
    Wz.Gen.Shapes.get "c09.compiled_fields" =
      some "wazevo.compiledModule: *executables functionOffsets parent module ensureTermination listeners listenerBeforeTrampolines listenerAfterTrampolines offsets sharedFunctions sourceMap ;; interpreter.compiledFunction: source body listener offsetsInWasmBinary hostFn ensureTermination index" := by
  shape_lookup

end Wz.C09
