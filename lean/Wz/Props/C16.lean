/-
C16 — WASI file operations behave like a POSIX-style reference model.

The property theorems; the lemmas live in `Wz/Proofs/C16_*.lean`.  A result that is not a corollary of anything more
general (the per-call results of (3), `readdir_bytes`, the sections after (3)) is proved where it stands.
Three cores, then (4) directory descriptors across a rename and the explicit modification times:
  (1) `descriptor.Table` (bitmap words + dense items) and the descriptor level of `FSContext`
      (`Wz.Model.FdTable`): refinement of a partial map with lowest-free allocation for ALL op sequences,
      validity of a descriptor until it is closed, the specification of renumber and its failure on the
      pinned tree (F17);
  (2) `DirentCache.Read` + `maxDirents` + `writeDirents` (`Wz.Model.Readdir`): completeness of the
      enumeration for every listing, every schedule of buffer lengths ≥ 24 and the client protocol;
  (3) the reference file system (`Wz.Model.RefFS`): one byte list per file under read/write/pread/pwrite/
      seek/tell/append/truncate.
-/
import Wz.Proofs.C16_Table
import Wz.Proofs.C16_Readdir
import Wz.Proofs.C16_Content
import Wz.Model.RefFSTimes

namespace Wz.C16
open Wz.Model.FdTable Wz.Proofs.C16Table

/-! ## (1) descriptor table -/

/-- The regenerated constants the models use are the ones the theorems were proved for. -/
theorem constants : Wz.Gen.WasiFs.DirentSize = 24 ∧ Wz.Gen.WasiFs.FdPreopen = 3 ∧
    Wz.Gen.WasiFs.FILETYPE_DIRECTORY = 3 ∧ Wz.Gen.WasiFs.FILETYPE_REGULAR_FILE = 4 := by decide

/-- `table_refines_map`: for EVERY sequence of Insert / InsertAt / Lookup / Delete / Reset starting from the
empty table, the outputs of the bitmap+slice implementation are the outputs of a partial map `Nat ⇀ α` whose
Insert returns the lowest free key (`ARun` is the run of that specification), and the final table denotes
the final map. -/
theorem table_refines_map {α : Type} [Inhabited α] (ops : List (Op α)) :
    (Table.empty.run ops).1.WF ∧
    ARun (fun _ => none) ops ((Table.empty : Table α).run ops).2 (abs (Table.empty.run ops).1) := by
  have h := run_refines (Table.empty : Table α) ops empty_wf
  rw [empty_abs] at h
  exact h

/-- the specification leaves no choice: outputs and resulting map are determined by the history -/
theorem table_spec_deterministic {α : Type} [Inhabited α] {m m1 m2 : Nat → Option α} {op : Op α} {o1 o2 : Out α}
    (h1 : AStep m op o1 m1) (h2 : AStep m op o2 m2) : o1 = o2 ∧ m1 = m2 := by
  cases h1 with
  | insert a k hk hlow =>
    cases h2 with
    | insert _ k' hk' hlow' =>
      have : k = k' := by
        apply Classical.byContradiction
        intro hne
        rcases Nat.lt_or_gt_of_ne hne with hlt | hgt
        · have := hlow' k hlt; rw [hk] at this; cases this
        · have := hlow k' hgt; rw [hk'] at this; cases this
      subst this; exact ⟨rfl, rfl⟩
  | insertAt a key hk =>
    cases h2 with
    | insertAt _ _ _ => exact ⟨rfl, rfl⟩
    | insertAtNeg _ _ hk' => omega
  | insertAtNeg a key hk =>
    cases h2 with
    | insertAt _ _ hk' => omega
    | insertAtNeg _ _ _ => exact ⟨rfl, rfl⟩
  | lookup key => cases h2; exact ⟨rfl, rfl⟩
  | delete key => cases h2; exact ⟨rfl, rfl⟩
  | reset => cases h2; exact ⟨rfl, rfl⟩

/-- Insert returns the lowest free key and changes nothing else (single step, any well-formed table). -/
theorem insert_lowest_free {α : Type} [Inhabited α] (t : Table α) (a : α) (h : t.WF) :
    abs t (t.insert a).2 = none ∧ (∀ j, j < (t.insert a).2 → (abs t j).isSome = true) ∧
    abs (t.insert a).1 = upd (abs t) (t.insert a).2 (some a) :=
  (insert_spec t a h).2

example : (Table.empty : Table Nat).WF := empty_wf
-- TEST (sample): insert, insert, delete 0, insert reuses key 0
example : ((((((Table.empty : Table Nat).insert 7).1.insert 8).1.delete 0).insert 9).2) = 0 := by decide +kernel

inductive COp where
  | openNew (preopen : Bool)
  | close (fd : Int)
  | renumber (a b : Int)

def COp.names (fd : Int) : COp → Bool
  | .openNew _ => false
  | .close f => f == fd
  | .renumber a b => a == fd || b == fd

def stepC (s : Bool) (c : Ctx) : COp → Ctx
  | .openNew p => (c.openNew p).1
  | .close fd => (c.close fd).1
  | .renumber a b => (c.renumber s a b).1

def runC (s : Bool) (c : Ctx) : List COp → Ctx
  | [] => c
  | op :: ops => runC s (stepC s c op) ops

/-- a step changes nothing, or moves one entry between descriptors that, where they were in use, the operation names -/
theorem stepC_moves (s : Bool) (c : Ctx) (op : COp) (h : CtxWF c) (hd : Distinct c) :
    stepC s c op = c ∨ ∃ a b v, Moves c (stepC s c op) a b v ∧
      ∀ fd, op.names fd = false → c.lookup fd ≠ none → fd ≠ a ∧ fd ≠ b := by
  cases op with
  | openNew p =>
    obtain ⟨hfree, m⟩ := openNew_moves c p h hd
    exact Or.inr ⟨_, _, _, m, fun fd _ hl => have : fd ≠ _ := fun e => hl (e ▸ hfree); ⟨this, this⟩⟩
  | close fd0 =>
    exact (close_cases c fd0 h).imp id fun m => ⟨_, _, _, m, fun fd hn _ => by
      have : fd ≠ fd0 := fun e => by simp [COp.names, e] at hn
      exact ⟨this, this⟩⟩
  | renumber a b =>
    rcases renumber_cases s c a b h hd with ⟨e, _⟩ | ⟨f, _, _, m⟩
    · exact Or.inl e
    · exact Or.inr ⟨_, _, _, m, fun fd hn _ =>
        ⟨fun e => by simp [COp.names, e] at hn, fun e => by simp [COp.names, e] at hn⟩⟩

/-- `fd_valid_until_closed`: through ANY history of opens, closes and renumbers that does not name `fd`
(as the closed descriptor, or as source or target of a renumber), a live descriptor stays live and keeps
denoting the same open file — on the pinned tree and on the repaired variant alike. -/
theorem fd_valid_until_closed (s : Bool) (ops : List COp) (c : Ctx) (fd : Int) (h : CtxWF c) (hd : Distinct c)
    (hl : c.live fd = true) (hn : ∀ op ∈ ops, op.names fd = false) :
    (runC s c ops).live fd = true ∧ (runC s c ops).lookup fd = c.lookup fd := by
  induction ops generalizing c with
  | nil => exact ⟨hl, rfl⟩
  | cons op ops ih =>
    have hrest := fun o ho => hn o (List.mem_cons_of_mem _ ho)
    unfold runC
    rcases stepC_moves s c op h hd with e | ⟨a, b, v, m, hab⟩
    · rw [e]; exact ih c h hd hl hrest
    · have st := m.live hd (hab fd (hn op (List.mem_cons_self ..))) hl
      have r := ih (stepC s c op) m.wf (m.distinct hd) st.1 hrest
      exact ⟨r.1, r.2.trans st.2⟩

-- non-vacuity: the initial context (stdio + one pre-open) meets the hypotheses, descriptor 3 is live
example : CtxWF Ctx.init ∧ Distinct Ctx.init ∧ Ctx.init.live 3 = true := ⟨init_inv.1, init_inv.2, by decide +kernel⟩

/-- `renumber_spec` (repaired variant, `selfNoop = true`): a successful renumber moves the entry and closes
the previous target; onto itself it changes nothing. -/
theorem renumber_spec (c : Ctx) (a b : Int) (h : CtxWF c) (hd : Distinct c)
    (hok : (c.renumber true a b).2 = .ok) :
    (a = b → (c.renumber true a b).1 = c) ∧
    (a ≠ b →
      (c.renumber true a b).1.lookup b = c.lookup a ∧
      (c.renumber true a b).1.lookup a = none ∧
      (∀ e, c.lookup b = some e → e.id ∈ (c.renumber true a b).1.closed) ∧
      (c.live a = true → (c.renumber true a b).1.live b = true)) :=
  have hs := Wz.Proofs.C16Table.renumber_spec true c a b h hd hok
  ⟨hs.1 rfl, hs.2⟩

/-- FULL STATEMENT that fails on the pinned tree: `renumber_spec` with `selfNoop = false`.
Proved part (pinned tree): everything except `a = b`. -/
theorem renumber_spec_partial (c : Ctx) (a b : Int) (h : CtxWF c) (hd : Distinct c)
    (hok : (c.renumber false a b).2 = .ok) (hne : a ≠ b) :
    (c.renumber false a b).1.lookup b = c.lookup a ∧
    (c.renumber false a b).1.lookup a = none ∧
    (∀ e, c.lookup b = some e → e.id ∈ (c.renumber false a b).1.closed) ∧
    (c.live a = true → (c.renumber false a b).1.live b = true) :=
  (Wz.Proofs.C16Table.renumber_spec false c a b h hd hok).2 hne

/-- F17 (witness, pinned tree): path_open → fd 4; fd_renumber(4,4) succeeds, fd 4 stays in the table, its
file is closed.  So `renumber_spec` is false for `selfNoop = false`. -/
theorem renumber_self_witness :
    let c := (Ctx.init.openNew false).1
    c.live 4 = true ∧ (c.renumber false 4 4).2 = .ok ∧
    ((c.renumber false 4 4).1.lookup 4).isSome = true ∧ (c.renumber false 4 4).1.live 4 = false :=
  Wz.Proofs.C16Table.renumber_self_witness

theorem renumber_spec_false_asis :
    ¬ (∀ (c : Ctx) (a b : Int), CtxWF c → Distinct c → (c.renumber false a b).2 = .ok →
        a = b → (c.renumber false a b).1 = c) := by
  intro hall
  have w := renumber_self_witness
  have m := (openNew_moves Ctx.init false init_inv.1 init_inv.2).2
  have e := hall (Ctx.init.openNew false).1 4 4 m.wf (m.distinct init_inv.2) w.2.1 rfl
  have l := w.2.2.2
  rw [e] at l
  rw [w.1] at l
  exact Bool.noConfusion l

-- non-vacuity of `renumber_spec`: a successful renumber 4 → 7 exists
example : ((Ctx.init.openNew false).1.renumber true 4 7).2 = .ok := by decide +kernel

/-! ## (2) fd_readdir -/

open Wz.Model.Readdir Wz.Proofs.C16Readdir in
/-- `readdir_complete`: for every listing, every directory inode and EVERY sequence of buffer lengths
(each ≥ 24 and a u32), a client that follows the protocol — cookie 0 first, then the `d_next` of the last
complete entry; stop when `bufused < buf_len` — never gets an error, has at every moment received exactly a
prefix of `.`, `..`, listing (in order, each once, `d_next` = index + 1), and when the end is signalled has
received all of it. -/
theorem readdir_complete (listing : List Dirent) (dotIno : Nat) (bs : List Nat)
    (hb : ∀ b ∈ bs, 24 ≤ b ∧ b < 2^32) :
    let c := Cache.fresh listing dotIno
    let cl := (Client.start c).run bs
    cl.failed = none ∧ cl.acc = c.full.take cl.cookie ∧ cl.cookie ≤ c.full.length ∧
    (cl.done = true → cl.acc = c.full) := by
  intro c cl
  have hi := client_run_inv c.full (Client.start c) bs (client_start_inv c (fresh_inv listing dotIno)) hb
  exact ⟨hi.ok, hi.acc, hi.cookie_le, hi.all_of_done⟩

open Wz.Model.Readdir Wz.Proofs.C16Readdir in
/-- `rewind_ok`: the same from ANY cache state reachable by fd_readdir calls whatsoever (stale or huge
cookies, too short buffers included): cookie 0 restarts a complete enumeration. `Inv` is kept by every
call (`readdir_call_inv`) and holds initially. -/
theorem rewind_ok (c : Cache) (h : Inv c) (bs : List Nat) (hb : ∀ b ∈ bs, 24 ≤ b ∧ b < 2^32) :
    let cl := (Client.start c).run bs
    cl.failed = none ∧ cl.acc = c.full.take cl.cookie ∧ (cl.done = true → cl.acc = c.full) := by
  intro cl
  have hi := client_run_inv c.full (Client.start c) bs (client_start_inv c h) hb
  exact ⟨hi.ok, hi.acc, hi.all_of_done⟩

open Wz.Model.Readdir Wz.Proofs.C16Readdir in
theorem readdir_call_inv (c : Cache) (bufLen cookie : Nat) (h : Inv c) (hb32 : bufLen < 2^32) :
    Inv (fdReaddirCore c bufLen cookie).1 ∧ (fdReaddirCore c bufLen cookie).1.full = c.full := by
  have _ := hb32  -- not needed: `Read` keeps the invariant whatever count it is given
  by_cases hb : bufLen < Wz.Gen.WasiFs.DirentSize
  · unfold fdReaddirCore; rw [if_pos hb]; exact ⟨h, rfl⟩
  · rw [core_eq c bufLen cookie (by omega)]
    exact ⟨(read_spec c cookie _ h).1, (read_spec c cookie _ h).2.1⟩

open Wz.Model.Readdir Wz.Proofs.C16Readdir in
/-- `truncated_not_skipped`: one call at a cookie the client may hold. The complete entries are the next
`k` entries; the end is signalled only when nothing is left; if no entry fitted although one is left, the
buffer is reported full and carries that entry's header with its true name length (so the client can grow
the buffer); a buffer that can hold the next entry delivers it. -/
theorem truncated_not_skipped (c : Cache) (bufLen cookie : Nat) (h : Inv c) (hr : Reach c cookie)
    (hb : 24 ≤ bufLen) (hb32 : bufLen < 2^32) :
    ∃ core k, (fdReaddirCore c bufLen cookie).2 = .ok core ∧
      core.complete cookie = numbered ((c.full.drop cookie).take k) cookie ∧
      (core.bufused bufLen < bufLen → cookie + k = c.full.length) ∧
      (k = 0 → cookie < c.full.length →
          core.bufused bufLen = bufLen ∧ core.truncatedHeader = c.full[cookie]?) ∧
      (∀ d, c.full[cookie]? = some d → 24 + d.name.length ≤ bufLen → 1 ≤ k) := by
  obtain ⟨core, k, hok, cs⟩ := call_spec c bufLen cookie h hr hb hb32
  exact ⟨core, k, hok, cs.complete, cs.short_is_end, cs.none_is_truncated, cs.fitting_delivered⟩

open Wz.Model.Readdir Wz.Proofs.C16Readdir in
/-- the enumeration terminates: with buffers that can hold the longest name, `|full| + 1` rounds suffice -/
theorem readdir_terminates (listing : List Dirent) (dotIno : Nat) (bs : List Nat)
    (hb : ∀ b ∈ bs, b < 2^32 ∧ ∀ d ∈ (Cache.fresh listing dotIno).full, 24 + d.name.length ≤ b)
    (hlen : (Cache.fresh listing dotIno).full.length + 1 ≤ bs.length) :
    ((Client.start (Cache.fresh listing dotIno)).run bs).done = true := by
  have := client_terminates (Cache.fresh listing dotIno).full (Client.start (Cache.fresh listing dotIno)) bs
    (client_start_inv _ (fresh_inv listing dotIno)) hb (by simpa [Client.start] using hlen)
  exact this

open Wz.Model.Readdir Wz.Proofs.C16Readdir in
/-- the bytes in the guest buffer are the serialisation of exactly those entries -/
theorem readdir_bytes (k : Core) (cookie : Nat) (hk : k.bufToWrite > 0) (hc : k.direntCount ≤ k.ds.length)
    (hpos : k.truncatedLen > 0 → k.direntCount ≥ 1) :
    k.written cookie =
      (k.complete cookie).flatMap (fun p => header p.1 p.2 ++ p.2.name) ++
      (match k.truncatedHeader with
       | some d => header (cookie + 1 + k.nComplete) d
       | none => []) := by
  have _ := hc  -- not needed
  unfold Core.written
  rw [if_pos hk]
  unfold writeDirents Core.complete Core.nComplete Core.truncatedHeader
  have hw := fun cnt skip => writeGo_eq k.ds (cookie + 1) 0 cnt skip
  simp only [Nat.add_zero, Nat.sub_zero] at hw
  rw [List.flatMap_map]
  by_cases ht : k.truncatedLen > 0
  · have hc1 := hpos ht
    rw [if_pos ht, if_pos ht]
    by_cases ht2 : k.truncatedLen < Wz.Gen.WasiFs.DirentSize
    · rw [if_pos ht2, if_neg (by omega), hw, List.append_nil]
      rfl
    · rw [if_neg ht2, if_pos (by omega), hw]
      obtain ⟨m, hm⟩ : ∃ m, k.direntCount = m + 1 := ⟨k.direntCount - 1, by omega⟩
      -- the `m` entries before index `m` keep their names; entry `m`, if there is one, loses its name
      rw [hm, Nat.add_sub_cancel, List.take_add_one, List.zipIdx_append, List.flatMap_append]
      congr 1
      · rw [List.flatMap_def, List.flatMap_def]
        refine congrArg _ (List.map_congr_left fun p hp => ?_)
        have := (List.mem_zipIdx (x := p.1) (i := p.2) hp).2.1
        rw [List.length_take] at this
        rw [if_neg (by simp; omega)]
      · cases hd : k.ds[m]? with
        | none => rfl
        | some d =>
          have := (List.getElem?_eq_some_iff.1 hd).1
          simp [List.length_take, Nat.min_eq_left (Nat.le_of_lt this)]
  · rw [if_neg ht, if_neg ht, if_neg (by simp only [Wz.Gen.WasiFs.DirentSize]; omega), hw, List.append_nil]
    rfl

-- TEST (sample): 3 entries, buffers of 30 bytes then large: the client sees ., .., a, bb, ccc
example :
    let l : List Wz.Model.Readdir.Dirent := [⟨[97], 5, 4⟩, ⟨[98, 98], 6, 3⟩, ⟨[99, 99, 99], 7, 4⟩]
    let cl := (Wz.Model.Readdir.Client.start (Wz.Model.Readdir.Cache.fresh l 77)).run [30, 30, 30, 30, 30, 30, 30, 600]
    cl.done = true ∧ cl.acc.map (·.name) = [[46], [46, 46], [97], [98, 98], [99, 99, 99]] := by decide +kernel

/-! ## (3) file content -/

open Wz.Model.RefFS Wz.Proofs.C16Content in
/-- `file_content_refinement` (byte level): the three content functions are characterised byte by byte —
a write replaces exactly the written range (a gap reads as zeros), a read returns the bytes at the offset
and is short only at the end of the file, truncate cuts or zero-extends. -/
theorem file_content_refinement (c : List Nat) (off : Nat) (bs : List Nat) (len n i : Nat) :
    (bs ≠ [] → (writeAt c off bs)[i]? =
        if off ≤ i ∧ i < off + bs.length then bs[i - off]?
        else if i < c.length then c[i]? else if i < off then some 0 else none) ∧
    writeAt c off [] = c ∧
    (readAt c off len)[i]? = (if i < len then c[off + i]? else none) ∧
    (readAt c off len).length = min len (c.length - off) ∧
    (truncateTo c n)[i]? = (if i < n then (if i < c.length then c[i]? else some 0) else none) ∧
    readAt (writeAt c off bs) off bs.length = bs ∧
    writeAt c c.length bs = c ++ bs :=
  ⟨writeAt_get c off bs i, writeAt_empty c off, readAt_get c off len i, readAt_length c off len,
   truncateTo_get c n i, read_after_write c off bs, append_write c bs⟩

open Wz.Model.RefFS Wz.Proofs.C16Content in
/-- `file_content_refinement` (descriptor level): fd_write through a live writable description writes into
the single byte list of its inode at the description's offset — at the end of the file in append mode —,
leaves every other file alone and advances the offset; so all descriptions of the same inode see it. -/
theorem write_one_content (fs : FS) (fd : Int) (bs : List Nat) (id : Nat) (d : Desc)
    (hd : fs.desc fd = .ok (id, d)) (hf : d.isDir = false) (hw : d.canWrite = true) (hne : bs ≠ [])
    (hn : (fs.node d.ino).isSome = true) :
    let off := if d.append then (fs.content d.ino).length else d.offset
    (fs.fdWrite fd bs).2 = (.ok, bs.length) ∧
    (fs.fdWrite fd bs).1.content d.ino = writeAt (fs.content d.ino) off bs ∧
    (∀ ino', ino' ≠ d.ino → (fs.fdWrite fd bs).1.content ino' = fs.content ino') ∧
    aget (fs.fdWrite fd bs).1.descs id = some { d with offset := off + bs.length } := by
  have he : bs.isEmpty = false := List.isEmpty_eq_false_iff.2 hne
  simp only [FS.fdWrite, hd, hf, hw, he, Bool.false_eq_true, ↓reduceIte, Bool.not_true]
  refine ⟨trivial, ?_, ?_, ?_⟩
  · rw [content_setDesc, content_setContent_same _ _ _ hn]
  · intro ino' h; rw [content_setDesc, content_setContent_other _ _ _ _ h]
  · simp [FS.setDesc, aget_aset_same]

open Wz.Model.RefFS Wz.Proofs.C16Content in
theorem pwrite_one_content (fs : FS) (fd : Int) (bs : List Nat) (off id : Nat) (d : Desc)
    (hd : fs.desc fd = .ok (id, d)) (hf : d.isDir = false) (hw : d.canWrite = true) (ha : d.append = false)
    (hne : bs ≠ []) (hn : (fs.node d.ino).isSome = true) :
    (fs.fdPwrite fd bs off).2 = (.ok, bs.length) ∧
    (fs.fdPwrite fd bs off).1.content d.ino = writeAt (fs.content d.ino) off bs ∧
    (∀ ino', ino' ≠ d.ino → (fs.fdPwrite fd bs off).1.content ino' = fs.content ino') ∧
    (fs.fdPwrite fd bs off).1.descs = fs.descs := by
  have he : bs.isEmpty = false := List.isEmpty_eq_false_iff.2 hne
  simp only [FS.fdPwrite, hd, hf, hw, ha, he, Bool.false_eq_true, ↓reduceIte, Bool.not_true]
  exact ⟨trivial, content_setContent_same _ _ _ hn, fun ino' h => content_setContent_other _ _ _ _ h,
    descs_setContent ..⟩

open Wz.Model.RefFS Wz.Proofs.C16Content in
theorem read_one_content (fs : FS) (fd : Int) (len id : Nat) (d : Desc)
    (hd : fs.desc fd = .ok (id, d)) (hf : d.isDir = false) (hr : d.canRead = true) (hl : len ≠ 0) :
    (fs.fdRead fd len).2 = (.ok, readAt (fs.content d.ino) d.offset len) ∧
    (∀ ino, (fs.fdRead fd len).1.content ino = fs.content ino) ∧
    aget (fs.fdRead fd len).1.descs id =
      some { d with offset := d.offset + min len ((fs.content d.ino).length - d.offset) } := by
  have hl' : (len == 0) = false := by simp [hl]
  simp only [FS.fdRead, hd, hl', hf, hr, Bool.false_eq_true, ↓reduceIte, Bool.not_true]
  refine ⟨trivial, fun _ => rfl, ?_⟩
  simp [FS.setDesc, aget_aset_same, readAt_length]

open Wz.Model.RefFS Wz.Proofs.C16Content in
theorem pread_one_content (fs : FS) (fd : Int) (len off id : Nat) (d : Desc)
    (hd : fs.desc fd = .ok (id, d)) (hf : d.isDir = false) (hr : d.canRead = true) (hl : len ≠ 0) :
    fs.fdPread fd len off = (fs, .ok, readAt (fs.content d.ino) off len) := by
  have hl' : (len == 0) = false := by simp [hl]
  simp only [FS.fdPread, hd, hl', hf, hr, Bool.false_eq_true, ↓reduceIte, Bool.not_true]

open Wz.Model.RefFS Wz.Proofs.C16Content in
theorem seek_tell_offsets (fs : FS) (fd : Int) (off : Int) (whence id : Nat) (d : Desc)
    (hd : fs.desc fd = .ok (id, d)) (hf : d.isDir = false) (hw : whence ≤ 2) :
    let base : Int := if whence = 0 then 0 else if whence = 1 then d.offset else (fs.content d.ino).length
    (base + off < 0 → fs.fdSeek fd off whence = (fs, .inval, 0)) ∧
    (0 ≤ base + off →
      (fs.fdSeek fd off whence).2 = (.ok, (base + off).toNat) ∧
      aget (fs.fdSeek fd off whence).1.descs id = some { d with offset := (base + off).toNat } ∧
      ∀ ino, (fs.fdSeek fd off whence).1.content ino = fs.content ino) ∧
    (fs.fdTell fd).2 = (.ok, d.offset) := by
  have hw' : ¬ whence > 2 := by omega
  simp only [FS.fdTell, FS.fdSeek, hd, hf, hw', Bool.false_eq_true, ↓reduceIte, beq_iff_eq]
  refine ⟨fun h => by rw [if_pos h], fun h => ?_, by simp [Int.not_lt.2 (Int.natCast_nonneg _)]⟩
  rw [if_neg (Int.not_lt.2 h)]
  exact ⟨rfl, by simp [FS.setDesc, aget_aset_same], fun _ => rfl⟩

open Wz.Model.RefFS Wz.Proofs.C16Content in
theorem truncate_one_content (fs : FS) (fd : Int) (size : Nat) (id : Nat) (d : Desc)
    (hd : fs.desc fd = .ok (id, d)) (hf : d.isDir = false) (hw : d.canWrite = true)
    (hn : (fs.node d.ino).isSome = true) :
    (fs.fdSetSize fd size).2 = .ok ∧
    (fs.fdSetSize fd size).1.content d.ino = truncateTo (fs.content d.ino) size ∧
    (∀ ino', ino' ≠ d.ino → (fs.fdSetSize fd size).1.content ino' = fs.content ino') ∧
    (fs.fdSetSize fd size).1.descs = fs.descs ∧
    fs.fdStat fd = (.ok, Wz.Gen.WasiFs.FILETYPE_REGULAR_FILE, (fs.content d.ino).length) := by
  have : ¬ ((size : Int) < 0) := by omega
  simp only [FS.fdSetSize, FS.fdStat, hd, this, hf, hw, Bool.false_eq_true, ↓reduceIte, Bool.not_true, Int.toNat_natCast]
  exact ⟨trivial, content_setContent_same _ _ _ hn, fun ino' h => content_setContent_other _ _ _ _ h,
    descs_setContent .., trivial⟩

-- non-vacuity of the descriptor-level hypotheses: create a file, its descriptor 4 is a live writable
-- regular-file description whose inode exists.
def sampleFS : Wz.Model.RefFS.FS := ((Wz.Model.RefFS.FS.init false).pathOpen 3 ["a"]
  { creat := true, directory := false, excl := false, trunc := false, append := false, rightRead := true, rightWrite := true }).1

example : ∃ id d, sampleFS.desc 4 = .ok (id, d) ∧ d.isDir = false ∧ d.canWrite = true ∧ d.canRead = true ∧
    (sampleFS.node d.ino).isSome = true :=
  ⟨4, { ino := 1, offset := 0, append := false, canRead := true, canWrite := true, isDir := false, name := ["a"] }, by
    refine ⟨?_, rfl, rfl, rfl, ?_⟩ <;> rfl⟩


/-! ## (4) directory changes are visible to later lookups: descriptors denote directories, not names -/

open Wz.Model.RefFS in
/-- the history of finding F24: mkdir a; open a → 4; rename a → b -/
def f24History (byName : Bool) : FS :=
  let fs0 := FS.init false byName
  let fs1 := (fs0.mkdir 3 ["a"]).1
  let fs2 := (fs1.pathOpen 3 ["a"]
    { creat := false, directory := true, excl := false, trunc := false, append := false, rightRead := true, rightWrite := false }).1
  (fs2.rename 3 ["a"] 3 ["b"]).1

open Wz.Model.RefFS in
/-- `dirfd_follows_rename` (repaired variant, `byName = false`): a rename changes neither the descriptor
table nor the open descriptions, so every descriptor denotes the same directory (inode) as before; and a path
relative to a directory descriptor starts from that directory — whatever it is called now — unless the
directory itself has been removed (then nothing can be found in it). -/
theorem dirfd_follows_rename (fs : FS) (h : fs.byName = false) (f1 f2 : Int) (c1 c2 : List String)
    (fd : Int) (comps : List String) :
    (fs.rename f1 c1 f2 c2).1.desc fd = fs.desc fd ∧
    (∀ id d, fs.desc fd = .ok (id, d) → d.isDir = true →
      (((fs.rename f1 c1 f2 c2).1.node d.ino).map (·.dead)).getD false = false →
      (fs.rename f1 c1 f2 c2).1.atPath fd comps = .ok (d.ino, comps)) := by
  have key : (fs.rename f1 c1 f2 c2).1.ctx = fs.ctx ∧ (fs.rename f1 c1 f2 c2).1.descs = fs.descs ∧
      (fs.rename f1 c1 f2 c2).1.byName = fs.byName := by
    -- every branch returns `fs` or `doMove` of `fs` with at most one more node set, and `doMove` only sets nodes
    fun_cases FS.rename
    case case7 | case12 | case14 =>
      simp +zetaDelta only []
      split
      · exact ⟨rfl, rfl, rfl⟩
      · split <;> exact ⟨rfl, rfl, rfl⟩
    all_goals exact ⟨rfl, rfl, rfl⟩
  have hdesc : (fs.rename f1 c1 f2 c2).1.desc fd = fs.desc fd := by
    unfold FS.desc
    rw [key.1, key.2.1]
  refine ⟨hdesc, ?_⟩
  intro id d hd hdir hdead
  unfold FS.atPath
  rw [hdesc, hd]
  simp [hdir, key.2.2, h, hdead]

open Wz.Model.RefFS in
/-- F24 (witness, pinned tree `byName = true`): after `mkdir a; open a → 4; rename a b`, creating `x`
through descriptor 4 fails with ENOENT, while in the repaired variant it succeeds and `b/x` exists. -/
theorem dirfd_rename_witness :
    ((f24History true).mkdir 4 ["x"]).2 = .noent ∧
    ((f24History false).mkdir 4 ["x"]).2 = .ok ∧
    (((f24History false).mkdir 4 ["x"]).1.pathStat 3 ["b", "x"]).1 = .ok := by decide +kernel

/-! ## explicit modification times through a descriptor (`fd_filestat_set_times`, `Wz.Model.RefFSTimes`) -/

open Wz.Model.RefFS in
/-- Setting times through a descriptor succeeds exactly when the descriptor is open - whatever was done with it
before (a directory listing does not make it stale) - and a successful call is read back through it. -/
theorem set_times_succeeds_iff_open_and_reads_back (fs : FS) (ts : Times) (fd : Int) (t : Nat) :
    ((fs.fdSetTimes ts fd t).2 = .ok ↔ ∃ id d, fs.desc fd = .ok (id, d)) ∧
    ((fs.fdSetTimes ts fd t).2 = .ok → fs.fdMtime (fs.fdSetTimes ts fd t).1 fd = (.ok, some t)) := by
  unfold FS.fdSetTimes FS.fdMtime
  cases h : fs.desc fd with
  | error e =>
    cases Wz.Proofs.C16Content.desc_error h
    simp
  | ok p => simp [aget_aset_same]; exact ⟨p.1, p.2, rfl⟩

open Wz.Model.RefFS in
/-- … and it changes the time of that inode only. -/
theorem set_times_leaves_other_inodes (fs : FS) (ts : Times) (fd fd' : Int) (t : Nat) (id id' : Nat) (d d' : Desc)
    (h : fs.desc fd = .ok (id, d)) (h' : fs.desc fd' = .ok (id', d')) (hne : d'.ino ≠ d.ino) :
    fs.fdMtime (fs.fdSetTimes ts fd t).1 fd' = fs.fdMtime ts fd' := by
  unfold FS.fdSetTimes FS.fdMtime
  simp [h, h', aget_aset_other _ _ _ _ hne]

-- non-vacuity (test on a sample): descriptor 3 (the pre-open) of the initial file system
open Wz.Model.RefFS in
example : ((FS.init false).fdSetTimes [] 3 77).2 = E.ok ∧
    (FS.init false).fdMtime ((FS.init false).fdSetTimes [] 3 77).1 3 = (E.ok, some 77) := by
  decide +kernel

end Wz.C16
