import Wz.Gen.ReadFS

/-!
# C16 companion: every WASI open flag reaches the host flag word on its own

`path_open` hands `openFlags(dirflags, oflags, fdflags, rights)` to the file system.  The reference model of C16 gives
each flag its meaning independently of the others (truncate truncates whether or not the descriptor is opened for
appending).  The definition the theorems speak of is REGENERATED from `imports/wasi_snapshot_preview1/fs.go` on every
run (`Wz.Gen.ReadFS.openFlags`, statement by statement): for ALL 2^80 argument tuples the host bit of a flag is set
exactly when the guest asked for that flag - whatever the other flags, lookup flags and rights are.  (`O_EXCL` is the
one documented exception: `O_DIRECTORY` takes precedence over it.)  Seeded change C16-6 - `O_TRUNC` dropped when
`FD_APPEND` is set - makes `openFlags_truncate_iff_requested` false; the open-flag grid of hc16 supplies the failing
history.
-/

namespace Wz.C16

open Wz.Gen.ReadFS

/-- is host flag bit `m` set in the word `w` -/
def has (w m : BitVec 32) : Bool := (w &&& m) != 0#32

theorem has_or (w m k : BitVec 32) : has (w ||| m) k = (has w k || has m k) := by
  rw [Bool.eq_iff_iff]
  simp only [has, BitVec.and_or_distrib_right, bne_iff_ne, Ne, BitVec.or_eq_zero_iff, Bool.or_eq_true,
    Classical.not_and_iff_not_or_not]

theorem has_ite (c : Prop) [Decidable c] (w w' k : BitVec 32) :
    has (if c then w else w') k = if c then has w k else has w' k :=
  apply_ite (has · k) c w w'

/-- `has` unfolded on literals only, so that it stays folded until `has_or` and `has_ite` have reached the leaves -/
theorem has_lit (a b : Nat) :
    has (BitVec.ofNat 32 a) (BitVec.ofNat 32 b) = (BitVec.ofNat 32 a &&& BitVec.ofNat 32 b != 0#32) := rfl

/-- the nine independent flags at once -/
theorem openFlags_faithful (d o f : BitVec 16) (r : BitVec 32) :
    has (openFlags d o f r) O_TRUNC = ((o &&& WASI_O_TRUNC) != 0#16) ∧
    has (openFlags d o f r) O_CREAT = ((o &&& WASI_O_CREAT) != 0#16) ∧
    has (openFlags d o f r) O_DIRECTORY = ((o &&& WASI_O_DIRECTORY) != 0#16) ∧
    has (openFlags d o f r) O_EXCL = (((o &&& WASI_O_EXCL) != 0#16) && !((o &&& WASI_O_DIRECTORY) != 0#16)) ∧
    has (openFlags d o f r) O_APPEND = ((f &&& WASI_FD_APPEND) != 0#16) ∧
    has (openFlags d o f r) O_DSYNC = ((f &&& WASI_FD_DSYNC) != 0#16) ∧
    has (openFlags d o f r) O_NONBLOCK = ((f &&& WASI_FD_NONBLOCK) != 0#16) ∧
    has (openFlags d o f r) O_RSYNC = ((f &&& WASI_FD_RSYNC) != 0#16) ∧
    has (openFlags d o f r) O_SYNC = ((f &&& WASI_FD_SYNC) != 0#16) ∧
    has (openFlags d o f r) O_NOFOLLOW = ((d &&& WASI_LOOKUP_SYMLINK_FOLLOW) == 0#16) := by
  -- `has · k` is pushed through every `if` and `|||` of the regenerated definition down to the literals; a statement
  -- that does not or in bit `k` then reads `if c then x else x`, the one that does reads `if c then true else false`
  simp only [openFlags, O_TRUNC, O_CREAT, O_DIRECTORY, O_EXCL, O_APPEND, O_DSYNC, O_NONBLOCK, O_RSYNC, O_SYNC,
    O_NOFOLLOW, WASI_O_TRUNC, WASI_O_CREAT, WASI_O_DIRECTORY, WASI_O_EXCL, WASI_FD_APPEND, WASI_FD_DSYNC,
    WASI_FD_NONBLOCK, WASI_FD_RSYNC, WASI_FD_SYNC, WASI_LOOKUP_SYMLINK_FOLLOW, has_or, has_ite, has_lit,
    BitVec.reduceAnd, BitVec.reduceBNe, Bool.or_false, Bool.false_or, ite_self]
  simp only [Bool.if_true_left, Bool.if_false_left, Bool.decide_eq_true, Bool.or_false, Bool.and_comm, and_self]

/-- **truncation is requested ⇔ it reaches the host**, whatever else is asked for (FD_APPEND included) -/
theorem openFlags_truncate_iff_requested (d o f : BitVec 16) (r : BitVec 32) :
    has (openFlags d o f r) O_TRUNC = ((o &&& WASI_O_TRUNC) != 0#16) :=
  (openFlags_faithful d o f r).1

/-- non-vacuity, the combination of seeded change C16-6: truncate + append + write -/
example : has (openFlags 1#16 WASI_O_TRUNC WASI_FD_APPEND WASI_RIGHT_FD_WRITE) O_TRUNC = true ∧
    has (openFlags 1#16 WASI_O_TRUNC WASI_FD_APPEND WASI_RIGHT_FD_WRITE) O_APPEND = true := by decide

end Wz.C16
