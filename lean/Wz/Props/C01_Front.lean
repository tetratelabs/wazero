/-
C01 (front end) — the optimizing compiler's translation of a WebAssembly function body to SSA
(`internal/engine/wazevo/frontend`: `LowerToSSA`, `lowerCurrentOpcode`; `ssa.Builder`) preserves the semantics,
for STRAIGHT-LINE integer code (one basic block).

Model: `Wz.Model.FrontendSL` (`lowerSL : Fn → SsaPass.Func` mirrors frontend.go / lower.go for the fragment; tied
to the real front end by the harness `hfront`: the model predicts the text of `ssaBuilder.Format()` line by line,
value ids included; see docs/C01_front.md).
Source semantics: `runSpec`, i.e. `Wz.Spec.Wasm.invoke` on the embedding of the fragment into
`Wz.Spec.Wasm.Instr` (numeric instructions by NAME through `Wz.Spec.Num.scalar`).
Target semantics: `Wz.Model.SsaPass.run`, the SSA semantics of the pass proofs (`C01_Ssa.lean`).

Proved here for EVERY function `f` of the fragment with `wellTyped f` (decidable stack typing in the style of the
validator), EVERY argument vector that fits the parameter types (`ArgsOK`), every execution-context and
module-context argument, every callee world `w` and every fuel:

* `front_refines`      — `run w (lowerSL f) (ec :: mc :: args) (fuel + 1) = ofSpec (runSpec f args n)` for every
                          reference fuel `n ≥ |body| + 3`: the same result values, or the same trap (division by zero
                          ↔ `ExitCodeIntegerDivisionByZero`, overflow ↔ `ExitCodeIntegerOverflow`), no memory
                          write, no call; and the reference run never exhausts such a fuel;
* `front_refines_spec` — the same read in the vocabulary of the specification (`ofSsa (run …) = runSpec …`);
* `front_wellFormed`   — `SsaPass.wellFormed (lowerSL f)`: what the front end produces satisfies the hypothesis of
                          the pass theorems (strict SSA: every value defined once and before its uses, typed shifts);
* `front_then_passes_refines` — composition with `ssa_passes_sound`: specification → SSA → optimised SSA
                          (`runPasses`, also with the alias table dropped, as the back end sees it).

* `front_refines_ext`  — the front end alone, for the fragment EXTENDED by `i32.extend8_s/16_s`, `i64.extend8_s/16_s`
                          (`Wz.Model.FrontendSLX`: the front end emits `SExtend x, 8->32` etc., which the SSA model of the
                          pass proofs lacks; it is wrapped, `runX`, not edited): same statement as `front_refines`;
* `front_ext_conservative` — on functions of the base fragment the extended translator, the extended reference
                          semantics and the wrapped SSA semantics are the base ones.

Fragment: i32/i64 `const`, `local.get/set/tee`, `drop`, `select`, `add sub mul and or xor shl shr_s shr_u rotl
rotr`, the ten comparisons, `eqz`, `clz ctz popcnt`, `i32.wrap_i64`, `i64.extend_i32_s/u`, `i64.extend32_s`,
the trapping `div_s div_u rem_s rem_u`, `return`, the function's `end`; parameters, locals and (any number of)
results of type i32/i64.
-/
import Wz.Proofs.C01_Front
import Wz.Proofs.C01_Front_WFMem
import Wz.Props.C01_Ssa

namespace Wz.C01
open Wz.Model.SsaPass Wz.Model.FrontendSL Wz.Model.FrontendSLX Wz.Proofs.Front

/-- **The front end preserves the semantics.**  For every well-typed function of the fragment, every argument
vector within the parameter types, every context arguments, callee world and fuel: the SSA function the front
end produces has the outcome of the reference semantics — the same result values, or the same trap —, writes no
memory and makes no call; the reference semantics does not run out of a fuel of `|body| + 3`. -/
theorem front_refines (f : Fn) (hwt : wellTyped f = true) (args : List Nat) (hargs : ArgsOK f args)
    (w : World) (ec mc : Nat) (fuel n : Nat) (hn : f.body.length + 3 ≤ n) :
    run w (lowerSL f) (ec :: mc :: args) (fuel + 1) = ofSpec (runSpec f args n) ∧
    runSpec f args n ≠ .exhausted :=
  ⟨(lower_refines_full f hwt args hargs w ec mc fuel n hn).1, (lower_refines_full f hwt args hargs w ec mc fuel n hn).2.2⟩

/-- the same, read from the SSA side: values ↦ values, exit code ↦ trap kind -/
theorem front_refines_spec (f : Fn) (hwt : wellTyped f = true) (args : List Nat) (hargs : ArgsOK f args)
    (w : World) (ec mc : Nat) (fuel n : Nat) (hn : f.body.length + 3 ≤ n) :
    ofSsa (run w (lowerSL f) (ec :: mc :: args) (fuel + 1)) = runSpec f args n :=
  (lower_refines_full f hwt args hargs w ec mc fuel n hn).2.1

/-- consequence: the outcome of the reference semantics does not depend on the fuel once it is `≥ |body| + 3` -/
theorem front_spec_fuel_irrelevant (f : Fn) (hwt : wellTyped f = true) (args : List Nat) (hargs : ArgsOK f args)
    (n n' : Nat) (hn : f.body.length + 3 ≤ n) (hn' : f.body.length + 3 ≤ n') :
    runSpec f args n = runSpec f args n' := by
  rw [← front_refines_spec f hwt args hargs ⟨fun _ _ _ => none⟩ 0 0 0 n hn,
    ← front_refines_spec f hwt args hargs ⟨fun _ _ _ => none⟩ 0 0 0 n' hn']

/-- **The front end produces well-formed SSA**: the hypothesis of the pass theorems (`ssa_passes_sound`) holds for
every function the front end produces from a well-typed function of the fragment. -/
theorem front_wellFormed (f : Fn) (hwt : wellTyped f = true) : wellFormed (lowerSL f) = true :=
  lower_static f hwt

/-- **Specification → SSA → optimised SSA.**  The function after the front end AND the optimisation passes
(`runPasses`: dead blocks, redundant block parameters, no-op shifts, dead code) still has the outcome of the
reference semantics; so has the function the back end sees (alias table dropped). -/
theorem front_then_passes_refines (f : Fn) (hwt : wellTyped f = true) (args : List Nat) (hargs : ArgsOK f args)
    (w : World) (ec mc : Nat) (fuel n : Nat) (hn : f.body.length + 3 ≤ n) :
    run w (runPasses (lowerSL f)) (ec :: mc :: args) (fuel + 1) = ofSpec (runSpec f args n) ∧
    run w { runPasses (lowerSL f) with alias := [] } (ec :: mc :: args) (fuel + 1) = ofSpec (runSpec f args n) := by
  have hwf := front_wellFormed f hwt
  have href := (front_refines f hwt args hargs w ec mc fuel n hn).1
  exact ⟨by rw [ssa_passes_sound w _ hwf, href], by rw [ssa_passes_sound_without_alias w _ hwf, href]⟩

/-! ### non-vacuity

`frontExample`: parameters (i32, i64), results (i32, i32), locals (i32, i64, i32):

    local.get 0; local.tee 2; i32.eqz; local.get 3; i64.const -1; i64.add; i32.wrap_i64; local.get 4; select;
    i32.const 7; i32.div_s; local.get 2; i32.const 32; i32.shl          (end)

It reads an uninitialised local of each type (one zero constant per type), materialises the zero of `eqz`, uses a
trapping division, a conversion, `select`, a shift by the width (removed by the passes), and returns two values. -/

def frontExample : Fn :=
  { params := [.i32, .i64], results := [.i32, .i32], locals := [.i32, .i64, .i32],
    body := [.localGet 0, .localTee 2, .eqz .i32, .localGet 3, .const .i64 (2 ^ 64 - 1), .bin .i64 .add, .wrap,
             .localGet 4, .select, .const .i32 7, .div .i32 .divS, .localGet 2, .const .i32 32, .bin .i32 .shl] }

/-- what the front end emits for it, as `ssaBuilder.Format()` prints it (a test of the model on one input; the
harness compares this text with the real front end's on every generated function) -/
example : format frontExample =
    ["blk0: (exec_ctx:i64, module_ctx:i64, v2:i32, v3:i64)",
     "v4:i32 = Iconst_32 0x0", "v5:i64 = Iconst_64 0x0",
     "v6:i32 = Iconst_32 0x0", "v7:i32 = Icmp eq, v2, v6",
     "v8:i64 = Iconst_64 0xffffffffffffffff", "v9:i64 = Iadd v5, v8", "v10:i32 = Ireduce v9",
     "v11:i32 = Select v4, v7, v10", "v12:i32 = Iconst_32 0x7", "v13:i32 = Sdiv v11, v12",
     "v14:i32 = Iconst_32 0x20", "v15:i32 = Ishl v2, v14", "Jump blk_ret, v13, v15"] := by decide +kernel

example : wellTyped frontExample = true := by decide
example : ArgsOK frontExample [5, 6] := by decide

/-- the theorems apply to the example, for all arguments -/
example (args : List Nat) (hargs : ArgsOK frontExample args) (w : World) (ec mc fuel : Nat) :
    run w (runPasses (lowerSL frontExample)) (ec :: mc :: args) (fuel + 1) = ofSpec (runSpec frontExample args 17) :=
  (front_then_passes_refines frontExample (by decide) args hargs w ec mc fuel 17 (by decide)).1

/-- a division by zero: `i32.const 1; local.get 0; i32.div_u` with the argument 0 traps in the specification, and
the lowered function exits with `ExitCodeIntegerDivisionByZero` (a test on one input) -/
def frontDivExample : Fn :=
  { params := [.i32], results := [.i32], locals := [], body := [.const .i32 1, .localGet 0, .div .i32 .divU] }

example : wellTyped frontDivExample = true := by decide

example (w : World) : run w (lowerSL frontDivExample) [0xec, 0x3c, 0] 1 = .trap codeDivByZero [] [] := by
  rfl

/-- an explicit `return` with dead code after it: `Return` instead of the jump to the return block, nothing
emitted for the dead code -/
def frontRetExample : Fn :=
  { params := [.i64], results := [.i64], locals := [],
    body := [.localGet 0, .cnt .i64 .popcnt, .ret, .const .i32 1, .drop] }

example : wellTyped frontRetExample = true := by decide

example : format frontRetExample =
    ["blk0: (exec_ctx:i64, module_ctx:i64, v2:i64)", "v3:i64 = Popcnt v2", "Return v3"] := by decide +kernel

/-- **The front end preserves the semantics, extended fragment** (`i32.extend8_s`, `i32.extend16_s`, `i64.extend8_s`,
`i64.extend16_s` in addition): the wrapped SSA function `lowerX f` has the outcome of the reference semantics. -/
theorem front_refines_ext (f : FnX) (hwt : wellTypedX f = true) (args : List Nat) (hargs : ArgsOK f.sig args)
    (w : World) (ec mc : Nat) (n : Nat) (hn : f.body.length + 3 ≤ n) :
    runX w (lowerX f) (ec :: mc :: args) = ofSpec (runSpecX f args n) ∧
    ofSsa (runX w (lowerX f) (ec :: mc :: args)) = runSpecX f args n ∧
    runSpecX f args n ≠ .exhausted :=
  lowerX_refines_full f hwt args hargs w ec mc n hn

/-- **The extension is conservative**: on a (well-typed) function of the base fragment the extended translator emits
the same instructions, the extended reference semantics is the base one, and the wrapped SSA semantics of the result is
`SsaPass.run` on `lowerSL f`. -/
theorem front_ext_conservative (f : Fn) (hwt : wellTyped f = true) (w : World) (args : List Nat) (fuel n : Nat) :
    lowerX (toX f) = ⟨entryParams f, (entryInstrs f).map .base⟩ ∧
    runSpecX (toX f) args n = runSpec f args n ∧
    runX w (lowerX (toX f)) args = run w (lowerSL f) args (fuel + 1) :=
  ⟨lowerX_toX f, runSpecX_toX f args n, runX_toX w f args fuel⟩

/-- non-vacuity: `local.get 0; i32.extend8_s; local.get 1; i64.extend16_s` -/
def frontExtExample : FnX :=
  { params := [.i32, .i64], results := [.i32, .i64], locals := [],
    body := [.base (.localGet 0), .ext .i32 .w8, .base (.localGet 1), .ext .i64 .w16] }

example : wellTypedX frontExtExample = true := by decide

example : formatX frontExtExample =
    ["blk0: (exec_ctx:i64, module_ctx:i64, v2:i32, v3:i64)", "v4:i32 = SExtend v2, 8->32",
     "v5:i64 = SExtend v3, 16->64", "Jump blk_ret, v4, v5"] := by decide +kernel

/-- a test on one input: 0x80 ↦ 0xffffff80, 0x18000 ↦ 0xffffffffffff8000 -/
example (w : World) : runX w (lowerX frontExtExample) [0xec, 0x3c, 0x80, 0x18000] =
    .values [0xffffff80, 0xffffffffffff8000] [] [] := by rfl

end Wz.C01
