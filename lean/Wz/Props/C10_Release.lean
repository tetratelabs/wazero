import Wz.Proofs.ShapeLookup
/-!
# C10 companion: releasing an instance's resources is idempotent

`ModuleInstance.ensureResourcesClosed` is not guarded against repetition: for an instance closed because the context
of a call in flight was done (`closeWithExitCodeWithoutClosingResource`) it is called by `FailIfClosed` on every
later look at the closed flag.  "Fires its close notification exactly once, releases the resources once" then rests
on one rule: every resource the function releases is detached (set to nil) in the branch that released it.

Model: a resource is present or not; its branch clears it or not.  One run releases (one event per) every present
resource and detaches those whose branch clears.  With the rule, every run after the first is silent
(`release_runs_after_the_first_are_silent`, all resource lists, any number of runs); without it a resource is released
again (`release_without_clearing_fires_again_witness`).  The rule itself is a regenerated shape of the source
(`release_clears_every_resource_it_releases`): per `X != nil` test of the function, the field its body sets to nil.
-/

namespace Wz.C10

structure Res where
  name : String
  present : Bool
  clears : Bool
  deriving DecidableEq, Repr

/-- one run of `ensureResourcesClosed`: (resources afterwards, release events of this run) -/
def releaseOnce (rs : List Res) : List Res × List String :=
  (rs.map fun r => if r.present && r.clears then { r with present := false } else r,
   (rs.filter (·.present)).map (·.name))

/-- the events of `n` consecutive runs, run by run -/
def releaseRuns : Nat → List Res → List (List String)
  | 0, _ => []
  | n + 1, rs => (releaseOnce rs).2 :: releaseRuns n (releaseOnce rs).1

theorem releaseOnce_clears_all (rs : List Res) (h : ∀ r ∈ rs, r.clears = true) :
    ∀ r ∈ (releaseOnce rs).1, r.present = false ∧ r.clears = true := by
  intro r hr
  simp only [releaseOnce, List.mem_map] at hr
  obtain ⟨q, hq, rfl⟩ := hr
  have hc := h q hq
  cases hp : q.present <;> simp [hp, hc]

theorem releaseOnce_silent_of_absent (rs : List Res) (h : ∀ r ∈ rs, r.present = false) :
    (releaseOnce rs).2 = [] ∧ (releaseOnce rs).1 = rs := by
  constructor
  · simp only [releaseOnce, List.map_eq_nil_iff, List.filter_eq_nil_iff]
    intro r hr; simp [h r hr]
  · simp only [releaseOnce]
    conv => rhs; rw [← List.map_id rs]
    apply List.map_congr_left
    intro r hr; simp [h r hr]

/-- **the second run is silent** when every branch clears what it releases -/
theorem release_second_run_silent (rs : List Res) (h : ∀ r ∈ rs, r.clears = true) :
    (releaseOnce (releaseOnce rs).1).2 = [] :=
  (releaseOnce_silent_of_absent _ (fun r hr => (releaseOnce_clears_all rs h r hr).1)).1

theorem releaseRuns_silent_of_absent (n : Nat) (rs : List Res) (h : ∀ r ∈ rs, r.present = false) :
    ∀ ev ∈ releaseRuns n rs, ev = [] := by
  induction n with
  | zero => intro ev hev; simp [releaseRuns] at hev
  | succ n ih =>
    intro ev hev
    have hs := releaseOnce_silent_of_absent rs h
    simp only [releaseRuns, List.mem_cons] at hev
    rcases hev with rfl | hev
    · exact hs.1
    · rw [hs.2] at hev; exact ih ev hev

/-- **exactly once, for any number of runs**: with the rule, all events of `n+1` runs are those of the first run -/
theorem release_runs_after_the_first_are_silent (n : Nat) (rs : List Res) (h : ∀ r ∈ rs, r.clears = true) :
    ∀ ev ∈ (releaseRuns (n + 1) rs).tail, ev = [] := by
  simp only [releaseRuns, List.tail_cons]
  exact releaseRuns_silent_of_absent n _ (fun r hr => (releaseOnce_clears_all rs h r hr).1)

/-- without the rule a resource is released again (the close notifier of seeded change C10-6) -/
theorem release_without_clearing_fires_again_witness :
    (releaseOnce (releaseOnce [⟨"CloseNotifier", true, false⟩, ⟨"Sys", true, true⟩]).1).2 = ["CloseNotifier"] := by
  decide +kernel

/-- non-vacuity: the instance as instantiated (all four resources present, all branches clearing) releases each once -/
example : releaseRuns 3 [⟨"CloseNotifier", true, true⟩, ⟨"Sys", true, true⟩, ⟨"expBuffer", true, true⟩, ⟨"CodeCloser", true, true⟩]
    = [["CloseNotifier", "Sys", "expBuffer", "CodeCloser"], [], []] := by decide +kernel

/-- the rule on the source, regenerated: every `X != nil` branch of `ensureResourcesClosed` that releases something
sets that field to nil (`mem != nil` only guards the nested test of the memory's buffer) -/
theorem release_clears_every_resource_it_releases :
    Wz.Gen.Shapes.get "c10.release_clears" =
      some "closeNotifier != nil => m.CloseNotifier ;; sysCtx != nil => m.Sys ;; mem != nil => - ;; mem.expBuffer != nil => mem.expBuffer ;; m.CodeCloser != nil => m.CodeCloser" := by
  shape_lookup

end Wz.C10
