/-
C05 (and C01), compiler amd64 back end: the per-function constant pool.

`machine.getOrAllocateConstLabel(&m.<indexField>, data)` (isa/amd64/machine.go) returns the label cached in the
index field when there is one - ignoring `data` - and otherwise allocates a label for `data` and caches it.
Every instruction lowered in the same function shares the machine, hence the cache.
-/
namespace Wz.Model.ConstPool

/-- index field ↦ the data whose label it caches -/
abbrev Pool := List (String × String)

def getOrAlloc (p : Pool) (idx data : String) : Pool × String :=
  match p.lookup idx with
  | some d => (p, d)
  | none => ((idx, data) :: p, data)

/-- the constants that a sequence of uses (index field, data it asks for) actually gets, in one function -/
def runUses : Pool → List (String × String) → List String
  | _, [] => []
  | p, (i, d) :: us => (getOrAlloc p i d).2 :: runUses (getOrAlloc p i d).1 us

/-- no index field is used with two different data variables -/
def Functional (us : List (String × String)) : Prop :=
  ∀ a ∈ us, ∀ b ∈ us, a.1 = b.1 → a.2 = b.2

theorem Functional.mono {l l' : List (String × String)} (h : Functional l) (hs : ∀ x ∈ l', x ∈ l) : Functional l' :=
  fun a ha b hb => h a (hs a ha) b (hs b hb)

/-- The pool is the record of the uses that came first: if they and the uses to come pair no index field with two
constants, every use to come gets the constant it asks for. -/
theorem runUses_inv (p : Pool) (us : List (String × String)) (hf : Functional (p ++ us)) :
    runUses p us = us.map (·.2) := by
  induction us generalizing p with
  | nil => rfl
  | cons u us ih =>
    obtain ⟨i, d⟩ := u
    simp only [runUses, List.map_cons, getOrAlloc]
    cases hl : p.lookup i with
    | some d' =>
      have hm : (i, d') ∈ p := by
        obtain ⟨l₁, l₂, rfl, -⟩ := List.lookup_eq_some_iff.mp hl
        simp
      have hd : d = d' := hf (i, d) (by simp) (i, d') (List.mem_append_left _ hm) rfl
      simp only [hd]
      exact congrArg _ (ih _ (hf.mono fun x hx => by simp only [List.mem_append, List.mem_cons] at hx ⊢; rcases hx with h | h <;> simp [h]))
    | none =>
      exact congrArg _ (ih _ (hf.mono fun x hx => by
        simp only [List.cons_append, List.mem_append, List.mem_cons] at hx ⊢; rcases hx with h | h | h <;> simp [h]))

/-- If no index field is paired with two data variables, every use gets exactly the constant it asks for,
whatever else is lowered in the same function and in whatever order. -/
theorem each_use_gets_its_constant (us : List (String × String)) (hf : Functional us) :
    runUses [] us = us.map (·.2) :=
  runUses_inv [] us hf

end Wz.Model.ConstPool
