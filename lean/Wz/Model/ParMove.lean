/-
C01, compiler back end: block arguments are a PARALLEL assignment.

`compiler.lowerBlockArguments` (backend/compiler_lower.go) turns `Jump blk, a0, a1, …` into moves
`param_i := a_i`.  It emits them one after the other when no destination register is also a source register
of any edge ("separated"), and goes through fresh temporaries otherwise.
-/
namespace Wz.Model.ParMove

abbrev Env := Nat → Nat

def upd (ρ : Env) (k v : Nat) : Env := fun x => if x = k then v else ρ x

/-- the moves as emitted in the separated case: one after the other, each reading the CURRENT registers -/
def seqMoves : List (Nat × Nat) → Env → Env
  | [], ρ => ρ
  | (s, d) :: es, ρ => seqMoves es (upd ρ d (ρ s))

/-- the meaning of the jump: every destination receives the value its source had BEFORE the jump -/
def parMoves (es : List (Nat × Nat)) (ρ : Env) : Env := fun r =>
  match es.find? (fun e => e.2 == r) with
  | some e => ρ e.1
  | none => ρ r

/-- the test of `lowerBlockArguments`: no destination is the source of ANY edge (earlier or later) -/
def separated (es : List (Nat × Nat)) : Bool :=
  es.all (fun e => !(es.any (fun e' => e'.1 == e.2)))

/-- destinations are the target block's parameters: pairwise distinct registers -/
def distinctDsts : List (Nat × Nat) → Prop
  | [] => True
  | e :: es => (∀ e' ∈ es, e'.2 ≠ e.2) ∧ distinctDsts es

/-- what emitting the moves one after the other needs: a later edge neither reads nor writes the destination of an
earlier one -/
def Ordered (es : List (Nat × Nat)) : Prop := es.Pairwise fun e e' => e'.1 ≠ e.2 ∧ e'.2 ≠ e.2

theorem parMoves_of_not_dst (es : List (Nat × Nat)) (ρ : Env) (r : Nat) (h : ∀ e ∈ es, e.2 ≠ r) :
    parMoves es ρ r = ρ r := by
  have : es.find? (fun e => e.2 == r) = none := List.find?_eq_none.mpr fun e he => by simpa using h e he
  simp only [parMoves, this]

theorem seq_eq_par_of_ordered (es : List (Nat × Nat)) (ρ : Env) (h : Ordered es) :
    seqMoves es ρ = parMoves es ρ := by
  induction es generalizing ρ with
  | nil => rfl
  | cons e es ih =>
    obtain ⟨s, d⟩ := e
    obtain ⟨hd, ht⟩ := List.pairwise_cons.mp h
    simp only [seqMoves]
    rw [ih _ ht]
    funext r
    by_cases hr : d = r
    · subst hr
      rw [parMoves_of_not_dst es _ d fun e he => (hd e he).2]
      simp [parMoves, upd]
    · simp only [parMoves, List.find?_cons, beq_false_of_ne hr]
      cases hf : es.find? (fun e => e.2 == r) with
      | none => simp [upd, Ne.symm hr]
      | some e' => simp [upd, (hd e' (List.mem_of_find?_eq_some hf)).1]

theorem ordered_of_separated (es : List (Nat × Nat)) (hs : separated es = true) (hd : distinctDsts es) : Ordered es := by
  simp only [separated, List.all_eq_true, Bool.not_eq_true', List.any_eq_false, beq_iff_eq] at hs
  induction es with
  | nil => exact .nil
  | cons e es ih =>
    refine List.pairwise_cons.mpr ⟨fun e' he' => ⟨hs e (List.mem_cons_self ..) e' (List.mem_cons_of_mem _ he'), hd.1 e' he'⟩,
      ih hd.2 fun a ha b hb => hs a (List.mem_cons_of_mem _ ha) b (List.mem_cons_of_mem _ hb)⟩

end Wz.Model.ParMove
