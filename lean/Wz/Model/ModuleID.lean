/-
C12, part 2: module identity (`(*wasm.Module).AssignModuleID`, internal/wasm/module.go), the file-cache key
(`fileCacheKey`, internal/engine/wazevo/engine_cache.go) and the record of everything that reaches the
two compilers.

The *shape* facts (what is hashed, in which order and form; which arguments reach DecodeModule,
AssignModuleID, Engine.CompileModule, the wazevo front end and the interpreter's compiler) are
regenerated from /repo into `Wz.Gen.ModuleID` by translate/facts/c12_moduleid; the hand-written
definitions below are written for exactly the shapes `expected…`, and `Wz.C12.id_shape` /
`Wz.C12.codegen_inputs_shape` (the regenerated lists compared with the written-out ones) tie them to the tree.

SHA-256 is an uninterpreted parameter `H`, assumed injective where a theorem needs it.
-/
import Wz.Gen.ModuleID

namespace Wz.Model.ModuleID

/-- One compile request: the binary, what the compile context carries, and the runtime settings that
are read by `runtime.CompileModule`. Listener objects are identified by a number (`none` = the factory
returned nil for this function); `listeners = none` = no factory in the context. -/
structure Req where
  bin : List Nat
  listeners : Option (List (Option Nat))
  term : Bool            -- r.ensureTermination   (WithCloseOnContextDone)
  memLimit : Nat         -- r.memoryLimitPages    (semantic; not part of identity)
  capFromMax : Bool      -- r.memoryCapacityFromMax
  debugInfo : Bool       -- !r.dwarfDisabled      (WithDebugInfoEnabled)
  customSections : Bool  -- r.storeCustomSections (WithCustomSections)
  hasDwarf : Bool        -- the binary carries parsable DWARF sections (a function of `bin`)
deriving Repr, DecidableEq

/-- the `listeners` slice handed to AssignModuleID / Engine.CompileModule (nil without a factory) -/
def Req.lst (r : Req) : List (Option Nat) := r.listeners.getD []

/-- per-function listener presence (`l != nil`) -/
def Req.presence (r : Req) : List Bool := r.lst.map Option.isSome

def le32 (i : Nat) : List Nat := [i % 256, i / 256 % 256, i / 65536 % 256, i / 16777216 % 256]
def b2n (b : Bool) : Nat := if b then 1 else 0

/-- the per-function records: index (32-bit LE) then the presence byte -/
def encL : Nat → List Bool → List Nat
  | _, [] => []
  | i, p :: ps => le32 i ++ [b2n p] ++ encL (i + 1) ps

/-- The shape of `AssignModuleID` this model is written for. -/
def expectedIdHashed : List String :=
  ["wasm:raw", "[each listeners", "listeners:index", "listeners:nonnil", "]", "withEnsureTermination:bool"]
def expectedIdCallArgs : List String := ["binary", "listeners", "r.ensureTermination"]
def expectedFileKeyHashed : List String := ["m.ID[:]", "magic", "platform.CpuFeatures.Raw()"]

/-- The byte string fed to SHA-256 by `AssignModuleID`. -/
def preimage (r : Req) : List Nat := r.bin ++ (encL 0 r.presence ++ [b2n r.term])

/-- `Module.ID`. -/
def moduleID (H : List Nat → Nat) (r : Req) : Nat := H (preimage r)

def magic : List Nat := [87, 65, 90, 69, 86, 79]  -- "WAZEVO"

/-- wazevo's `fileCacheKey`: SHA-256 (ID ‖ magic ‖ CPU feature word). The 32 ID bytes are abstracted to
one list element (the ID as a number). -/
def fileKey (H : List Nat → Nat) (cpu : Nat) (r : Req) : Nat := H (moduleID H r :: (magic ++ [cpu]))

/-- Everything that reaches the two compilers (`CodegenInputs`): the decoded module (binary + the decode
options), the termination flag, the listener-derived booleans, the source-info flag. -/
structure CodegenInputs where
  bin : List Nat
  term : Bool
  withListener : Bool          -- len(listeners) > 0
  needListener : List Bool     -- per function: listeners[i] != nil
  needSourceInfo : Bool        -- module.DWARFLines != nil  (debug info enabled ∧ binary has DWARF)
  memLimit : Nat               -- via module.MemorySection (sizer)
  capFromMax : Bool            -- via module.MemorySection.Cap
  customSections : Bool        -- via module.CustomSections
deriving Repr, DecidableEq

def expectedEngineCallArgs : List String := ["ctx", "internal", "listeners", "r.ensureTermination"]
def expectedDecodeCallArgs : List String :=
  ["binary", "r.enabledFeatures", "r.memoryLimitPages", "r.memoryCapacityFromMax", "!r.dwarfDisabled", "r.storeCustomSections"]
def expectedFrontendArgs : List String :=
  ["module", "ssaBuilder", "&cm.offsets", "ensureTermination", "withListener", "needSourceInfo"]
def expectedLocalFuncArgs : List String := ["ctx", "module", "wasm.Index(i)", "fe", "ssaBuilder", "be", "needListener"]
def expectedDerivedInputs : List String :=
  ["needListener := len(listeners) > 0 && listeners[i] != nil", "needSourceInfo := module.DWARFLines != nil",
   "withListener := len(listeners) > 0"]
def expectedInterpCompilerArgs : List String := ["e.enabledFeatures", "callFrameStackSize", "module", "ensureTermination"]

def codegenInputs (r : Req) : CodegenInputs :=
  { bin := r.bin, term := r.term, withListener := !r.lst.isEmpty, needListener := r.presence,
    needSourceInfo := r.debugInfo && r.hasDwarf, memLimit := r.memLimit, capFromMax := r.capFromMax,
    customSections := r.customSections }

/-- The inputs on which the *semantics* of the generated code may depend: the binary, per-function
listener presence and the termination flag. `needSourceInfo` only adds source-offset side tables,
memory sizing lives in the instance (both engines call `MemoryInstance.Grow`), custom sections are
not read by the compilers — these three are the modelling assumption of this part, checked
behaviourally by the option-lattice run, not proved. -/
def codegenRelevant (r : Req) : List Nat × List Bool × Bool := (r.bin, r.presence, r.term)

/-- canonical rendering of a key class for the oracle -/
def keyClass (r : Req) : String :=
  let ps := String.ofList (r.presence.map (fun b => if b then '1' else '0'))
  s!"p[{ps}]t{b2n r.term}"

end Wz.Model.ModuleID
