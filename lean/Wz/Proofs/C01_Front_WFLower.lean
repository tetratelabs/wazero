/-
C01 (front end): what the entry of a function guarantees statically (`entry_static`): the values are numbered in the
order of their definitions, every operand is defined before its use.  The body behind it is walked in `C01_FrontMem_WF`
(`static_bodyM`), for the fragment with memory accesses, of which this fragment is an instance (`lower_static` in
`C01_Front_WFMem`).
-/
import Wz.Proofs.C01_Front_Static
import Wz.Proofs.C01_Front_Entry

namespace Wz.Proofs.Front
open Wz.Model.SsaPass Wz.Model.FrontendSL

theorem declLocals_static : ∀ (ls : List Ty) (n : Nat) (z : Zeros) (D : List (Val × Ty)),
    D.map (·.1) = List.range n → (∀ t v, z.get t = some v → (v, t) ∈ D) →
    Scoped D (declLocals ls n z).1 ∧
    (D ++ (declLocals ls n z).1.flatMap (·.typedResults)).map (·.1) = List.range (declLocals ls n z).2.1 ∧
    (∀ t v, (declLocals ls n z).2.2.get t = some v → (v, t) ∈ D ++ (declLocals ls n z).1.flatMap (·.typedResults)) := by
  intro ls
  induction ls with
  | nil =>
    intro n z D hD hz
    refine ⟨trivial, ?_, ?_⟩ <;>
      rw [show declLocals [] n z = ([], n, z) from rfl, List.flatMap_nil, List.append_nil]
    · exact hD
    · exact hz
  | cons t ts ih =>
    intro n z D hD hz
    cases hzt : z.get t with
    | some v0 => rw [declLocals_cons_some hzt]; exact ih n z D hD hz
    | none =>
      have hz' : ∀ t' v, (z.set t n).get t' = some v → (v, t') ∈ D ++ [(n, t)] := by
        intro t' v hv
        rw [Zeros.get_set] at hv
        split at hv
        · cases hv; subst t'; exact List.mem_append_right _ (List.mem_singleton.mpr rfl)
        · exact List.mem_append_left _ (hz t' v hv)
      obtain ⟨h2, h3, h4⟩ := ih (n + 1) (z.set t n) (D ++ [(n, t)])
        (by rw [List.map_append, hD, List.range_succ]; rfl) hz'
      rw [List.append_assoc] at h3 h4
      rw [declLocals_cons_none hzt]
      exact ⟨⟨nofun, trivial, h2⟩, h3, h4⟩

theorem entryParams_dom (f : Fn) : (entryParams f).map (·.1) = List.range (f.params.length + 2) := by
  rw [entryParams_eq, List.map_cons, List.map_cons, paramVals_fst, List.range_eq_range',
    show f.params.length + 2 = (f.params.length + 1) + 1 from rfl, List.range'_succ, List.range'_succ]

theorem entry_static (f : Fn) :
    Scoped (entryParams f) (initLS f).1 ∧
    SInv (f.params ++ f.locals) (entryParams f ++ (initLS f).1.flatMap (·.typedResults)) (initLS f).2 [] := by
  obtain ⟨hd2, hd3, hd4⟩ := declLocals_static f.locals (f.params.length + 2) {} (entryParams f)
    (entryParams_dom f) (fun t v h => by cases t <;> cases h)
  refine ⟨hd2, hd3, nofun, fun p hp => ?_, rfl, ?_⟩
  · rcases List.mem_append.mp (show p ∈ (entryParams f).drop 2 ++ _ from hp) with hp | hp
    · exact List.mem_append_left _ (List.mem_of_mem_drop hp)
    · obtain ⟨t, ht, rfl⟩ := List.mem_map.mp hp
      obtain ⟨v, hv, -⟩ := declLocals_zero f.locals (f.params.length + 2) ht
      rw [hv]; exact hd4 t v hv
  · show (((entryParams f).drop 2 ++ _).map _) = _
    rw [entryParams_eq, List.map_append, List.map_map]
    exact congr (congrArg _ (paramVals_snd ..)) (List.map_id'' (fun _ => rfl) _)

end Wz.Proofs.Front
