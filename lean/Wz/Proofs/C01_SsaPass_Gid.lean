import Wz.Proofs.C01_SsaPass_Basic

/-! The instruction group ids assigned by `passDeadCodeEliminationOpt` (`gidsFrom`). -/
namespace Wz.Model.SsaPass

theorem gidsFrom_ge (tbl : Opcode → Eff) : ∀ (is : List Instr) (g : Nat), ∀ h ∈ gidsFrom tbl g is, g ≤ h := by
  intro is
  induction is with
  | nil => intro g h hh; cases hh
  | cons i is ih =>
    intro g h hh
    simp only [gidsFrom] at hh
    cases hh with
    | head => exact Nat.le_refl _
    | tail _ hh =>
      have := ih _ h hh
      split at this <;> omega

theorem gidsFrom_length (tbl : Opcode → Eff) (is : List Instr) (g : Nat) : (gidsFrom tbl g is).length = is.length := by
  induction is generalizing g with
  | nil => rfl
  | cons i is ih => simp [gidsFrom, ih]

/-- the order between an instruction and a later one: the group does not decrease, and it increases when the
earlier instruction is `sideEffectStrict` -/
def GidOrder (tbl : Opcode → Eff) (a b : Instr × Nat) : Prop :=
  a.2 ≤ b.2 ∧ (tbl a.1.opcode = .strict → a.2 < b.2)

theorem gidsFrom_pairwise (tbl : Opcode → Eff) (is : List Instr) (g : Nat) :
    (is.zip (gidsFrom tbl g is)).Pairwise (GidOrder tbl) := by
  induction is generalizing g with
  | nil => simp [gidsFrom]
  | cons i is ih =>
    simp only [gidsFrom, List.zip_cons_cons, List.pairwise_cons]
    refine ⟨fun p hp => ?_, ih _⟩
    have hmem : p.2 ∈ gidsFrom tbl (if tbl i.opcode = .strict then g + 1 else g) is := (List.of_mem_zip hp).2
    have := gidsFrom_ge tbl is _ p.2 hmem
    constructor
    · show g ≤ p.2
      split at this <;> omega
    · intro hs
      show g < p.2
      simp only [hs, if_true] at this
      omega

/-- in a list ordered by `GidOrder`, two entries with the same group id have no `sideEffectStrict` instruction
between them, and the earlier one is not `sideEffectStrict` itself -/
theorem no_strict_between_of_pairwise (tbl : Opcode → Eff) {l1 l2 l3 : List (Instr × Nat)} {a b : Instr × Nat}
    (hp : (l1 ++ a :: l2 ++ b :: l3).Pairwise (GidOrder tbl)) (hg : a.2 = b.2) :
    tbl a.1.opcode ≠ .strict ∧ ∀ k ∈ l2, tbl k.1.opcode ≠ .strict := by
  have hp2 : (a :: (l2 ++ b :: l3)).Pairwise (GidOrder tbl) := by
    have : l1 ++ a :: l2 ++ b :: l3 = l1 ++ (a :: (l2 ++ b :: l3)) := by simp
    rw [this] at hp
    exact (List.pairwise_append.mp hp).2.1
  rw [List.pairwise_cons] at hp2
  obtain ⟨ha, hrest⟩ := hp2
  constructor
  · intro hs
    have := (ha b (by simp)).2 hs
    omega
  · intro k hk hs
    have h1 := (ha k (List.mem_append_left _ hk)).1
    have h2 : k.2 < b.2 := by
      have := (List.pairwise_append.mp hrest).2.2 k hk b (List.mem_cons_self ..)
      exact this.2 hs
    omega

theorem gidsFrom_append (tbl : Opcode → Eff) (l1 l2 : List Instr) (g : Nat) :
    gidsFrom tbl g (l1 ++ l2) =
      gidsFrom tbl g l1 ++ gidsFrom tbl (g + (l1.filter (fun i => tbl i.opcode = .strict)).length) l2 := by
  induction l1 generalizing g with
  | nil => simp [gidsFrom]
  | cons i is ih =>
    simp only [List.cons_append, gidsFrom, ih, List.filter_cons]
    by_cases hs : tbl i.opcode = .strict
    · simp [hs]; rw [Nat.add_right_comm, Nat.add_assoc]
    · simp [hs]

/-- the per-block numbering of `dceWithGids` is the numbering of the concatenated instructions -/
theorem gidsBlocks_flatten (tbl : Opcode → Eff) (Bs : List Block) (g : Nat) :
    (gidsBlocks tbl g Bs).flatten = gidsFrom tbl g (Bs.flatMap (·.instrs)) := by
  induction Bs generalizing g with
  | nil => simp [gidsBlocks, gidsFrom]
  | cons B Bs ih =>
    simp only [gidsBlocks, List.flatten_cons, List.flatMap_cons, gidsFrom_append, ih]

/-- the per-block pairs of `dceWithGids`, concatenated, are a selection of the numbering of all instructions -/
theorem zip_gidsBlocks_flatMap {β} (tbl : Opcode → Eff) (F : List (Instr × Nat) → List β) (hF0 : F [] = [])
    (hF : ∀ l1 l2, F (l1 ++ l2) = F l1 ++ F l2) (Bs : List Block) (g : Nat) :
    (Bs.zip (gidsBlocks tbl g Bs)).flatMap (fun p => F (p.1.instrs.zip p.2)) =
      F ((Bs.flatMap (·.instrs)).zip (gidsFrom tbl g (Bs.flatMap (·.instrs)))) := by
  induction Bs generalizing g with
  | nil => simp [gidsBlocks, gidsFrom, hF0]
  | cons B Bs ih =>
    simp only [gidsBlocks, List.zip_cons_cons, List.flatMap_cons, gidsFrom_append]
    rw [List.zip_append (by rw [gidsFrom_length]), hF, ih]

theorem dceWithGids_pairwise (f : Func) :
    ((dceWithGids f).flatMap (·.2)).Pairwise (GidOrder sideEffect) := by
  have hflat : (dceWithGids f).flatMap (·.2) =
      (((f.validBlocks.flatMap (·.instrs)).zip (gidsFrom sideEffect 0 (f.validBlocks.flatMap (·.instrs)))).filter
          (fun p => keepOf sideEffect (liveSet sideEffect f) p.1)).map
        (fun p => (p.1.mapOperands (res f.alias), p.2)) := by
    simp only [dceWithGids, List.flatMap_map]
    exact zip_gidsBlocks_flatMap sideEffect
      (fun l => (l.filter (fun p => keepOf sideEffect (liveSet sideEffect f) p.1)).map
        (fun p => (p.1.mapOperands (res f.alias), p.2)))
      rfl (fun l1 l2 => by simp) f.validBlocks 0
  rw [hflat]
  apply List.Pairwise.map _ _ ((gidsFrom_pairwise sideEffect _ 0).filter _)
  intro a b hab
  simp only [GidOrder, mapOperands_opcode] at hab ⊢
  exact hab

end Wz.Model.SsaPass
