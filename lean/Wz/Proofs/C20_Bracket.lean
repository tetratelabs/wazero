/-
C20 helper lemmas: the bracket checker over appends, the unwinding, and the main induction over call forests.
-/
import Wz.Proofs.C20_Run

namespace Wz.C20
open Wz.Model.Listener

/-- The side conditions under which an engine variant brackets its events on a forest
(`d` = frames already on the call engine's stack):
* no tail call is performed in place / as a jump,
* a stack overflow is either absent or panics without a `Before` for the overflowing call,
* with an abort cap `c`, no call chain inside one call engine exceeds `c` frames. -/
def good (E : Engine) (C : Cfg) : Nat → Forest → Bool
  | _, .done => true
  | d, .call tail f _ body out next =>
    !(tail && (E.tailInPlace || E.tailJump))
    && (out != .fail .overflow || (E.overflowPanics && !E.beforeAtOverflow))
    && (match E.abortCap with | none => true | some c => decide (d + 1 ≤ c))
    && good E C (if C.host f then 0 else d + 1) body
    && good E C d next

theorem checkB_append (a b : List Event) : ∀ o, checkB o (a ++ b) = (checkB o a).bind (fun o' => checkB o' b) := by
  induction a with
  | nil => intro o; rfl
  | cons e a ih =>
    intro o
    cases e with
    | before f x s => exact ih _
    | after f v | abort f k =>
      rcases o with _ | ⟨g, o'⟩
      · rfl
      · simp only [List.cons_append, checkB]
        split
        · exact ih _
        · rfl

theorem checkB_aborts (k : FailKind) (l o : List Nat) :
    checkB (l ++ o) (l.map (fun f => Event.abort f k)) = some o := by
  induction l with
  | nil => rfl
  | cons g l ih => simpa only [List.map_cons, List.cons_append, checkB, if_true] using ih

theorem good_endsWithTail (E : Engine) (C : Cfg) (hj : E.tailJump = true) :
    ∀ fr d, good E C d fr = true → endsWithTail fr = false := by
  intro fr
  induction fr with
  | done => intro d _; rfl
  | call tail f args body out next _ ihn =>
    intro d h
    simp only [good, hj, Bool.or_true, Bool.and_true, Bool.and_eq_true, Bool.not_eq_true'] at h
    obtain ⟨⟨⟨⟨ht, _⟩, _⟩, _⟩, hn⟩ := h
    cases next with
    | done => exact ht
    | call t2 f2 a2 b2 o2 n2 => exact ihn d hn

/-- A failure `fl` on its way up inside a call engine, after the events `evs`; `st` was the engine's call chain and `o`
the open calls when `evs` began.  It reaches `recover` as a panic, it unwinds `st` and the frames pushed since, all
within the cap, and of the calls opened since exactly those frames (with a listener) are still open. -/
def Pending (E : Engine) (C : Cfg) (st o : List Nat) (evs : List Event) (fl : Fail) : Prop :=
  fl.panicked = true ∧ (∀ c, E.abortCap = some c → fl.frames.length ≤ c) ∧
    ∃ pre, fl.frames = pre ++ st ∧ checkB o evs = some (pre.filter C.lsn ++ o)

/-- What `run_post` proves of a run `r` that began with the call chain `st` on its call engine and the calls `o` open:
if it returns, or was made through the API (where a failure is unwound on the spot), its events are bracketed and
leave `o` open as before; a failure that leaves it inside a call engine is `Pending`. -/
def Post (E : Engine) (C : Cfg) (api : Bool) (st o : List Nat) (r : List Event × Option Fail) : Prop :=
  match r.2 with
  | none => checkB o r.1 = some o
  | some fl => if api then checkB o r.1 = some o else Pending E C st o r.1 fl

theorem Post.closed {E : Engine} {C : Cfg} {st o : List Nat} {r : List Event × Option Fail}
    (h : Post E C true st o r) : checkB o r.1 = some o := by
  unfold Post at h
  split at h <;> exact h

/-- within the cap every frame with a listener gets its `Abort`, innermost first -/
theorem Pending.close {E : Engine} {C : Cfg} {o : List Nat} {evs : List Event} {fl : Fail}
    (h : Pending E C [] o evs fl) : checkB o (evs ++ aborts E C fl) = some o := by
  obtain ⟨hp, hc, pre, hf, hck⟩ := h
  rw [List.append_nil] at hf
  have hab : aborts E C fl = (fl.frames.filter C.lsn).map (fun f => Event.abort f fl.kind) := by
    rw [aborts, if_pos hp]
    cases hcap : E.abortCap with
    | none => rfl
    | some c => simp only [List.take_of_length_le (hc c hcap)]
  rw [checkB_append, hck, hab, hf]
  exact checkB_aborts ..

variable {E : Engine} {C : Cfg} {f : Nat} {st o : List Nat}

theorem checkB_told_before (C : Cfg) (f : Nat) (args s o : List Nat) (evs : List Event) :
    checkB o (told C f true (.before f args s) ++ evs) = checkB ([f].filter C.lsn ++ o) evs := by
  cases h : C.lsn f <;> simp [told, checkB, h]

theorem checkB_told_after (C : Cfg) (f : Nat) (vals o : List Nat) :
    checkB ([f].filter C.lsn ++ o) (told C f true (.after f vals)) = some o := by
  cases h : C.lsn f <;> simp [told, checkB, h]

theorem node_post {host : Bool} {args s : List Nat} {out : Outcome} {rb : List Event × Option Fail}
    (hlen : ∀ c, E.abortCap = some c → (f :: st).length ≤ c)
    (hb : Post E C host (f :: st) ([f].filter C.lsn ++ o) rb) :
    Post E C false st o (node host (f :: st) (told C f true (.before f args s))
      (fun vals => told C f true (.after f vals)) out rb) := by
  have raise : ∀ k, checkB ([f].filter C.lsn ++ o) rb.1 = some ([f].filter C.lsn ++ o) →
      Pending E C st o (told C f true (.before f args s) ++ rb.1) ⟨k, true, f :: st⟩ :=
    fun k h => ⟨rfl, hlen, [f], rfl, (checkB_told_before ..).trans h⟩
  rcases rb with ⟨evs, _ | fl⟩
  · cases out with
    | ret vals =>
      show checkB o (_ ++ evs ++ _) = some o
      rw [checkB_append, checkB_told_before, show checkB _ evs = _ from hb]
      exact checkB_told_after ..
    | fail k => exact raise k hb
  · cases host with
    | true => cases out <;> exact raise _ hb
    | false =>
      obtain ⟨hp, hc, pre, hf, hck⟩ : Pending E C (f :: st) _ evs fl := hb
      have : Pending E C st o (told C f true (.before f args s) ++ evs) fl :=
        ⟨hp, hc, pre ++ [f], by rw [hf, List.append_assoc]; rfl,
          by rw [checkB_told_before, hck, List.filter_append, List.append_assoc]⟩
      cases out <;> exact this

theorem thenNext_post {api : Bool} {st0 : List Nat} {nd rest : List Event × Option Fail}
    (hst : st = if api then [] else st0) (hnd : Post E C false st o nd) (hrest : Post E C api st0 o rest) :
    Post E C api st0 o (thenNext E C api nd rest) := by
  rcases nd with ⟨evs, _ | fl⟩
  · have : ∀ evs', checkB o (evs ++ evs') = checkB o evs' := fun _ => by
      rw [checkB_append, show checkB o evs = _ from hnd]; rfl
    rcases rest with ⟨evs', _ | fl'⟩
    · exact (this _).trans hrest
    · cases api
      · obtain ⟨hp, hc, pre, hf, hck⟩ : Pending E C st0 o evs' fl' := hrest
        exact ⟨hp, hc, pre, hf, (this _).trans hck⟩
      · exact (this _).trans hrest
  · cases api <;> subst hst
    · exact hnd
    · exact Pending.close hnd

/-- The first conjunct of `good`, in the two forms in which `run` tests for a tail call made in place (`ip`) or as a
jump (`tj`). -/
theorem tail_off : ∀ {tail ip tj : Bool}, (tail && (ip || tj)) = false →
    ∀ x, (ip && tail && x) = false ∧ (tj && tail && x) = false := by
  decide

theorem run_post (E : Engine) (C : Cfg) :
    ∀ fr api st0 o, good E C (if api then 0 else st0.length) fr = true → Post E C api st0 o (run E C api st0 fr) := by
  intro fr
  induction fr with
  | done => intro api st0 o _; rfl
  | call tail f args body out next ihb ihn =>
    intro api st0 o hg
    obtain ⟨st, hst⟩ : ∃ st, st = if api then [] else st0 := ⟨_, rfl⟩
    have hd : (if api then 0 else st0.length) = st.length := by subst hst; cases api <;> rfl
    simp only [good, Bool.and_eq_true, Bool.not_eq_true', Bool.or_eq_true, bne_iff_ne] at hg
    obtain ⟨⟨⟨⟨htl, hov⟩, hcap⟩, hgb⟩, hgn⟩ := hg
    rw [hd] at hcap hgb
    have hip : inPlace E C api tail f = false := by rw [inPlace, (tail_off htl _).1]; rfl
    have hst' : f :: st = f :: (if E.tailJump && tail && !api then st.tail else st) := by
      rw [(tail_off htl _).2]; rfl
    have hlen : ∀ c, E.abortCap = some c → (f :: st).length ≤ c := fun c hc => by
      simp only [hc, decide_eq_true_eq] at hcap
      exact hcap
    by_cases hovf : out = .fail .overflow
    · subst hovf
      rw [run_call_overflow hst hip hst']
      refine thenNext_post hst ?_ (ihn api st0 o hgn)
      obtain ⟨hop, hbo⟩ := hov.resolve_left (not_not_intro rfl)
      rw [hop, hbo, told_false]
      exact ⟨rfl, fun c hc => Nat.le_of_succ_le (hlen c hc), [], rfl, rfl⟩
    · rw [run_call_ordinary hst hip hovf hst']
      refine thenNext_post hst ?_ (ihn api st0 o hgn)
      have hew : (!(E.tailJump && !C.host f && endsWithTail body)) = true := by
        cases hj : E.tailJump
        · rfl
        · rw [good_endsWithTail E C hj body _ hgb, Bool.and_false]; rfl
      rw [hew]
      exact node_post hlen (ihb (C.host f) (f :: st) _ hgb)

end Wz.C20
