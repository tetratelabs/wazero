/-
C13 — proofs about the REPAIRED cache-entry reader (Wz.Model.CacheEntry.deserializeRFixed): round trip and
rejection of every strict prefix at full strength (all well-formed modules, no condition on the checksum of the
empty executable), and agreement with the as-is reader on modules with code.  The repaired reader is
`reader (body true crc)` of Wz.Proofs.C13_Entry.
Core Lean only (no Mathlib in this project).
-/
import Wz.Proofs.C13_Entry
import Wz.Model.CacheEntryFixed

namespace Wz.C13.Entry
open Wz.Model.CacheEntry

set_option smartUnfolding false in
theorem deserializeRFixed_eq (crc : Bytes → Nat) (magic ver e : Bytes) :
    deserializeRFixed crc magic ver e = reader (body true crc) magic ver e := rfl

theorem deserializeFixed_eq (crc : Bytes → Nat) (magic ver e : Bytes) :
    deserializeFixed crc magic ver e = toRes (reader (body true crc) magic ver e) := by
  rw [← deserializeRFixed_eq]; rfl

/-- `deser_ser` for the repaired reader: what was serialized is read back, for every well-formed module and
every checksum function -/
theorem deser_ser_fixed (crc : Bytes → Nat) (magic ver : Bytes) (cm : CM)
    (hwf : cm.WF) (hv : ver.length < 256) :
    deserializeFixed crc magic ver (serialize crc magic ver cm) = .ok cm := by
  have h := (reader_serialize true crc magic ver cm hwf hv nofun).full []
  rw [List.append_nil] at h
  rw [deserializeFixed_eq, h]
  rfl

/-- every strict prefix of ANY valid entry is refused with an error (not even `stale`) by the repaired reader -/
theorem truncation_rejected_fixed (crc : Bytes → Nat) (magic ver : Bytes) (cm : CM)
    (hwf : cm.WF) (hv : ver.length < 256) (k : Nat)
    (hk : k < (serialize crc magic ver cm).length) :
    ∃ m, deserializeFixed crc magic ver ((serialize crc magic ver cm).take k) = .err m := by
  rw [deserializeFixed_eq]
  exact toRes_of_isErr ((reader_serialize true crc magic ver cm hwf hv nofun).short k hk)

/-- an entry written by another version (of length < 256) is stale, or — when it is shorter than this
version's header — an error; never `ok` (the repair does not touch the header tests) -/
theorem other_version_stale_fixed (crc : Bytes → Nat) (magic ver ver' : Bytes) (cm : CM)
    (hne : ver ≠ ver') (hv' : ver'.length < 256) :
    deserializeFixed crc magic ver (serialize crc magic ver' cm) = .stale ∨
    deserializeFixed crc magic ver (serialize crc magic ver' cm) = .err "invalid header length" := by
  rw [deserializeFixed_eq]
  exact (reader_other_version _ crc magic ver ver' cm hne hv').imp (congrArg toRes) (congrArg toRes)

theorem deserSrcMap_exec {offs : List Nat} {exec r : Bytes} {cm : CM} {rest : Bytes}
    (h : deserSrcMap offs exec r = .ok cm rest) : cm.exec = exec := by
  cases r with
  | nil => cases h
  | cons flag r1 =>
    rw [deserSrcMap_cons] at h
    split at h
    · obtain ⟨n, r2, _, h⟩ := readThen_eq_ok h
      split at h
      · cases h
      · obtain ⟨sm, r3, _, h⟩ := readThen_eq_ok h
        cases h; rfl
    · cases h; rfl

theorem execPart_exec {crc : Bytes → Nat} {offs : List Nat} {el : Nat} {r : Bytes} {cm : CM} {rest : Bytes}
    (h : execPart crc offs el r = .ok cm rest) : cm.exec.length = el := by
  obtain ⟨exec, r3, h3, h⟩ := readThen_eq_ok h
  obtain ⟨c, r4, _, h⟩ := readThen_eq_ok h
  split at h
  · cases h
  · rw [deserSrcMap_exec h]
    unfold readFull at h3
    split at h3
    · cases h3
    · cases h3
      rw [List.length_take]
      omega

def Agrees (x y : R CM) : Prop :=
  ∀ cm rest, x = .ok cm rest → cm.exec ≠ [] → y = .ok cm rest

theorem Agrees.refl (x : R CM) : Agrees x x :=
  fun _ _ h _ => h

theorem Agrees.ite (c : Prop) [Decidable c] {x x' y y' : R CM} (hx : Agrees x x') (hy : Agrees y y') :
    Agrees (if c then x else y) (if c then x' else y') := by
  split
  · exact hx
  · exact hy

theorem Agrees.readThen {α : Type} (o : Option (α × Bytes)) (msg : String) {K K' : α → Bytes → R CM}
    (hK : ∀ a r, Agrees (K a r) (K' a r)) : Agrees (readThen o msg K) (readThen o msg K') := by
  cases o with
  | none => exact .refl _
  | some p => exact hK p.1 p.2

/-- the two readers part only after an executable length 0, where the repaired one yields no code -/
theorem reader_agrees (crc : Bytes → Nat) (magic ver e : Bytes) :
    Agrees (reader (body true crc) magic ver e) (reader (body false crc) magic ver e) :=
  .ite _ (.refl _) (.ite _ (.refl _) (.ite _ (.refl _) (.ite _ (.refl _) (.ite _ (.refl _)
    (.readThen _ _ fun offs _ => .readThen _ _ fun el r2 cm rest h hx => by
      have hel : el > 0 := execPart_exec h ▸ List.length_pos_iff.mpr hx
      exact (if_pos hel).trans h)))))

/-- on ANY file `e` (valid entry or not): whenever the repaired reader accepts `e` as a module with code, the
as-is reader accepts `e` as the same module -/
theorem fixed_agrees_with_code (crc : Bytes → Nat) (magic ver e : Bytes) (cm : CM)
    (h : deserializeFixed crc magic ver e = .ok cm) (hx : cm.exec ≠ []) :
    deserialize crc magic ver e = .ok cm := by
  rw [deserializeFixed_eq] at h
  obtain ⟨rest, hr⟩ := toRes_eq_ok h
  rw [deserialize_eq, reader_agrees crc magic ver e cm rest hr hx]
  rfl

/-- the finding switch, spelled out -/
theorem deserializeSw_false (crc : Bytes → Nat) (magic ver e : Bytes) :
    deserializeSw false crc magic ver e = deserialize crc magic ver e := rfl

theorem deserializeSw_true (crc : Bytes → Nat) (magic ver e : Bytes) :
    deserializeSw true crc magic ver e = deserializeFixed crc magic ver e := rfl

/-- the witness of the finding (strict prefixes of the entry of a module without code are accepted by the as-is
reader) is refused by the repaired reader, and the full entry is accepted -/
theorem truncation_witness_fixed :
    deserializeFixed crc0 magic0 ver0
        ((serialize crc0 magic0 ver0 cm0).take ((serialize crc0 magic0 ver0 cm0).length - 1)) =
      .err "error reading source map presence" ∧
    deserializeFixed crc0 magic0 ver0
        ((serialize crc0 magic0 ver0 cm0).take ((serialize crc0 magic0 ver0 cm0).length - 4)) =
      .err "could not read checksum" ∧
    deserializeFixed crc0 magic0 ver0 (serialize crc0 magic0 ver0 cm0) = .ok cm0 := by
  decide +kernel

/-- test: full round trip of a concrete well-formed entry with code and source map -/
example : deserializeFixed crcSum magic0 ver0 (serialize crcSum magic0 ver0 cm1) = .ok cm1 := by
  decide +kernel

/-- test: the same through the general theorem (non-vacuity of its hypotheses) -/
example : deserializeFixed crcSum magic0 ver0 (serialize crcSum magic0 ver0 cm1) = .ok cm1 :=
  deser_ser_fixed crcSum magic0 ver0 cm1 cm1_wf (by decide)

end Wz.C13.Entry
