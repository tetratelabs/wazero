/-
C20 helper: every `Before` / `After` event of a run is about a node of the call forest (function + arguments,
function + returned values), for every engine variant. Used by `Wz.C20.events_carry_actual_params_results`.
-/
import Wz.Proofs.C20_Run
namespace Wz.C20
open Wz.Model.Listener

/-- All calls of a forest (every node, executed or not) as (function, arguments). -/
def calls : Forest → List (Nat × List Nat)
  | .done => []
  | .call _ f args body _ next => (f, args) :: (calls body ++ calls next)

/-- All (function, outcome) pairs of a forest. -/
def outs : Forest → List (Nat × Outcome)
  | .done => []
  | .call _ f _ body out next => (f, out) :: (outs body ++ outs next)

/-- An event is about a node of the forest: a `Before` carries the function and the arguments of a call node,
an `After` the function and the returned values of a node that returns. -/
def IsEventOf (E : Engine) (fr : Forest) : Event → Prop
  | .before f a s => (f, a) ∈ calls fr ∧ (E.stackCap ≠ some 0 → s.head? = some f)
  | .after f v => (f, Outcome.ret v) ∈ outs fr
  | .abort _ _ => True

variable {E : Engine} {tail : Bool} {f : Nat} {args : List Nat} {body next : Forest} {out : Outcome}

theorem IsEventOf.of_body : ∀ {e}, IsEventOf E body e → IsEventOf E (.call tail f args body out next) e
  | .before .., h => ⟨.tail _ (List.mem_append_left _ h.1), h.2⟩
  | .after .., h => .tail _ (List.mem_append_left _ h)
  | .abort .., _ => trivial

theorem IsEventOf.of_next : ∀ {e}, IsEventOf E next e → IsEventOf E (.call tail f args body out next) e
  | .before .., h => ⟨.tail _ (List.mem_append_right _ h.1), h.2⟩
  | .after .., h => .tail _ (List.mem_append_right _ h)
  | .abort .., _ => trivial

theorem mem_aborts {E : Engine} {C : Cfg} {fl : Fail} {e : Event} (h : e ∈ aborts E C fl) :
    ∃ g, e = .abort g fl.kind := by
  unfold aborts at h
  split at h
  · obtain ⟨g, _, rfl⟩ := List.mem_map.mp h
    exact ⟨g, rfl⟩
  · nomatch h

theorem mem_node {host : Bool} {frames : List Nat} {b : List Event} {a : List Nat → List Event} {out : Outcome}
    {rb : List Event × Option Fail} {e : Event} (h : e ∈ (node host frames b a out rb).1) :
    e ∈ b ∨ e ∈ rb.1 ∨ ∃ vals, out = .ret vals ∧ e ∈ a vals := by
  rcases rb with ⟨evs, _ | fl⟩ <;> cases out <;> simp only [node, List.mem_append] at h
  · rcases h with (h | h) | h
    · exact .inl h
    · exact .inr (.inl h)
    · exact .inr (.inr ⟨_, rfl, h⟩)
  all_goals exact h.imp_right .inl

theorem mem_thenNext {E : Engine} {C : Cfg} {api : Bool} {nd rest : List Event × Option Fail} {e : Event}
    (h : e ∈ (thenNext E C api nd rest).1) : e ∈ nd.1 ∨ (∃ fl, e ∈ aborts E C fl) ∨ e ∈ rest.1 := by
  rcases nd with ⟨evs, _ | fl⟩ <;> cases api <;>
    simp only [thenNext, List.mem_append, if_true, Bool.false_eq_true, if_false] at h
  · exact h.imp_right .inr
  · exact h.imp_right .inr
  · exact .inl h
  · exact h.imp_right fun h => .inl ⟨fl, h⟩

theorem forall_mem_run_call {P : Event → Prop} {C : Cfg} {api : Bool} {st : List Nat}
    (hbefore : ∀ st', P (.before f args (snapshot E (f :: st'))))
    (hafter : ∀ vals, out = .ret vals → P (.after f vals))
    (habort : ∀ g k, P (.abort g k))
    (hbody : ∀ api' st', ∀ e ∈ (run E C api' st' body).1, P e)
    (hnext : ∀ e ∈ (run E C api st next).1, P e) :
    ∀ e ∈ (run E C api st (.call tail f args body out next)).1, P e := by
  intro e he
  have hseq : ∀ {nd}, e ∈ (thenNext E C api nd (run E C api st next)).1 → (e ∈ nd.1 → P e) → P e := fun h hnd => by
    rcases mem_thenNext h with h | ⟨fl, h⟩ | h
    · exact hnd h
    · obtain ⟨g, rfl⟩ := mem_aborts h
      exact habort ..
    · exact hnext e h
  cases h : inPlace E C api tail f with
  | true =>
    rw [run_call_inPlace rfl h] at he
    refine hseq he fun he => ?_
    rcases mem_node he with h | h | ⟨_, _, h⟩
    · nomatch h
    · exact hbody _ _ e h
    · nomatch h
  | false =>
    by_cases hov : out = .fail .overflow
    · subst hov
      rw [run_call_overflow rfl h rfl] at he
      exact hseq he fun h => mem_told h ▸ hbefore _
    · rw [run_call_ordinary rfl h hov rfl] at he
      refine hseq he fun he => ?_
      rcases mem_node he with h | h | ⟨vals, hout, h⟩
      · exact mem_told h ▸ hbefore _
      · exact hbody _ _ e h
      · exact mem_told h ▸ hafter vals hout

theorem snapshot_head (E : Engine) (f : Nat) (st : List Nat) (hc : E.stackCap ≠ some 0) :
    (snapshot E (f :: st)).head? = some f := by
  unfold snapshot
  cases hcap : E.stackCap with
  | none => rfl
  | some c =>
    cases c with
    | zero => exact absurd hcap hc
    | succ c => rfl

theorem run_isEventOf (E : Engine) (C : Cfg) (fr : Forest) :
    ∀ api st, ∀ e ∈ (run E C api st fr).1, IsEventOf E fr e := by
  induction fr with
  | done => intro api st e he; nomatch he
  | call tail f args body out next ihb ihn =>
    intro api st
    exact forall_mem_run_call (fun st' => ⟨.head _, snapshot_head E f st'⟩) (fun vals h => h ▸ .head _)
      (fun _ _ => trivial) (fun api' st' e h => (ihb api' st' e h).of_body) (fun e h => (ihn api st e h).of_next)

end Wz.C20
