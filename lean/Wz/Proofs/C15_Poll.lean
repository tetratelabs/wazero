/- Lemmas for C15: poll_oneoff — `writeEvent`, the subscription loop, the delayed events: no host bounds check fails
when the buffer sizes are exact, and every write lies in the event buffer or in the result cell. Core Lean only. -/
import Wz.Proofs.C15_Base

namespace Wz.C15
open Wz.Model Wz.Model.Wasi Wz.Gen.Wasi

theorem write_size (m : Mem) (a : Nat) (bs : List Nat) : (m.write a bs).size = m.size := rfl

theorem read_length (m : Mem) (a n : Nat) : (m.read a n).length = n := by simp [Mem.read]

theorem writeEvent_ok {m m' : Mem} {ws ws' : List Wr} {base len off ud e ty : Nat} {b : Bool}
    (hw : writeEvent m ws base len off ud e ty = (m', ws', b)) (h : off + 14 ≤ len) : b = true := by
  unfold writeEvent at hw
  have h1 : ¬ off > len := by omega
  have h2 : ¬ len - off ≤ 8 := by omega
  have h3 : ¬ len - off ≤ 9 := by omega
  have h4 : ¬ len - off < 14 := by omega
  simp only [h1, h2, h3, h4, if_false] at hw
  exact (congrArg (·.2.2) hw).symm

theorem writeEvent_ws {W : Wr → Prop} {base len : Nat}
    (hW : ∀ w : Wr, base ≤ w.off → w.off + w.len ≤ base + len → W w) {m m' : Mem} {ws ws' : List Wr}
    {off ud e ty : Nat} {b : Bool} (hws : ∀ w ∈ ws, W w) (hw : writeEvent m ws base len off ud e ty = (m', ws', b)) :
    ∀ w ∈ ws', W w := by
  let Q : Mem × List Wr × Bool → Prop := fun r => ∀ w ∈ r.2.1, W w
  show Q (m', ws', b)
  rw [← hw]
  unfold writeEvent
  refine ifElim Q (fun _ => hws) (fun h0 => ?_)
  dsimp only
  have put : ∀ (k : Nat) (bs : List Nat) {l : List Wr}, off + k + bs.length ≤ len → (∀ w ∈ l, W w) →
      ∀ w ∈ Wr.bytes (base + off + k) bs :: l, W w :=
    fun k bs _ hk hl => List.forall_mem_cons.2 ⟨hW _ (by show base ≤ base + off + k; omega)
      (by show base + off + k + bs.length ≤ base + len; omega), hl⟩
  have hud : ∀ w ∈ (if len - off = 0 then ws else Wr.bytes (base + off) ((m.read ud 8).take (min (len - off) 8)) :: ws),
      W w :=
    ifElim (fun l : List Wr => ∀ w ∈ l, W w) (fun _ => hws)
      (fun _ => put 0 _ (by rw [List.length_take, read_length]; omega) hws)
  refine ifElim Q (fun _ => hud) (fun h1 => ?_)
  have h8 := put 8 [e % 256] (by show off + 8 + 1 ≤ len; omega) hud
  refine ifElim Q (fun _ => h8) (fun h2 => ?_)
  have h9 := put 9 [0] (by show off + 9 + 1 ≤ len; omega) h8
  refine ifElim Q (fun _ => h9) (fun h3 => ?_)
  exact put 10 _ (by rw [bytesLE_length]; omega) h9

/-- One iteration of the subscription loop, analysed once: what is to be shown of the loop's result has to be shown
for the four things an iteration can do. -/
theorem pollLoop_step (fds : Fds) (inp inLen out outLen n fuel i : Nat) (s : PollSt) (Q : PollSt × Option Err → Prop)
    (leave : ∀ e, (e = some Err.panic → i < n ∧ ¬ (i * 48 + 48 ≤ inLen ∧ inLen < 4294967296)) → Q (s, e))
    (fail : i < n → ∀ ud errno ty m ws,
      writeEvent s.m s.ws out outLen (w32 (s.nevents * 32)) ud errno ty = (m, ws, false) →
      Q ({ s with m := m, ws := ws }, some Err.panic))
    (event : i < n → ∀ ud errno ty m ws,
      writeEvent s.m s.ws out outLen (w32 (s.nevents * 32)) ud errno ty = (m, ws, true) →
      Q (pollLoop fds inp inLen out outLen n fuel (i + 1) { s with m := m, ws := ws, nevents := s.nevents + 1 }))
    (delay : i < n → ∀ ud ty,
      Q (pollLoop fds inp inLen out outLen n fuel (i + 1) { s with blocking := (ud, ty) :: s.blocking })) :
    Q (pollLoop fds inp inLen out outLen n (fuel + 1) i s) := by
  unfold pollLoop
  refine ifElim Q (fun _ => leave _ nofun) (fun hi => ?_)
  have hi : i < n := by omega
  have panic : ∀ {c : Prop}, c → (c → ¬ (i * 48 + 48 ≤ inLen ∧ inLen < 4294967296)) → Q (s, some Err.panic) :=
    fun hc h => leave _ (fun _ => ⟨hi, h hc⟩)
  have errno : ∀ k, Q (s, some (Err.errno k)) := fun k => leave _ nofun
  have ev : ∀ ud errno ty, Q (match writeEvent s.m s.ws out outLen (w32 (s.nevents * 32)) ud errno ty with
      | (m, ws, false) => ({ s with m := m, ws := ws }, some Err.panic)
      | (m, ws, true) =>
        pollLoop fds inp inLen out outLen n fuel (i + 1) { s with m := m, ws := ws, nevents := s.nevents + 1 }) := by
    intro ud errno ty
    rcases hw : writeEvent s.m s.ws out outLen (w32 (s.nevents * 32)) ud errno ty with ⟨m, ws, _ | _⟩
    · exact fail hi _ _ _ m ws hw
    · exact event hi _ _ _ m ws hw
  dsimp only
  refine ifElim Q (fun h => panic h (by unfold w32; omega)) (fun _ => ?_)
  refine ifElim Q (fun h => panic h (by unfold w32; omega)) (fun _ => ?_)
  refine ifElim Q (fun h => panic h (by unfold w32; omega)) (fun _ => ?_)
  refine ifElim Q (fun _ => ?_) (fun _ => ?_)
  · refine ifElim Q (fun h => panic h (by unfold w32; omega)) (fun _ => ?_)
    refine ifElim Q (fun _ => errno _) (fun _ => ?_)
    exact ifElim Q (fun _ => errno _) (fun _ => ev _ _ _)
  refine ifElim Q (fun _ => ?_) (fun _ => ?_)
  · refine ifElim Q (fun h => panic h (by unfold w32; omega)) (fun _ => ?_)
    refine ifElim Q (fun _ => errno _) (fun _ => ?_)
    split
    · exact ev _ _ _
    · exact delay hi _ _
  refine ifElim Q (fun _ => ?_) (fun _ => errno _)
  refine ifElim Q (fun h => panic h (by unfold w32; omega)) (fun _ => ?_)
  exact ifElim Q (fun _ => errno _) (fun _ => ev _ _ _)

theorem pollLoop_ws {W : Wr → Prop} {out outLen : Nat}
    (hW : ∀ w : Wr, out ≤ w.off → w.off + w.len ≤ out + outLen → W w) (fds : Fds) (inp inLen n : Nat) :
    ∀ (fuel i : Nat) (s : PollSt), (∀ w ∈ s.ws, W w) →
      ∀ w ∈ (pollLoop fds inp inLen out outLen n fuel i s).1.ws, W w := by
  intro fuel
  induction fuel with
  | zero => intro i s hws; exact hws
  | succ fuel ih =>
    intro i s hws
    exact pollLoop_step fds inp inLen out outLen n fuel i s (fun r => ∀ w ∈ r.1.ws, W w) (fun _ _ => hws)
      (fun _ _ _ _ _ _ heq => writeEvent_ws hW hws heq) (fun _ _ _ _ _ _ heq => ih _ _ (writeEvent_ws hW hws heq))
      (fun _ _ _ => ih _ _ hws)

theorem pollFlush_ws {W : Wr → Prop} {out outLen : Nat}
    (hW : ∀ w : Wr, out ≤ w.off → w.off + w.len ≤ out + outLen → W w) :
    ∀ (bl : List (Nat × Nat)) (s : PollSt), (∀ w ∈ s.ws, W w) → ∀ w ∈ (pollFlush out outLen bl s).1.ws, W w := by
  intro bl
  induction bl with
  | nil => intro s hws; exact hws
  | cons b rest ih =>
    intro s hws
    unfold pollFlush
    split
    · rename_i heq
      exact writeEvent_ws hW hws heq
    · rename_i heq
      exact ih _ (writeEvent_ws hW hws heq)

/-- With exact (unwrapped) buffer sizes the subscription loop never fails a host bounds check, and the
number of acknowledged plus delayed events never exceeds the number of subscriptions. -/
theorem pollLoop_no_panic (fds : Fds) (inp out n : Nat) (hn : n * 48 < 4294967296) :
    ∀ (fuel i : Nat) (s : PollSt), s.nevents + s.blocking.length ≤ i → i ≤ n →
      (pollLoop fds inp (n * 48) out (n * 32) n fuel i s).2 ≠ some Err.panic ∧
      ((pollLoop fds inp (n * 48) out (n * 32) n fuel i s).2 = none →
        (pollLoop fds inp (n * 48) out (n * 32) n fuel i s).1.nevents +
        (pollLoop fds inp (n * 48) out (n * 32) n fuel i s).1.blocking.length ≤ n) := by
  intro fuel
  induction fuel with
  | zero => intro i s h1 h2; exact ⟨nofun, fun _ => by show s.nevents + s.blocking.length ≤ n; omega⟩
  | succ fuel ih =>
    intro i s h1 h2
    refine pollLoop_step fds inp (n * 48) out (n * 32) n fuel i s
      (fun r => r.2 ≠ some Err.panic ∧ (r.2 = none → r.1.nevents + r.1.blocking.length ≤ n)) ?_ ?_ ?_ ?_
    · intro e he
      exact ⟨fun h => (he h).2 ⟨by have := (he h).1; omega, hn⟩, fun _ => by show s.nevents + s.blocking.length ≤ n; omega⟩
    · intro hi ud e ty m ws heq
      cases writeEvent_ok heq (by unfold w32; omega)
    · intro hi ud e ty m ws _
      exact ih _ _ (by show s.nevents + 1 + s.blocking.length ≤ i + 1; omega) hi
    · intro hi ud ty
      exact ih _ _ (by show s.nevents + (s.blocking.length + 1) ≤ i + 1; omega) hi

theorem pollFlush_ok (out n : Nat) :
    ∀ (bl : List (Nat × Nat)) (s : PollSt), s.nevents + bl.length ≤ n →
      (pollFlush out (n * 32) bl s).2 = true := by
  intro bl
  induction bl with
  | nil => intro s _; rfl
  | cons b rest ih =>
    intro s h
    simp only [List.length_cons] at h
    unfold pollFlush
    split
    · rename_i heq
      cases writeEvent_ok heq (by unfold w32; omega)
    · exact ih _ (by show s.nevents + 1 + rest.length ≤ n; omega)

theorem pollAfter_acc (fds : Fds) (inp inLen out outLen n res : Nat) (acc : List (Nat × Nat)) (s0 : PollSt) :
    (pollAfter fds inp inLen out outLen n res acc s0).acc = acc := by
  fun_cases pollAfter fds inp inLen out outLen n res acc s0 <;> rfl

theorem pollAfter_no_panic (fds : Fds) (inp out n res : Nat) (acc : List (Nat × Nat)) (s0 : PollSt)
    (hn : n * 48 < 4294967296) (h1 : s0.nevents = 0) (h2 : s0.blocking = []) :
    (pollAfter fds inp (n * 48) out (n * 32) n res acc s0).err ≠ Err.panic := by
  have key := pollLoop_no_panic fds inp out n hn n 0 s0 (by simp [h1, h2]) (Nat.zero_le _)
  unfold pollAfter
  generalize pollLoop fds inp (n * 48) out (n * 32) n n 0 s0 = r at key ⊢
  rcases r with ⟨s, _ | e⟩
  · have hb := key.2 rfl
    dsimp only at hb ⊢
    split
    · nofun
    · split
      · nofun
      · have hf := pollFlush_ok out n s.blocking.reverse s (by rw [List.length_reverse]; exact hb)
        generalize pollFlush out (n * 32) s.blocking.reverse s = q at hf ⊢
        rcases q with ⟨s', _ | _⟩
        · cases hf
        · dsimp only
          split <;> nofun
      · nofun
  · exact fun hc => key.1 (congrArg some hc)

/-- poll_oneoff never fails a host bounds check when the byte size of the subscriptions does not wrap — which the
repaired variant makes sure of. -/
theorem pollOneoff_no_panic (fixed : Bool) (fds : Fds) (m : Mem) (inp out n res : Nat)
    (h : fixed = true ∨ n * 48 < 4294967296) : (pollOneoff fixed fds m inp out n res).err ≠ Err.panic := by
  let Q : Res → Prop := fun r => r.err ≠ Err.panic
  show Q _
  unfold pollOneoff
  refine ifElim Q (fun _ => nofun) (fun _ => ?_)
  refine ifElim Q (fun _ => nofun) (fun hov => ?_)
  have hn : n * 48 < 4294967296 := by
    rcases h with rfl | h
    · have : ¬ n * 48 > 4294967295 := by simpa using hov
      omega
    · exact h
  have e1 : w32 (n * 48) = n * 48 := by unfold w32; omega
  have e2 : w32 (n * 32) = n * 32 := by unfold w32; omega
  dsimp only
  rw [e1, e2]
  refine ifElim Q (fun _ => nofun) (fun _ => ?_)
  refine ifElim Q (fun _ => nofun) (fun _ => ?_)
  exact ifElim Q (fun _ => nofun)
    (fun _ => pollAfter_no_panic fds inp out n res _ _ hn rfl rfl)

/-- What holds of poll_oneoff in either variant, hence nothing about panics (the as-is variant has one, F15); `acc`
are the regions granted by the memory API. -/
structure Tame (m : Mem) (d : List (Nat × Nat)) (r : Res) : Prop where
  acc : m.size < 9223372036854775808 → ∀ x ∈ r.acc, x.1 + x.2 ≤ m.size
  placed : ∀ w ∈ r.writes, Placed m d w
  quiet : Quiet r

theorem tame_lit {m : Mem} {d : List (Nat × Nat)} {e : Err} {acc : List (Nat × Nat)} {ws : List Wr}
    (ha : m.size < 9223372036854775808 → ∀ x ∈ acc, x.1 + x.2 ≤ m.size) (hw : ∀ w ∈ ws, Placed m d w) :
    Tame m d { err := e, acc := acc, writes := ws } :=
  ⟨ha, hw, rfl, rfl⟩

theorem pollAfter_tame {m : Mem} {d : List (Nat × Nat)} (fds : Fds) (inp inLen out outLen n res : Nat)
    (acc : List (Nat × Nat)) (s0 : PollSt) (ha : m.size < 9223372036854775808 → ∀ x ∈ acc, x.1 + x.2 ≤ m.size)
    (hW : ∀ w : Wr, out ≤ w.off → w.off + w.len ≤ out + outLen → Placed m d w)
    (hcell : ∀ w : Wr, w.off = res → w.len = 4 → Placed m d w)
    (h0 : ∀ w ∈ s0.ws, Placed m d w) : Tame m d (pollAfter fds inp inLen out outLen n res acc s0) := by
  have rev : ∀ {e : Err} {ws : List Wr}, (∀ w ∈ ws, Placed m d w) →
      Tame m d { err := e, acc := acc, writes := ws.reverse } :=
    fun h => tame_lit ha (fun w hw => h w (List.mem_reverse.1 hw))
  have hl := pollLoop_ws hW fds inp inLen n n 0 s0 h0
  unfold pollAfter
  generalize pollLoop fds inp inLen out outLen n n 0 s0 = r at hl ⊢
  rcases r with ⟨s, _ | e⟩
  · dsimp only at hl ⊢
    split
    · exact rev hl
    · split
      · exact rev hl
      · have hf := pollFlush_ws hW s.blocking.reverse s hl
        generalize pollFlush out outLen s.blocking.reverse s = q at hf ⊢
        rcases q with ⟨s', _ | _⟩
        · exact rev hf
        · dsimp only
          split
          · exact rev (List.forall_mem_cons.2 ⟨hcell _ rfl (bytesLE_length 4 _), hf⟩)
          · exact rev hf
      · exact rev (List.forall_mem_cons.2 ⟨hcell _ rfl rfl,
          List.forall_mem_cons.2 ⟨hW _ (Nat.le_refl _) (Nat.le_refl _), hl⟩⟩)
  · exact rev hl

theorem pollOneoff_tame (fixed : Bool) (fds : Fds) (m : Mem) (inp out n res : Nat) (hi : inp < 4294967296)
    (ho : out < 4294967296) (hr : res < 4294967296) :
    Tame m [(out, 32 * n), (res, 4)] (pollOneoff fixed fds m inp out n res) := by
  have hN : w32 (n * 32) ≤ 32 * n := by unfold w32; omega
  unfold pollOneoff
  refine ifElim (Tame m _) (fun _ => tame_lit (fun _ => nofun) nofun) (fun _ => ?_)
  refine ifElim (Tame m _) (fun _ => tame_lit (fun _ => nofun) nofun) (fun _ => ?_)
  dsimp only
  refine ifElim (Tame m _) (fun _ => tame_lit (fun _ => nofun) nofun) (fun h1 => ?_)
  have hin := fun hs => has_le m inp _ hi (w32_lt _) hs (has_of_not h1)
  refine ifElim (Tame m _)
    (fun _ => tame_lit (fun hs => List.forall_mem_singleton.2 (hin hs)) nofun) (fun h2 => ?_)
  have hout := fun hs => has_le m out _ ho (w32_lt _) hs (has_of_not h2)
  have hW : ∀ w : Wr, out ≤ w.off → w.off + w.len ≤ out + w32 (n * 32) → Placed m [(out, 32 * n), (res, 4)] w :=
    fun w => placed_has (has_of_not h2) ho (w32_lt _) List.mem_cons_self hN
  -- the cleared event buffer
  have hws : ∀ w ∈ (if w32 (n * 32) = 0 then [] else [Wr.bytes out (List.replicate (w32 (n * 32)) 0)]),
      Placed m [(out, 32 * n), (res, 4)] w :=
    ifElim (fun l => ∀ w ∈ l, Placed m _ w) (fun _ => nofun) (fun _ => List.forall_mem_singleton.2
      (hW _ (Nat.le_refl _) (Nat.le_of_eq (congrArg (out + ·) List.length_replicate))))
  refine ifElim (Tame m _) (fun _ => tame_lit
    (fun hs => List.forall_mem_cons.2 ⟨hin hs, List.forall_mem_singleton.2 (hout hs)⟩) hws) (fun h3 => ?_)
  have hres : m.has res 4 = true := by
    rw [← has_of_not h3]
    exact (has_congr (by split <;> rfl) res 4).symm
  have hcell : ∀ w : Wr, w.off = res → w.len = 4 → Placed m [(out, 32 * n), (res, 4)] w :=
    fun w h1 h2 => placed_has hres hr (by decide) (List.mem_cons_of_mem _ List.mem_cons_self) (Nat.le_refl _)
      (Nat.le_of_eq h1.symm) (by omega)
  exact pollAfter_tame fds inp _ out _ n res _ _
    (fun hs => List.forall_mem_cons.2 ⟨hin hs, List.forall_mem_cons.2 ⟨hout hs, List.forall_mem_singleton.2
      (has_le m res 4 hr (by decide) hs hres)⟩⟩)
    hW hcell (List.forall_mem_cons.2 ⟨hcell _ rfl (bytesLE_length 4 n), hws⟩)

end Wz.C15
