/-
C01 (lowering), static facts about the lowering: label definitions and label addresses, the static height that the
checker's typing determines, the shape of the code of the structured instructions.
-/
import Wz.Proofs.C01_FlatLower_Basic

namespace Wz.Proofs.FlatLower
open Wz.Spec Wz.Spec.Wasm Wz.Model.FlatLower

def labelsOf : List SymOp → List Label
  | [] => []
  | .label l :: rest => l :: labelsOf rest
  | _ :: rest => labelsOf rest

theorem labelsOf_append (a b : List SymOp) : labelsOf (a ++ b) = labelsOf a ++ labelsOf b := by
  induction a with
  | nil => rfl
  | cons o a ih => cases o <;> simp [labelsOf, ih]

theorem mem_labelsOf_iff {ops : List SymOp} {l : Label} : l ∈ labelsOf ops ↔ Op.label l ∈ ops := by
  induction ops with
  | nil => simp [labelsOf]
  | cons o ops ih => cases o <;> simp [labelsOf, ih, eq_comm]

theorem addrFrom_not_mem {l : Label} : ∀ (ops : List SymOp) (i acc : Nat), l ∉ labelsOf ops → addrFrom l ops i acc = acc := by
  intro ops
  induction ops with
  | nil => intro i acc _; rfl
  | cons o ops ih =>
    intro i acc h
    cases o with
    | label l' =>
      simp only [labelsOf, List.mem_cons, not_or] at h
      simp only [addrFrom]
      rw [if_neg (fun e => h.1 e.symm)]
      exact ih _ _ h.2
    | _ => simp only [labelsOf] at h; simp only [addrFrom]; exact ih _ _ h

theorem addrFrom_append {l : Label} : ∀ (pre ops : List SymOp) (i acc : Nat),
    addrFrom l (pre ++ ops) i acc = addrFrom l ops (i + pre.length) (addrFrom l pre i acc) := by
  intro pre
  induction pre with
  | nil => intro ops i acc; simp [addrFrom]
  | cons o pre ih =>
    intro ops i acc
    cases o <;> simp only [List.cons_append, addrFrom, ih, List.length_cons, Nat.add_assoc, Nat.add_comm 1]

theorem addrOf_at {sym : List SymOp} {pc : Nat} {l : Label} {rest : List SymOp}
    (hnd : (labelsOf sym).Nodup) (hat : At sym pc (.label l :: rest)) : addrOf sym l = pc := by
  obtain ⟨pre, post, rfl, hl⟩ := hat
  have hnot : l ∉ labelsOf (rest ++ post) := by
    rw [List.append_assoc, labelsOf_append] at hnd
    simp only [List.cons_append, labelsOf] at hnd
    have := (List.nodup_append.mp hnd).2.1
    exact (List.nodup_cons.mp this).1
  unfold addrOf
  rw [List.append_assoc, addrFrom_append]
  simp only [List.cons_append, addrFrom, if_true]
  rw [addrFrom_not_mem _ _ _ hnot]
  omega

theorem resolveT_at {sym : List SymOp} {pc : Nat} {l : Label} {rest : List SymOp}
    (hnd : (labelsOf sym).Nodup) (hat : At sym pc (.label l :: rest)) (hk : l.kind ≠ .ret) :
    resolveT sym l = pc := by
  unfold resolveT
  cases hkk : l.kind <;> simp_all [addrOf_at hnd hat]

theorem resolve_label_at {sym : List SymOp} {l : Label} (hnd : (labelsOf sym).Nodup) (hl : l ∈ labelsOf sym)
    (hk : l.kind ≠ .ret) : (resolve sym)[resolveT sym l]? = some (.label l) := by
  obtain ⟨pre, post, rfl⟩ := List.append_of_mem (mem_labelsOf_iff.mp hl)
  rw [resolveT_at hnd (pc := pre.length) (rest := post) ⟨pre, [], by simp, rfl⟩ hk]
  exact resolve_get (o := .label l) (by simp)

theorem endOK_iff {want : List Ty} {r : Option (Option (List Ty))} :
    endOK want r = true ↔ ∃ res, r = some res ∧ ∀ st', res = some st' → st' = want := by
  rcases r with _ | _ | st' <;> simp [endOK]

theorem checkS_cons {C : Ctx} {st : List Ty} {i : FI} {rest : List FI} {res} (h : checkS C st (i :: rest) = some res) :
    ∃ r, checkI C st i = some r ∧ match r with
      | none => res = none
      | some st' => checkS C st' rest = some res := by
  unfold checkS at h
  split at h
  · cases h
  · rename_i hi; cases h; exact ⟨none, hi, rfl⟩
  · rename_i st' hi; exact ⟨some st', hi, h⟩

theorem btTypes_length (bt : Option Ty) : (btTypes bt).length = arity bt := by
  cases bt <;> rfl

/-- The static height after an instruction is the height of the type stack: by the arms of `checkI`, where a refusal is
`none` and an acceptance fixes `res`. -/
theorem lowerI_h {C : Ctx} {st : List Ty} {i : FI} {res} (fs : List Fr) (b next : Nat) :
    checkI C st i = some res → (lowerI fs (b + st.length) next i).h = res.map (fun st' => b + st'.length) := by
  fun_cases checkI C st i <;> intro h <;> cases h <;> first
    | rfl
    | (show some _ = some _; simp only [List.length_append, List.length_cons, btTypes_length]; congr 1; omega)

theorem not_terminator_of_live {fs : List Fr} {h next h' : Nat} {i : FI} (hi : (lowerI fs h next i).h = some h') :
    i.terminator = false := by
  cases i <;> first | rfl | cases hi

theorem lowerS_cons_none {fs : List Fr} {h next : Nat} {i : FI} (rest : List FI) (hi : (lowerI fs h next i).h = none) :
    lowerS fs h next (i :: rest) = lowerI fs h next i := by
  rw [lowerS]; simp only [hi]

theorem lowerS_cons_some {fs : List Fr} {h next h' : Nat} {i : FI} (rest : List FI)
    (hi : (lowerI fs h next i).h = some h') :
    lowerS fs h next (i :: rest) =
      ⟨(lowerI fs h next i).ops ++ (lowerS fs h' (lowerI fs h next i).next rest).ops,
        (lowerS fs h' (lowerI fs h next i).next rest).next, (lowerS fs h' (lowerI fs h next i).next rest).h⟩ := by
  rw [lowerS]; simp only [hi]

theorem lowerS_h {C : Ctx} (fs : List Fr) (b : Nat) : ∀ (is : List FI) (st : List Ty) (next : Nat) res,
    checkS C st is = some res →
    (lowerS fs (b + st.length) next is).h = res.map (fun st' => b + st'.length) := by
  intro is
  induction is with
  | nil => intro st next res hc; cases hc; rfl
  | cons i rest ih =>
    intro st next res hc
    obtain ⟨r, hi, hr⟩ := checkS_cons hc
    have h1 := lowerI_h fs b next hi
    cases r with
    | none => subst hr; rw [lowerS_cons_none rest h1]; exact h1
    | some st' => rw [lowerS_cons_some rest h1]; exact ih st' _ res hr

theorem lowerS_h_end {C : Ctx} {body : List FI} {want : List Ty} (fs : List Fr) (h next : Nat)
    (hb : checkS C [] body = some (some want)) : (lowerS fs h next body).h = some (h + want.length) :=
  lowerS_h fs h body [] next _ hb

/-- the code at the end of a frame's body; `none`: the end is unreachable -/
def endCode (F : Fr) (isEnd : Bool) (live dead : List SymOp) : Option Nat → List SymOp
  | some h' => emitDrop (dropRange F isEnd h') ++ live
  | none => dead

theorem lowerI_block (fs : List Fr) (h next : Nat) (bt : Option Ty) (body : List FI) :
    lowerI fs h next (.block bt body) =
      let F : Fr := ⟨.block, next + 1, h, arity bt⟩
      let r := lowerS (F :: fs) h (next + 1) body
      ⟨r.ops ++ endCode F true (if targetsS 0 body then [.br ⟨.cont, next + 1⟩, .label ⟨.cont, next + 1⟩] else [])
          [.label ⟨.cont, next + 1⟩] r.h,
        r.next, some (h + arity bt)⟩ := rfl

theorem lowerI_loop (fs : List Fr) (h next : Nat) (bt : Option Ty) (body : List FI) :
    lowerI fs h next (.loop bt body) =
      let F : Fr := ⟨.loop, next + 1, h, arity bt⟩
      let r := lowerS (F :: fs) h (next + 1) body
      ⟨[.br ⟨.header, next + 1⟩, .label ⟨.header, next + 1⟩] ++ r.ops ++
          endCode F true [] [.label ⟨.cont, next + 1⟩] r.h,
        r.next, some (h + arity bt)⟩ := by
  have e : ∀ F d rh, endCode F true [] d rh = match rh with | some h' => emitDrop (dropRange F true h') | none => d :=
    fun F d rh => by cases rh <;> simp [endCode]
  simp only [e]
  rfl

theorem lowerI_ite (fs : List Fr) (h next : Nat) (bt : Option Ty) (th el : List FI) :
    lowerI fs h next (.ite bt th el) =
      let F : Fr := ⟨.ite, next + 1, h - 1, arity bt⟩
      let r1 := lowerS (F :: fs) (h - 1) (next + 1) th
      let r2 := lowerS (F :: fs) (h - 1) r1.next el
      ⟨[.brIf ⟨.header, next + 1⟩ ⟨.els, next + 1⟩ none, .label ⟨.header, next + 1⟩] ++ r1.ops ++
          endCode F false [.br ⟨.cont, next + 1⟩, .label ⟨.els, next + 1⟩] [.label ⟨.els, next + 1⟩] r1.h ++
          r2.ops ++
          endCode F true [.br ⟨.cont, next + 1⟩, .label ⟨.cont, next + 1⟩] [.label ⟨.cont, next + 1⟩] r2.h,
        r2.next, some (h - 1 + arity bt)⟩ := rfl

theorem endCode_live {F : Fr} {isEnd : Bool} (live dead : List SymOp) (hF : isEnd = true ∨ F.kind ≠ .loop) :
    endCode F isEnd live dead (some (F.orig + F.res)) = live := by
  have : dropRange F isEnd (F.orig + F.res) = none := by
    unfold dropRange; rcases hF with rfl | hF <;> simp [*] <;> omega
  simp [endCode, this, emitDrop]

end Wz.Proofs.FlatLower
