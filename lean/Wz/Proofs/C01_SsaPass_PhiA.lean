import Wz.Proofs.C01_SsaPass_Basic

/-! Structural lemmas for `removeParam`: binding of block parameters with one index erased; `dropArg` sets the block
arguments of an instruction (`dropArg_eq`), and `setBranchArgs` changes nothing else, so the facts are stated of
`setBranchArgs`; the shape of the transformed function; and `run_dropParam`: a parameter that nothing reads can be
dropped. -/
namespace Wz.Model.SsaPass

theorem bindVals_eraseIdx (ps : List (Val × Ty)) :
    ∀ (k : Nat) (vs : List Nat) (e : Val → Nat) (v : Val), (∀ p, ps[k]? = some p → v ≠ p.1) →
      bindVals e (ps.eraseIdx k) (vs.eraseIdx k) v = bindVals e ps vs v := by
  induction ps with
  | nil => intro k vs e v _; cases k <;> rfl
  | cons p ps ih =>
    obtain ⟨r, ty⟩ := p
    intro k vs e v hv
    cases k with
    | zero =>
      have hne : v ≠ r := hv (r, ty) rfl
      have hvs : vs.eraseIdx 0 = vs.tail := by cases vs <;> rfl
      simp only [List.eraseIdx_cons_zero, hvs, bindVals]
      exact bindVals_agree (S := (· = v)) ps _ (fun x hx => by simp [upd, hx, hne]) v (.inr rfl)
    | succ k =>
      have hvs : (vs.eraseIdx (k + 1)).headD 0 = vs.headD 0 ∧ (vs.eraseIdx (k + 1)).tail = vs.tail.eraseIdx k := by
        cases vs <;> simp [List.eraseIdx]
      simp only [List.eraseIdx_cons_succ, bindVals, hvs.1, hvs.2]
      exact ih k _ _ v (fun p hp => hv p (by simpa using hp))

theorem branch_args_operands {i : Instr} {b : BlockId} {as : List Val} (h : i.branch? = some (b, as)) :
    ∀ a ∈ as, a ∈ i.operands := by
  intro a ha
  cases i <;> cases h <;> simp [Instr.operands, ha]

theorem setBranchArgs_results (as : List Val) (i : Instr) : (i.setBranchArgs as).results = i.results := by
  cases i <;> rfl

theorem setBranchArgs_typedResults (as : List Val) (i : Instr) :
    (i.setBranchArgs as).typedResults = i.typedResults := by
  cases i <;> rfl

theorem setBranchArgs_branch (as' : List Val) (i : Instr) :
    (i.setBranchArgs as').branch? = i.branch?.map (fun p => (p.1, as')) := by
  cases i <;> rfl

theorem setBranchArgs_constNoKey (al : List (Val × Val)) (as : List Val) (i : Instr) :
    ConstNoKey al (i.setBranchArgs as) = ConstNoKey al i := by
  cases i <;> rfl

theorem setBranchArgs_operands_sub {i : Instr} {as' : List Val} (h : ∀ p, i.branch? = some p → as'.Sublist p.2) :
    (i.setBranchArgs as').operands.Sublist i.operands := by
  cases i <;> try exact .refl _
  all_goals first | exact h _ rfl | exact (h _ rfl).cons_cons _

def Ctl.setArgs (as : List Nat) : Ctl → Ctl
  | .goto t _ st => .goto t as st
  | c => c

theorem execInstr_setBranchArgs (w : World) (ρ : Val → Nat) (as' : List Val) (i : Instr) (st : St) :
    execInstr w ρ (i.setBranchArgs as') st = (execInstr w ρ i st).setArgs (as'.map ρ) := by
  cases i <;> dsimp only [Instr.setBranchArgs, execInstr] <;> (try split) <;> rfl

/-- the block arguments that `dropArg b idx` leaves an instruction with -/
def Instr.argsWithout (b : BlockId) (idx : Nat) (i : Instr) : List Val :=
  match i.branch? with
  | some (t, as) => if t = b then as.eraseIdx idx else as
  | none => []

/-- `dropArg` touches the block arguments only: what is known of `setBranchArgs` carries over. -/
theorem dropArg_eq (b : BlockId) (idx : Nat) (i : Instr) :
    i.dropArg b idx = i.setBranchArgs (i.argsWithout b idx) := by
  cases i <;> dsimp only [Instr.dropArg, Instr.argsWithout, Instr.branch?] <;> (try split) <;> rfl

theorem argsWithout_sublist (b : BlockId) (idx : Nat) {i : Instr} (p : BlockId × List Val) (h : i.branch? = some p) :
    (i.argsWithout b idx).Sublist p.2 := by
  simp only [Instr.argsWithout, h]
  split
  · exact List.eraseIdx_sublist _ _
  · exact .refl _

theorem dropArg_branch (b : BlockId) (idx : Nat) (i : Instr) :
    (i.dropArg b idx).branch? =
      i.branch?.map (fun p => (p.1, if p.1 = b then p.2.eraseIdx idx else p.2)) := by
  rw [dropArg_eq, setBranchArgs_branch, Instr.argsWithout]
  rcases i.branch? with _ | ⟨t, as⟩ <;> rfl

theorem dropArg_results (b : BlockId) (idx : Nat) (i : Instr) : (i.dropArg b idx).results = i.results := by
  rw [dropArg_eq, setBranchArgs_results]

theorem dropArg_branch_target (b : BlockId) (idx : Nat) (i : Instr) :
    (i.dropArg b idx).branch?.map (·.1) = i.branch?.map (·.1) := by
  rw [dropArg_branch]
  cases i.branch? <;> rfl

theorem dropArg_bin (b : BlockId) (idx : Nat) (op : BinOp) (r : Val) (ty : Ty) (x y : Val) :
    (Instr.bin op r ty x y).dropArg b idx = .bin op r ty x y := rfl

/-- what `removeParam` makes of a block -/
def rpBlock (b : BlockId) (idx : Nat) (B : Block) : Block :=
  { B with params := if B.id = b ∧ ¬ B.invalid then B.params.eraseIdx idx else B.params,
           instrs := B.instrs.map (Instr.dropArg b idx) }

theorem rpBlock_params_of_ne {b : BlockId} {idx : Nat} {T : Block} (h : T.id ≠ b) :
    (rpBlock b idx T).params = T.params := by
  simp [rpBlock, h]

theorem rpBlock_params_sublist (b : BlockId) (idx : Nat) (T : Block) : (rpBlock b idx T).params.Sublist T.params := by
  simp only [rpBlock]
  split
  · exact List.eraseIdx_sublist _ _
  · exact List.Sublist.refl _

theorem removeParam_blocks (f : Func) (b : BlockId) (idx : Nat) (p u : Val) :
    (removeParam f b idx p u).blocks = f.blocks.map (rpBlock b idx) := rfl

theorem removeParam_alias (f : Func) (b : BlockId) (idx : Nat) (p u : Val) :
    (removeParam f b idx p u).alias = aliasInsert f.alias p u := rfl

theorem findBlock_removeParam (f : Func) (b : BlockId) (idx : Nat) (p u : Val) (t : BlockId) :
    (removeParam f b idx p u).findBlock t = (f.findBlock t).map (rpBlock b idx) :=
  find?_map_of_comm _ _ _ (fun _ => rfl)

theorem entry_removeParam (f : Func) (b : BlockId) (idx : Nat) (p u : Val) :
    (removeParam f b idx p u).entry = f.entry :=
  entry_map f (rpBlock b idx) (fun _ => rfl)

theorem allInstrs_removeParam (f : Func) (b : BlockId) (idx : Nat) (p u : Val) :
    (removeParam f b idx p u).allInstrs = f.allInstrs.map (Instr.dropArg b idx) := by
  simp only [Func.allInstrs, removeParam_blocks, List.flatMap_map, rpBlock]
  induction f.blocks with
  | nil => rfl
  | cons B Bs ih => simp [List.flatMap_cons, ih]

/-- the two runs agree on every value but `p` -/
theorem run_dropParam (w : World) (g : Func) (b : BlockId) (idx : Nat) (p : Val) {B0 : Block}
    (hB0 : g.findBlock b = some B0) (hp : ∃ ty, B0.params[idx]? = some (p, ty)) (hne : b ≠ g.entry)
    (hread : ∀ v, res g.alias v ≠ p)
    (harity : ∀ B ∈ g.blocks, B.invalid = false → ∀ i ∈ B.instrs, ∀ as, i.branch? = some (b, as) →
      as.length = B0.params.length)
    (args : List Nat) (fuel : Nat) :
    run w { g with blocks := g.blocks.map (rpBlock b idx) } args fuel = run w g args fuel := by
  simp only [run]
  rw [entry_map g (rpBlock b idx) (fun _ => rfl)]
  let ER : BlockId → List Nat → List Nat → St → St → Prop := fun b' as as' st st' =>
    StRel (· ≠ p) st st' ∧ as' = (if b' = b then as.eraseIdx idx else as) ∧ (b' = b → as.length = B0.params.length)
  refine (run_sim_driver w g { g with blocks := g.blocks.map (rpBlock b idx) } (rpBlock b idx) ER
    (fun _ => find?_map_of_comm _ (rpBlock b idx) _ (fun _ => rfl)) ?_ fuel _ args
    args _ _ ⟨⟨fun _ _ => rfl, rfl, rfl⟩, (if_neg hne.symm).symm, fun e => absurd e.symm hne⟩).symm
  rintro b' as _ st st' T ⟨hst, rfl, hlen⟩ hT
  obtain ⟨hTm, hTid, hTv⟩ := findBlock_mem hT
  have hbody : ∀ (is : List Instr) (st st' : St), (∀ i ∈ is, i ∈ T.instrs) → StRel (· ≠ p) st st' →
      BodyOut ER (execBody w g.alias is st) (execBody w g.alias (is.map (Instr.dropArg b idx)) st') := by
    intro is
    induction is with
    | nil => intros; exact .none
    | cons i is ih =>
      intro st st' hsub hst
      obtain ⟨hiT, hsub⟩ := List.forall_mem_cons.mp hsub
      refine BodyOut.cons ?_ (fun st1 st1' h => ih st1 st1' hsub h)
      rw [dropArg_eq, execInstr_setBranchArgs]
      have hsim := execInstr_sim w (· ≠ p) i hst (ρ := fun v => st.env (res g.alias v))
        (ρ' := fun v => st'.env (res g.alias v)) (fun o _ => hst.env _ (hread o))
      revert hsim
      generalize execInstr w (fun v => st.env (res g.alias v)) i st = c1
      generalize execInstr w (fun v => st'.env (res g.alias v)) i st' = c1'
      intro hsim
      cases hsim with
      | next h => exact .next (h.mono fun _ hv => .inr hv)
      | goto h =>
        -- the branch passes its arguments as read, without the `idx`-th if it goes to `b`
        obtain ⟨rfl, h, as0, hbr, rfl⟩ := h
        exact .goto ⟨h, by simp only [Instr.argsWithout, hbr, apply_ite (List.map _), map_eraseIdx],
          fun e => (List.length_map _).trans (harity T hTm hTv i hiT as0 (e ▸ hbr))⟩
      | ret hm ht => exact .ret hm ht
      | trap hm ht => exact .trap hm ht
  by_cases hb : b' = b
  · obtain rfl := findBlock_unique hT (hb ▸ hB0)
    obtain ⟨ty, hpty⟩ := hp
    rw [show (rpBlock b idx T).params = T.params.eraseIdx idx by simp [rpBlock, hTid, hb, hTv], if_pos hb]
    refine ⟨⟨length_eraseIdx_eq idx, fun _ => (hlen hb).symm⟩, fun _ => hbody _ _ _ (fun _ hi => hi)
      ⟨fun v hv => ?_, hst.mem, hst.trace⟩⟩
    show bindVals st.env T.params as v = bindVals st'.env (T.params.eraseIdx idx) (as.eraseIdx idx) v
    rw [bindVals_eraseIdx T.params idx as st'.env v (fun q hq => by rw [hpty] at hq; cases hq; exact hv)]
    exact bindVals_agree _ _ hst.env v (.inr hv)
  · rw [rpBlock_params_of_ne (hTid ▸ hb), if_neg hb]
    exact ⟨Iff.rfl, fun _ => hbody _ _ _ (fun _ hi => hi) ⟨fun v hv => bindVals_agree _ _ hst.env v (.inr hv), hst.mem, hst.trace⟩⟩

end Wz.Model.SsaPass
