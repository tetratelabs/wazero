/- Step lemmas for the straight-line refinement theorem of C01: the regenerated interpreter step
functions, dispatched by typed instruction, equal the typed specification on canonical slots. -/
import Wz.Props.C05
import Wz.Model.InterpStraight

namespace Wz.C01
open Wz.Spec Wz.Go Wz.Gen.InterpNum Wz.Model.InterpStraight Wz.C05

theorem interpBin_i32 (op : IBinOp) (a b : BitVec 32) :
    interpBin .i32 op (z b) (z a) =
      match op.eval a b with
      | .ok r => .ok [z r]
      | .error t => .trap (trapName t) :=
  match op with
  | .add => i32_add_eq a b | .sub => i32_sub_eq a b | .mul => i32_mul_eq a b
  | .and => i32_and_eq a b | .or => i32_or_eq a b | .xor => i32_xor_eq a b
  | .shl => i32_shl_eq a b | .shrS => i32_shr_s_eq a b | .shrU => i32_shr_u_eq a b
  | .rotl => i32_rotl_eq a b | .rotr => i32_rotr_eq a b
  | .divU => (i32_div_u_eq a b).trans (by simp only [IBinOp.eval]; cases Int.idivU a b <;> rfl)
  | .remU => (i32_rem_u_eq a b).trans (by simp only [IBinOp.eval]; cases Int.iremU a b <;> rfl)
  | .remS => (i32_rem_s_eq a b).trans (by simp only [IBinOp.eval]; cases Int.iremS a b <;> rfl)
  | .divS => (i32_div_s_eq a b).trans (by
      simp only [IBinOp.eval]; split
      · rfl
      · cases Int.idivS a b <;> rfl)

theorem interpBin_i64 (op : IBinOp) (a b : BitVec 64) :
    interpBin .i64 op b a =
      match op.eval a b with
      | .ok r => .ok [r]
      | .error t => .trap (trapName t) :=
  match op with
  | .add => i64_add_eq a b | .sub => i64_sub_eq a b | .mul => i64_mul_eq a b
  | .and => i64_and_eq a b | .or => i64_or_eq a b | .xor => i64_xor_eq a b
  | .shl => i64_shl_eq a b | .shrS => i64_shr_s_eq a b | .shrU => i64_shr_u_eq a b
  | .rotl => i64_rotl_eq a b | .rotr => i64_rotr_eq a b
  | .divU => (i64_div_u_eq a b).trans (by simp only [IBinOp.eval]; cases Int.idivU a b <;> rfl)
  | .remU => (i64_rem_u_eq a b).trans (by simp only [IBinOp.eval]; cases Int.iremU a b <;> rfl)
  | .remS => (i64_rem_s_eq a b).trans (by simp only [IBinOp.eval]; cases Int.iremS a b <;> rfl)
  | .divS => (i64_div_s_eq a b).trans (by
      simp only [IBinOp.eval]; split
      · rfl
      · cases Int.idivS a b <;> rfl)

theorem interpRel_i32 (op : IRelOp) (a b : BitVec 32) :
    interpRel .i32 op (z b) (z a) = .ok [z (op.eval a b)] :=
  match op with
  | .eq => i32_eq_eq a b | .ne => i32_ne_eq a b
  | .ltS => i32_lt_s_eq a b | .ltU => i32_lt_u_eq a b | .gtS => i32_gt_s_eq a b | .gtU => i32_gt_u_eq a b
  | .leS => i32_le_s_eq a b | .leU => i32_le_u_eq a b | .geS => i32_ge_s_eq a b | .geU => i32_ge_u_eq a b

theorem interpRel_i64 (op : IRelOp) (a b : BitVec 64) :
    interpRel .i64 op b a = .ok [z (op.eval a b)] :=
  match op with
  | .eq => i64_eq_eq a b | .ne => i64_ne_eq a b
  | .ltS => i64_lt_s_eq a b | .ltU => i64_lt_u_eq a b | .gtS => i64_gt_s_eq a b | .gtU => i64_gt_u_eq a b
  | .leS => i64_le_s_eq a b | .leU => i64_le_u_eq a b | .geS => i64_ge_s_eq a b | .geU => i64_ge_u_eq a b

theorem interpUn_i32 (op : IUnOp) (a : BitVec 32) :
    interpUn .i32 op (z a) = .ok [z (op.eval a)] :=
  match op with
  | .clz => i32_clz_eq a | .ctz => i32_ctz_eq a | .popcnt => i32_popcnt_eq a

theorem interpUn_i64 (op : IUnOp) (a : BitVec 64) :
    interpUn .i64 op a = .ok [op.eval a] :=
  match op with
  | .clz => i64_clz_eq a | .ctz => i64_ctz_eq a | .popcnt => i64_popcnt_eq a

theorem slot_i32 (v : BitVec 32) : slot (.i32 v) = z v := rfl
theorem slot_i64 (v : BitVec 64) : slot (.i64 v) = v := rfl

theorem ieqz_z (a : BitVec 32) : Int.ieqz (z a) = Int.ieqz a := by
  simp only [Int.ieqz, z_toNat]

theorem after_ok (x : BitVec 64) (s : List (BitVec 64)) : after (.ok [x]) s = .ok (x :: s) := rfl
theorem after_trap (e : String) (s : List (BitVec 64)) : after (.trap e) s = .trap e := rfl

/-- one step: on a typed stack the interpreter's regenerated step function produces exactly the
specification's result (value, trap kind), never a Go run-time panic, never an underflow -/
theorem step_refines (i : SInstr) (s : List SVal) :
    match specStep i s with
    | .ok s' => interpStep i (s.map slot) = .ok (s'.map slot)
    | .error (.trap t) => interpStep i (s.map slot) = .trap (trapName t)
    | .error .illTyped => True := by
  -- `ieqz` is one Go function for both widths: on an i32 slot `i64_eqz_eq` fires, and `ieqz_z` brings the result back
  fun_cases specStep i s <;>
    simp only [List.map_cons, interpStep, slot_i32, slot_i64, interpBin_i32, interpBin_i64, interpRel_i32,
      interpRel_i64, interpUn_i32, interpUn_i64, i64_eqz_eq, ieqz_z, i32_wrap_eq, i64_extend_s_eq, i64_extend_u_eq,
      i32_extend8_s_eq, i32_extend16_s_eq, i64_extend8_s_eq, i64_extend16_s_eq, i64_extend32_s_eq,
      after_ok, after_trap, *]

/-- **Straight-line refinement.** For EVERY straight-line integer program and EVERY typed operand
stack: if the specification accepts the program on that stack (no validation error), the interpreter
model — whose step functions are regenerated from interpreter.go — ends with exactly the
specification's stack (each i32 kept zero-extended), or traps with exactly the specification's trap;
it never raises a Go run-time panic and never underflows its stack. -/
theorem interp_refines_spec_straightline (p : List SInstr) (s : List SVal) (o : IOut)
    (h : expected (specRun p s) = some o) : interpRun p (s.map slot) = o := by
  fun_induction specRun p s
  -- the empty program
  case case1 s => cases h; rfl
  -- `i` steps to `s'`: so does the interpreter
  case case2 i rest s s' hstep ih =>
    have hs := step_refines i s
    rw [hstep] at hs
    rw [interpRun, hs]
    exact ih h
  -- `i` stops: the interpreter traps alike, or the program is ill typed
  case case3 i rest s e hstep =>
    have hs := step_refines i s
    rw [hstep] at hs
    cases e with
    | trap t => cases h; rw [interpRun, hs]
    | illTyped => cases h

end Wz.C01
