/-
C02 helper lemmas: the interpreter's effective-address arithmetic (core 1) and bulk ranges (core 4).
All statements are about definitions regenerated from /repo (`Wz.Gen.InterpAddr`, `Wz.Gen.Memory`).
-/
import Wz.Model.MemAccess
import Wz.Proofs.GenMemory

namespace Wz.C02
open Wz.Gen.Memory Wz.Gen.InterpAddr Wz.Model.MemAccess

theorem toNat_add_zext (a b : BitVec 32) : (a.setWidth 64 + b.setWidth 64).toNat = a.toNat + b.toNat := by
  rw [BitVec.toNat_add, BitVec.toNat_setWidth_of_le (by decide), BitVec.toNat_setWidth_of_le (by decide)]
  exact Nat.mod_eq_of_lt (by have := a.isLt; have := b.isLt; omega)

theorem pop_iff (base off ea : BitVec 32) :
    popMemoryOffset (off.setWidth 64) (base.setWidth 64) = some ea ↔
      base.toNat + off.toNat < 2^32 ∧ ea.toNat = base.toNat + off.toNat := by
  have := ea.isLt
  simp only [popMemoryOffset, BitVec.ult, toNat_add_zext, decide_eq_true_eq, Option.ite_none_left_eq_some,
    Option.some.injEq, ← BitVec.toNat_inj, BitVec.toNat_setWidth, BitVec.toNat_ofNat, Nat.reducePow, Nat.reduceMod]
  omega

theorem pop_none_iff (base off : BitVec 32) :
    popMemoryOffset (off.setWidth 64) (base.setWidth 64) = none ↔ 2^32 ≤ base.toNat + off.toNat := by
  simp only [popMemoryOffset, BitVec.ult, toNat_add_zext, decide_eq_true_eq, ite_eq_left_iff, reduceCtorEq,
    imp_false, Decidable.not_not, BitVec.toNat_ofNat, Nat.reducePow, Nat.reduceMod]
  omega

theorem access_eq_some (base off ea : BitVec 32) (w : Nat) (len : BitVec 64) :
    access base off w len = some ea ↔
      popMemoryOffset (off.setWidth 64) (base.setWidth 64) = some ea ∧ hasSize ea (BitVec.ofNat 64 w) len = true := by
  unfold access
  cases popMemoryOffset (off.setWidth 64) (base.setWidth 64) with
  | none => simp
  | some ea' =>
    simp only [Option.ite_none_right_eq_some, Option.some.injEq]
    exact ⟨by rintro ⟨h, rfl⟩; exact ⟨rfl, h⟩, by rintro ⟨rfl, h⟩; exact ⟨h, rfl⟩⟩

theorem multi_eq_some (guard : BitVec 32 → Bool) (offs : BitVec 32 → List (BitVec 32)) (base off ea : BitVec 32)
    (len : BitVec 64) :
    multi guard offs base off len = some ea ↔
      popMemoryOffset (off.setWidth 64) (base.setWidth 64) = some ea ∧ guard ea = false ∧
        (offs ea).all (fun o => hasSize o 8#64 len) = true := by
  unfold multi
  cases popMemoryOffset (off.setWidth 64) (base.setWidth 64) with
  | none => simp
  | some ea' =>
    simp only [Option.ite_none_left_eq_some, Option.ite_none_right_eq_some, Option.some.injEq, Bool.not_eq_true]
    exact ⟨by rintro ⟨g, h, rfl⟩; exact ⟨rfl, g, h⟩, by rintro ⟨rfl, g, h⟩; exact ⟨g, h, rfl⟩⟩

end Wz.C02
