/-
C01 (front end, structured control flow): whole functions.  `run_checked`: for ANY SSA function `g` and ANY certificate
`ent` that meet what the proof uses of `FrontendCFCheck.validate f` (`Checked g ent f`), and every budget `n` of the
reference semantics (`Wz.Spec.Wasm.invoke` on the embedding), the run of `g` is out of fuel below some `k` and has the
outcome of the reference run from `k` on, and `k ≥ n - weight` if the reference run is exhausted.  `run_validated` is its
instance at `resolveOps (lowerCF f)` with the certificate `certOf (build f)`, carried over to `lowerCF f` by `resolveOps_run`
(resolving every operand through the alias table and dropping the table does not change the outcome of any function:
the checker reads the resolved function, so the simulation never meets an alias).
-/
import Wz.Proofs.C01_FrontCF_Sim
import Wz.Proofs.C01_Front_Entry
import Wz.Proofs.C01_SsaPass_Basic

namespace Wz.Model.FrontendCF
open Wz.Model.SsaPass

theorem resolveOps_run (w : World) (f : Func) (args : List Nat) (fuel : Nat) :
    run w (resolveOps f) args fuel = run w f args fuel := by
  have hentry : (resolveOps f).entry = f.entry := by
    simp only [Func.entry, resolveOps]
    cases f.blocks <;> rfl
  unfold run
  rw [hentry]
  -- block by block: the same blocks with resolved operands, run from equal states
  refine (run_sim_driver w f (resolveOps f) _ (fun _ as as' st st' => as = as' ∧ st = st')
    (fun _ => find?_map_of_comm _ _ _ (fun _ => rfl)) ?_ fuel _ _ _ _ _ ⟨rfl, rfl⟩).symm
  rintro b as _ st _ B ⟨rfl, rfl⟩ _
  refine ⟨Iff.rfl, fun _ => ?_⟩
  rw [show (resolveOps f).alias = [] from rfl]
  have e := execBody_congr w (al := f.alias) (al' := []) (·.mapOperands (res f.alias)) B.instrs
    { st with env := bindVals st.env B.params as } fun i _ st => execInstr_mapOperands w _ (res f.alias) i st
  exact e ▸ BodyOut.refl _ (fun _ _ _ _ => ⟨rfl, rfl⟩)

end Wz.Model.FrontendCF

namespace Wz.Proofs.FrontCF
open Wz.Spec Wz.Model.SsaPass Wz.Model.FrontendSL Wz.Model.FrontendCF Wz.Proofs.Front

/-- the locals alone, as the one-block front ends track them (`Front.Inv.loc`), with the empty stack -/
theorem InvC.of_locals {lt : List Ty} {locs : List TV} {locals : Array Nat} {env : Val → Nat}
    (h : InvS locs lt locals.toList env) : InvC lt [] (locs.map some) ⟨[], locals⟩ env := by
  have hlen : locs.length = lt.length := by rw [← h.tys, List.length_map]
  refine ⟨rfl, (fun _ hp => by cases hp), by rw [List.length_map, hlen], ?_, fun x v hx => ?_⟩
  · rw [← Array.length_toList, ← h.vals, List.length_map, hlen]
  · rw [List.getElem?_map] at hx
    cases hp : locs[x]? with
    | none => rw [hp] at hx; cases hx
    | some p =>
      rw [hp] at hx
      obtain rfl : p = v := Option.some.inj (Option.some.inj hx)
      refine ⟨?_, ?_, h.rng p (List.mem_of_getElem? hp)⟩
      · show locals[x]? = _
        rw [← Array.getElem?_toList, ← h.vals, List.getElem?_map, hp]; rfl
      · rw [← h.tys, List.getElem?_map, hp]; rfl

/-- what the proof uses of `validate f`, said of ANY candidate `g` for the translation of `f` and ANY certificate `ent`
(nothing below uses where the two come from).  `validate` demands more: at the live end of the body also the height
and the types of the stack. -/
structure Checked (g : Func) (ent : Ent) (f : Function) : Prop where
  alias : g.alias = []
  entry : ∃ B Bs, g.blocks = B :: Bs ∧ B.id = 0 ∧ B.invalid = false ∧ B.params = entryParams f.sig ∧
    B.instrs.take (initLS f.sig).1.length = (initLS f.sig).1
  body : chkL ⟨g, ent, f.params ++ f.locals, f.results⟩ [retLab f] (startCS f) f.body ≠ .fail
  last : ∀ c, chkL ⟨g, ent, f.params ++ f.locals, f.results⟩ [retLab f] (startCS f) f.body = .live c →
    expect g c [.ret (peekVals c.stack f.results.length)] = true

theorem Checked.of_validate {f : Function} (hv : validate f = true) : Checked (ctxOf f).g (ctxOf f).ent f := by
  simp only [validate, Bool.and_eq_true] at hv
  obtain ⟨hentry, hv⟩ := hv
  refine ⟨rfl, ?_, fun h => ?_, fun c hc => ?_⟩
  · unfold entryOK at hentry
    dsimp only at hentry
    split at hentry
    · rename_i B Bs hb
      simp only [Bool.and_eq_true, beq_iff_eq, Bool.not_eq_true'] at hentry
      exact ⟨B, Bs, hb, hentry.1.1.1, hentry.1.1.2, hentry.1.2, hentry.2⟩
    · cases hentry
  · rw [show chkL (ctxOf f) _ _ _ = _ from h] at hv; cases hv
  · rw [show chkL (ctxOf f) _ _ _ = _ from hc] at hv
    simp only [chkJump, retLab, if_true, Bool.and_eq_true] at hv
    exact hv.2.2

variable {g : Func} {ent : Ent} {f : Function}

theorem run_start (w : World) (h : Checked g ent f) (args : List Nat) (hargs : ArgsOK f.sig args) (ec mc : Nat)
    (fuel : Nat) :
    run w g (ec :: mc :: args) (fuel + 1) = runPos w g fuel 0 (startCS f).pos (entryEnv f.sig ec mc args) := by
  obtain ⟨B, Bs, hb, hid, hval, hpar, hins⟩ := h.entry
  have hent : g.entry = 0 := by simp [Func.entry, hb, hid]
  have hfb : g.findBlock 0 = some B := by
    simp [Func.findBlock, hb, hid, hval]
  have hlen : B.params.length = (ec :: mc :: args).length := by
    rw [hpar]; simp [entryParams, hargs.1, Function.sig]
  have h1 : run w g (ec :: mc :: args) (fuel + 1) =
      runPos w g fuel 0 0 (bindVals (fun _ => 0) B.params (ec :: mc :: args)) := by
    simp only [run, hent]
    exact runFrom_enter w g h.alias fuel 0 B _ (fun _ => 0) hfb hlen
  rw [h1, hpar]
  have hio : instrsOf g 0 = B.instrs := by simp [instrsOf, hfb]
  have hdrop : (instrsOf g 0).drop 0 = (initLS f.sig).1 ++ (instrsOf g 0).drop (0 + (initLS f.sig).1.length) := by
    rw [hio, List.drop_zero, Nat.zero_add]
    conv => lhs; rw [← List.take_append_drop (initLS f.sig).1.length B.instrs, hins]
  have h0 := (entry_inv f.sig args hargs ec mc).1
  have := runPos_straight w g 0 0 (initLS f.sig).1 (entryEnv f.sig ec mc args) (entryEnv f.sig ec mc args) hdrop
    (declLocals_exec w f.locals (f.params.length + 2) {} _ h0).body fuel
  simp only [Nat.zero_add] at this
  exact this

theorem runSpec_succ (f : Function) (args : List Nat) (hlen : args.length = f.params.length) (n : Nat) :
    Wz.Model.FrontendCF.runSpec f args (n + 1) =
      (Wasm.bodyOut f.results.length
        (Wasm.execSeq f.toModule n (toInstrs f.body) ⟨[], (args ++ f.locals.map (fun _ => 0)).toArray⟩ {})).1 :=
  congrArg Prod.fst (Wasm.invoke_single_map (M := f.toModule) rfl rfl rfl args hlen n {})

theorem body_res (h : Checked g ent f) (args : List Nat) (hargs : ArgsOK f.sig args) (w : World) (ec mc : Nat)
    (n : Nat) :
    Res w ⟨g, ent, f.params ++ f.locals, f.results⟩ [retLab f] ⟨0, (startCS f).pos, entryEnv f.sig ec mc args⟩
      (chkL ⟨g, ent, f.params ++ f.locals, f.results⟩ [retLab f] (startCS f) f.body)
      (Wasm.execSeq f.toModule n (toInstrs f.body) ⟨[], (args ++ f.locals.map (fun _ => 0)).toArray⟩ {})
      (n - Wasm.weightS (toInstrs f.body)) :=
  (sim_all (w := w) (cx := ⟨g, ent, _, _⟩) (m := f.toModule) h.alias n).2.1 f.body [retLab f] (startCS f) _
    (entryEnv f.sig ec mc args) {} (fun lab hl _ => by rw [List.mem_singleton.mp hl]; exact ⟨rfl, rfl⟩)
    (.of_locals (entry_inv f.sig args hargs ec mc).2.loc) h.body

theorem run_checked (h : Checked g ent f) (args : List Nat) (hargs : ArgsOK f.sig args) (w : World) (ec mc : Nat)
    (n : Nat) :
    ∃ k, (∀ fuel, fuel < k → run w g (ec :: mc :: args) fuel = .outOfFuel) ∧
      (Wz.Model.FrontendCF.runSpec f args n ≠ .exhausted → ∀ fuel, k ≤ fuel →
        run w g (ec :: mc :: args) fuel = ofSpecCF (Wz.Model.FrontendCF.runSpec f args n)) ∧
      (Wz.Model.FrontendCF.runSpec f args n = .exhausted → n ≤ k + Wasm.weightS (toInstrs f.body)) := by
  cases n with
  | zero => exact ⟨0, fun _ h => absurd h (Nat.not_lt_zero _), fun h => absurd rfl h, fun _ => Nat.zero_le _⟩
  | succ n =>
    rw [runSpec_succ f args hargs.1 n]
    obtain ⟨k, b, hs, hp⟩ := body_res h args hargs w ec mc n
    generalize Wasm.execSeq f.toModule n (toInstrs f.body)
      ⟨[], (args ++ f.locals.map (fun _ => 0)).toArray⟩ {} = out at hp ⊢
    -- one more block entry: the entry block
    have hlt : ∀ fuel, fuel < k + 1 → run w g (ec :: mc :: args) fuel = .outOfFuel := by
      intro fuel hf
      cases fuel with
      | zero => rfl
      | succ fuel => rw [run_start w h args hargs]; exact hs.2 fuel (by omega)
    have hfin : ∀ o, Final w g b o → ∀ fuel, k + 1 ≤ fuel → run w g (ec :: mc :: args) fuel = o := by
      intro o ho fuel hf
      obtain ⟨fuel, rfl⟩ := Nat.exists_eq_add_of_le' (Nat.le_trans (Nat.le_add_left 1 k) hf)
      rw [run_start w h args hargs, hs.final ho, if_neg (by omega)]
    refine ⟨k + 1, hlt, ?_⟩
    obtain ⟨ctl, fr', st'⟩ := out
    cases ctl with
    | next =>
      -- the end of the body: the jump to the return block
      obtain ⟨c', env', hr, rfl, hi⟩ := hp
      exact ⟨fun _ => hfin _ (final_ret_of_expect (cx := ⟨g, ent, f.params ++ f.locals, f.results⟩) _ hi (h.last c' hr)), fun h => nomatch h⟩
    | br l =>
      obtain ⟨lab, hl, h⟩ := hp
      cases l with
      | zero => obtain rfl : retLab f = lab := Option.some.inj hl; exact ⟨fun _ => hfin _ h, fun h => nomatch h⟩
      | succ l => cases hl
    | ret => exact ⟨fun _ => hfin _ hp, fun h => nomatch h⟩
    | trap kd => exact ⟨fun _ => hfin _ hp, fun h => nomatch h⟩
    | exhausted => exact ⟨fun h => absurd rfl h, fun _ => by have : n - Wasm.weightS (toInstrs f.body) ≤ k := hp; omega⟩

theorem run_validated (f : Function) (hv : validate f = true) (args : List Nat) (hargs : ArgsOK f.sig args)
    (w : World) (ec mc : Nat) (n : Nat) :
    ∃ k, (∀ fuel, fuel < k → run w (lowerCF f) (ec :: mc :: args) fuel = .outOfFuel) ∧
      (Wz.Model.FrontendCF.runSpec f args n ≠ .exhausted → ∀ fuel, k ≤ fuel →
        run w (lowerCF f) (ec :: mc :: args) fuel = ofSpecCF (Wz.Model.FrontendCF.runSpec f args n)) ∧
      (Wz.Model.FrontendCF.runSpec f args n = .exhausted → n ≤ k + Wasm.weightS (toInstrs f.body)) := by
  have h := run_checked (.of_validate hv) args hargs w ec mc n
  simp only [ctxOf, resolveOps_run] at h
  exact h

end Wz.Proofs.FrontCF
