/-
C01 (lowering): what lowered code does with labels (`Scoped`, one traversal of the lowering): every piece of code
defines labels with frame ids from the interval of ids it allocates, at most one label of each kind per frame id, and
refers to labels as `RefsOK` says.  So the label definitions of a function are unique (`lowerSym_nodup`) and every
label referred to is defined (`lowerSym_refs`).
-/
import Wz.Proofs.C01_FlatLower_Refs
namespace Wz.Proofs.FlatLower
open Wz.Spec Wz.Spec.Wasm Wz.Model.FlatLower

def LabelsIn (ops : List SymOp) (lo hi : Nat) : Prop :=
  (labelsOf ops).Nodup ∧ ∀ l, l ∈ labelsOf ops → lo < l.id ∧ l.id ≤ hi

theorem LabelsIn.of_no_labels {ops : List SymOp} (h : labelsOf ops = []) (lo hi : Nat) : LabelsIn ops lo hi := by
  unfold LabelsIn; rw [h]; exact ⟨List.nodup_nil, fun _ h => by simp at h⟩

theorem LabelsIn.mono {ops lo hi lo' hi'} (h : LabelsIn ops lo hi) (h1 : lo' ≤ lo) (h2 : hi ≤ hi') : LabelsIn ops lo' hi' :=
  ⟨h.1, fun l hl => by have := h.2 l hl; omega⟩

theorem LabelsIn.append {a b : List SymOp} {lo mid hi : Nat} (ha : LabelsIn a lo mid) (hb : LabelsIn b mid hi)
    (h1 : lo ≤ mid) (h2 : mid ≤ hi) : LabelsIn (a ++ b) lo hi := by
  refine ⟨?_, ?_⟩
  · rw [labelsOf_append, List.nodup_append]
    refine ⟨ha.1, hb.1, fun x hx y hy hxy => ?_⟩
    subst hxy
    have := ha.2 x hx; have := hb.2 x hy; omega
  · intro l hl
    rw [labelsOf_append, List.mem_append] at hl
    rcases hl with hl | hl
    · have := ha.2 l hl; omega
    · have := hb.2 l hl; omega

theorem LabelsIn.frame {ops inner : List SymOp} {own : List Label} {lo id hi : Nat} (hin : LabelsIn inner id hi)
    (hperm : (labelsOf ops).Perm (own ++ labelsOf inner))
    (hown : own.Sublist [⟨.header, id⟩, ⟨.els, id⟩, ⟨.cont, id⟩]) (h1 : lo < id) (h2 : id ≤ hi) :
    LabelsIn ops lo hi := by
  have hid : ∀ l, l ∈ own → l.id = id := fun l hl => by
    have := hown.subset hl
    simp only [List.mem_cons, List.not_mem_nil, or_false] at this
    rcases this with rfl | rfl | rfl <;> rfl
  refine ⟨hperm.nodup_iff.mpr (List.nodup_append.mpr ⟨hown.nodup (by simp), hin.1, fun x hx y hy hxy => ?_⟩),
    fun l hl => ?_⟩
  · subst hxy; have := hid x hx; have := hin.2 x hy; omega
  · rcases List.mem_append.mp (hperm.mem_iff.mp hl) with hl | hl
    · have := hid l hl; omega
    · have := hin.2 l hl; omega

theorem labelsOf_emitDrop (d : DropR) : labelsOf (emitDrop d : List SymOp) = [] := by
  cases d <;> rfl

theorem labelsOf_endCode {F : Fr} {isEnd : Bool} {live dead : List SymOp}
    (h : (labelsOf live).Sublist (labelsOf dead)) (rh : Option Nat) :
    (labelsOf (endCode F isEnd live dead rh)).Sublist (labelsOf dead) := by
  cases rh with
  | none => exact List.Sublist.refl _
  | some h' => simpa [endCode, labelsOf_append, labelsOf_emitDrop] using h

theorem labelsOf_endCode_jump (F : Fr) (isEnd : Bool) (c L : Label) (rh : Option Nat) :
    labelsOf (endCode F isEnd [.br c, .label L] [.label L] rh) = [L] := by
  cases rh <;> simp [endCode, labelsOf_append, labelsOf_emitDrop, labelsOf]

/-- `lo` is the frame-id counter before the piece of code, `hi` the counter after it -/
structure Scoped (ops : List SymOp) (fs : List Fr) (tg : Nat → Bool) (lo hi : Nat) : Prop where
  le : lo ≤ hi
  labels : LabelsIn ops lo hi
  refs : FuncLast fs → RefsOK ops fs tg

/- By the induction principle of the lowering itself (`lowerI` and `lowerS` together): the hypotheses about the bodies
arrive with the frame and the counter the lowering gives them.
References of a structured instruction: the code is cut into the frame's own operations, which refer to labels of
the frame that the code defines (`RefsIn.defined`), and the bodies, moved out of the frame by `RefsIn.lift`.  The `simp`
closes what the cut leaves: the labels of a body are among those of the whole, and so is the frame's label when the
body branches to the frame (`targetsS 0`); `targetsS (k + 1)` of a body is `targetsI k` of the instruction. -/
theorem lower_scoped :
    (∀ fs h next i, Scoped (lowerI fs h next i).ops fs (targetsI · i) next (lowerI fs h next i).next) ∧
    ∀ fs h next is, Scoped (lowerS fs h next is).ops fs (targetsS · is) next (lowerS fs h next is).next := by
  apply lowerI.mutual_induct
  -- `return`
  case case10 =>
    intro fs h next
    unfold lowerI
    refine ⟨Nat.le_refl _, .of_no_labels (by rw [labelsOf_append, labelsOf_emitDrop]; rfl) _ _, fun hf =>
      refsOK_iff.mpr fun l hl => .inl ?_⟩
    simp only [allRefs_drop_br, List.mem_singleton] at hl
    simp only [hl, Fr.label, hf.2]
  -- `br l`
  case case11 =>
    intro fs h next l
    unfold lowerI
    exact ⟨Nat.le_refl _, .of_no_labels (by rw [labelsOf_append, labelsOf_emitDrop]; rfl) _ _, fun _ =>
      RefsOK.branch _ fs l _ (by simp [targetsI])⟩
  -- `br_if l`
  case case12 =>
    intro fs h next l
    unfold lowerI
    refine ⟨Nat.le_succ _, .frame (inner := []) (own := [⟨.header, next + 1⟩]) (.of_no_labels rfl _ _)
      (List.Perm.refl _) (by simp) (Nat.lt_succ_self _) (Nat.le_refl _), fun _ => refsOK_iff.mpr fun l' hl => ?_⟩
    simp only [allRefs_cons, allRefs_nil, refsOf, List.append_nil, List.mem_cons, List.not_mem_nil, or_false] at hl
    rcases hl with rfl | rfl
    · exact .inr (.inr ⟨l, by simp [targetsI], rfl⟩)
    · exact .inr (.inl (by simp [labelsOf]))
  -- `br_table ls d`
  case case13 =>
    intro fs h next ls d
    unfold lowerI
    refine ⟨Nat.le_refl _, .of_no_labels rfl _ _, fun _ => refsOK_iff.mpr fun l' hl => ?_⟩
    simp only [allRefs_cons, allRefs_nil, refsOf, List.append_nil, List.map_append, List.map_map, List.map_cons,
      List.map_nil, List.mem_append, List.mem_map, List.mem_singleton, Function.comp] at hl
    rcases hl with ⟨j, hj, rfl⟩ | rfl
    · exact .inr (.inr ⟨j, by simp [targetsI, hj], rfl⟩)
    · exact .inr (.inr ⟨d, by simp [targetsI], rfl⟩)
  -- `block bt body`
  case case14 =>
    intro fs h next bt body
    -- before the hypothesis about the body is introduced: the principle states it with local definitions (`id`, `fr`),
    -- which `simp` unfolds in the goal
    simp only [lowerI_block]
    intro ih
    refine ⟨by have := ih.le; omega, ?_, fun hf => refsOK_iff.mpr ?_⟩
    · generalize hE : endCode _ _ _ _ _ = E
      have hs : (labelsOf E).Sublist [⟨.cont, next + 1⟩] := hE ▸ labelsOf_endCode (by split <;> simp [labelsOf]) _
      exact .frame ih.labels (by rw [labelsOf_append]; exact List.perm_append_comm) (hs.trans (by simp))
        (Nat.lt_succ_self _) ih.le
    · rw [labelsOf_append]
      refine .append (.lift (ih.refs (hf.push _)) ?_ ?_ ?_) (.endCode (.defined ?_) (.defined ?_)) <;>
        by_cases htg : targetsS 0 body = true <;>
        simp +contextual [allRefs_cons, allRefs_nil, refsOf, Fr.label, targetsI, htg, labelsOf_endCode_jump]
  -- `loop bt body`
  case case15 =>
    intro fs h next bt body
    simp only [lowerI_loop]
    intro ih
    refine ⟨by have := ih.le; omega, ?_, fun hf => refsOK_iff.mpr ?_⟩
    · generalize hE : endCode _ _ _ _ _ = E
      have hs : (labelsOf E).Sublist [⟨.cont, next + 1⟩] := hE ▸ labelsOf_endCode (by simp [labelsOf]) _
      refine .frame ih.labels (own := ⟨.header, next + 1⟩ :: labelsOf E) ?_ ((hs.cons_cons _).trans (by simp))
        (Nat.lt_succ_self _) ih.le
      exact List.perm_iff_count.mpr fun a => by
        simp only [labelsOf_append, labelsOf, List.count_append, List.count_cons, List.count_nil]; omega
    · simp only [labelsOf_append, labelsOf]
      refine .append (.append (.defined ?_) (.lift (ih.refs (hf.push _)) ?_ ?_ ?_))
        (.endCode (.defined ?_) (.defined ?_)) <;>
        simp +contextual [allRefs_cons, allRefs_nil, refsOf, Fr.label, targetsI]
  -- `if bt th else el`
  case case16 =>
    intro fs h next bt th el
    simp only [lowerI_ite]
    intro ih1 ih2
    have hle := Nat.le_trans ih1.le ih2.le
    refine ⟨by omega, ?_, fun hf => refsOK_iff.mpr ?_⟩
    · refine .frame (.append ih1.labels ih2.labels ih1.le ih2.le)
        (own := [⟨.header, next + 1⟩, ⟨.els, next + 1⟩, ⟨.cont, next + 1⟩]) ?_ (List.Sublist.refl _)
        (Nat.lt_succ_self _) hle
      exact List.perm_iff_count.mpr fun a => by
        simp only [labelsOf_append, labelsOf, labelsOf_endCode_jump, List.count_append, List.count_cons,
          List.count_nil]
        omega
    · simp only [labelsOf_append, labelsOf_endCode_jump, labelsOf]
      refine .append (.append (.append (.append (.defined ?_) (.lift (ih1.refs (hf.push _)) ?_ ?_ ?_))
        (.endCode (.defined ?_) (.defined ?_))) (.lift (ih2.refs (hf.push _)) ?_ ?_ ?_))
        (.endCode (.defined ?_) (.defined ?_)) <;>
        simp +contextual [allRefs_cons, allRefs_nil, refsOf, Fr.label, targetsI]
  -- the empty body
  case case17 =>
    exact fun fs h next =>
      ⟨Nat.le_refl _, .of_no_labels rfl _ _, fun _ => refsOK_iff.mpr fun l hl => by simp [lowerS, allRefs] at hl⟩
  -- `i :: rest`, `i` ends unreachable: `rest` is skipped
  case case18 =>
    intro fs h next i rest _ hi ih1
    rw [lowerS_cons_none rest hi]
    exact ⟨ih1.le, ih1.labels, fun hf =>
      refsOK_iff.mpr ((refsOK_iff.mp (ih1.refs hf)).mono (fun _ h => h) (fun k hk => by simp [targetsS, hk]))⟩
  -- `i :: rest`, `i` ends at height `h'`
  case case19 =>
    intro fs h next i rest _ h' hi ih1 ih2
    rw [lowerS_cons_some rest hi]
    exact ⟨Nat.le_trans ih1.le ih2.le, ih1.labels.append ih2.labels ih1.le ih2.le, fun hf =>
      (ih1.refs hf).append (ih2.refs hf) (fun k hk => by simp [targetsS, hk])
        (fun k hk => by simp [targetsS, not_terminator_of_live hi, hk])⟩
  -- the instructions that neither define nor refer to a label
  all_goals
    intros
    unfold lowerI
    exact ⟨Nat.le_refl _, .of_no_labels rfl _ _, fun _ => refsOK_iff.mpr fun l hl => by
      simp [allRefs_cons, allRefs_nil, refsOf] at hl⟩

theorem lowerI_labels : ∀ (i : FI) (fs : List Fr) (h next : Nat),
    next ≤ (lowerI fs h next i).next ∧ LabelsIn (lowerI fs h next i).ops next (lowerI fs h next i).next :=
  fun i fs h next => ⟨(lower_scoped.1 fs h next i).le, (lower_scoped.1 fs h next i).labels⟩

theorem labelsOf_consts (ts : List Ty) : labelsOf (ts.map (fun t => (Op.const t 0 : SymOp))) = [] := by
  induction ts with
  | nil => rfl
  | cons t ts ih => simpa [labelsOf] using ih

theorem lowerSym_nodup (f : Fn) : (labelsOf (lowerSym f)).Nodup := by
  unfold lowerSym
  have ih := (lower_scoped.2 [f.frame] (f.params.length + f.locals.length) 1 f.body).labels
  generalize lowerS [f.frame] (f.params.length + f.locals.length) 1 f.body = r at ih ⊢
  obtain ⟨ops, nx, rh⟩ := r
  cases rh <;> simpa [labelsOf_append, labelsOf_consts, labelsOf_emitDrop, labelsOf] using ih.1

theorem lowerSym_refs (f : Fn) : ∀ l, l ∈ allRefs (lowerSym f) → l.kind = .ret ∨ l ∈ labelsOf (lowerSym f) := by
  have ih := refsOK_iff.mp ((lower_scoped.2 [f.frame] (f.params.length + f.locals.length) 1 f.body).refs
    ⟨by simp, by simp [Fn.frame, List.getLastD]⟩)
  unfold lowerSym
  generalize lowerS [f.frame] (f.params.length + f.locals.length) 1 f.body = r at ih ⊢
  intro l hl
  simp only [allRefs_append, List.mem_append] at hl
  rcases hl with (hl | hl) | hl
  · obtain ⟨op, hop, hl⟩ := List.mem_flatMap.mp hl
    obtain ⟨t, _, rfl⟩ := List.mem_map.mp hop
    cases hl
  · rcases ih l hl with h | h | ⟨k, _, rfl⟩
    · exact .inl h
    · exact .inr (by simp [labelsOf_append, h])
    · exact .inl (by cases k <;> simp [frameAt, Fn.frame, Fr.label])
  · left
    cases hrh : r.h with
    | none => simp [hrh, allRefs_nil] at hl
    | some h' =>
      simp only [hrh, allRefs_drop_br, List.mem_singleton] at hl
      rw [hl]

end Wz.Proofs.FlatLower
