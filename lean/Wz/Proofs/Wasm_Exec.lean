import Wz.Spec.Wasm

/-!
Equations of the reference semantics `Wz.Spec.Wasm.execSeq` / `execInstr` / `invoke`, for the forms of input on which
the defining equation is not what a proof wants to rewrite with.  `numOut`, `catchBlock` and `bodyOut` name the part
of a case of the interpreter that its users' statements speak of; `weightI` / `weightS` bound the fuel that structured code
uses without repeating a loop.
-/
namespace Wz.Spec.Wasm
variable {m : Module} {n : Nat} {fr : Frame} {st : Store}

theorem execInstr_zero {i : Instr} : execInstr m 0 i fr st = (.exhausted, fr, st) := by
  unfold execInstr; rfl

theorem execSeq_zero {is : List Instr} : execSeq m 0 is fr st = (.exhausted, fr, st) := by
  unfold execSeq; rfl

theorem execSeq_nil : execSeq m (n + 1) [] fr st = (.next, fr, st) := rfl

theorem execSeq_cons (i : Instr) (rest : List Instr) :
    execSeq m (n + 1) (i :: rest) fr st =
      match execInstr m n i fr st with
      | (.next, fr', st') => execSeq m n rest fr' st'
      | r => r := rfl

theorem execSeq_cons_next {i : Instr} {fr' : Frame} {st' : Store} (rest : List Instr)
    (h : execInstr m n i fr st = (.next, fr', st')) :
    execSeq m (n + 1) (i :: rest) fr st = execSeq m n rest fr' st' := by
  rw [execSeq, h]

theorem execSeq_cons_other {i : Instr} (rest : List Instr) (h : (execInstr m n i fr st).1 ≠ .next) :
    execSeq m (n + 1) (i :: rest) fr st = execInstr m n i fr st := by
  rw [execSeq]
  generalize execInstr m n i fr st = out at h ⊢
  rcases out with ⟨ctl, fr', st'⟩
  cases ctl <;> first | rfl | exact absurd rfl h

/-! `execSeq` and the `loop` case of `execInstr` are a `match` on the result of a recursive call whose alternatives
call the interpreter again (`execSeq_cons`, `execInstr_loop`).  `simp` rewrites the alternatives of a `match` before it
knows which one is taken, so with those equations it runs the rest of the program (and every further loop iteration)
on an unknown frame when it evaluates a concrete input.  In the `_if` forms the continuation is the branch of an `if`
on the evaluated result, which `simp` decides first.  (`block` needs none: in `execInstr_block` the alternatives are
inside `catchBlock`.) -/

theorem execSeq_cons_if (i : Instr) (rest : List Instr) :
    execSeq m (n + 1) (i :: rest) fr st =
      if (execInstr m n i fr st).1 = .next then execSeq m n rest (execInstr m n i fr st).2.1 (execInstr m n i fr st).2.2
      else execInstr m n i fr st := by
  split
  · rename_i h
    exact execSeq_cons_next rest (by rw [← h])
  · exact execSeq_cons_other rest ‹_›

/-- the outcome of a numeric instruction whose operands have been popped (`s`: the rest of the stack) -/
def numOut (r : Option Num.Res) (fr : Frame) (s : List Nat) (st : Store) : Ctl × Frame × Store :=
  match r with
  | some r =>
    match numResult r with
    | .ok v => (.next, { fr with stack := v :: s }, st)
    | .error k => (.trap k, fr, st)
  | none => (.trap "unsupported", fr, st)

theorem execInstr_num1 (name : String) (a : Nat) (s : List Nat) (locs : Array Nat) :
    execInstr m (n + 1) (.num1 name) ⟨a :: s, locs⟩ st = numOut (Num.scalar name [a]) ⟨a :: s, locs⟩ s st := rfl

theorem execInstr_num2 (name : String) (a b : Nat) (s : List Nat) (locs : Array Nat) :
    execInstr m (n + 1) (.num2 name) ⟨b :: a :: s, locs⟩ st =
      numOut (Num.scalar name [a, b]) ⟨b :: a :: s, locs⟩ s st := rfl

theorem execInstr_localGet (i : Nat) :
    execInstr m (n + 1) (.localGet i) fr st = (.next, { fr with stack := fr.locals[i]! :: fr.stack }, st) := rfl

theorem execInstr_localSet (i v : Nat) (s : List Nat) (locs : Array Nat) :
    execInstr m (n + 1) (.localSet i) ⟨v :: s, locs⟩ st = (.next, ⟨s, locs.set! i v⟩, st) := rfl

theorem execInstr_localTee (i v : Nat) (s : List Nat) (locs : Array Nat) :
    execInstr m (n + 1) (.localTee i) ⟨v :: s, locs⟩ st = (.next, ⟨v :: s, locs.set! i v⟩, st) := rfl

theorem execInstr_brIf (l c : Nat) (s : List Nat) (locs : Array Nat) :
    execInstr m (n + 1) (.brIf l) ⟨c :: s, locs⟩ st =
      if c % 2 ^ 32 != 0 then (.br l, ⟨s, locs⟩, st) else (.next, ⟨s, locs⟩, st) := rfl

theorem execInstr_brTable (ls : List Nat) (d c : Nat) (s : List Nat) (locs : Array Nat) :
    execInstr m (n + 1) (.brTable ls d) ⟨c :: s, locs⟩ st = (.br (ls.getD (c % 2 ^ 32) d), ⟨s, locs⟩, st) := rfl

theorem execInstr_load (t : VT) (width : Nat) (signed : Bool) (off a : Nat) (s : List Nat) (locs : Array Nat) :
    execInstr m (n + 1) (.load t width signed off) ⟨a :: s, locs⟩ st =
      if a + off + width / 8 > st.mem.size then (.trap "oob-memory", ⟨a :: s, locs⟩, st)
      else
        (.next, ⟨(if signed then signExt width t.bits (readLE st.mem (a + off) (width / 8))
                  else readLE st.mem (a + off) (width / 8)) :: s, locs⟩, st) := rfl

theorem execInstr_store (width off v a : Nat) (s : List Nat) (locs : Array Nat) :
    execInstr m (n + 1) (.store width off) ⟨v :: a :: s, locs⟩ st =
      if a + off + width / 8 > st.mem.size then (.trap "oob-memory", ⟨v :: a :: s, locs⟩, st)
      else (.next, ⟨s, locs⟩, { st with mem := writeLE st.mem (a + off) (width / 8) (v % 2 ^ width) }) := rfl

theorem execInstr_memSize :
    execInstr m (n + 1) .memSize fr st = (.next, { fr with stack := (st.mem.size / pageSize) :: fr.stack }, st) := rfl

/-- what `block` does with the outcome of its body (`hgt`: stack height at entry) -/
def catchBlock (ar hgt : Nat) : Ctl × Frame × Store → Ctl × Frame × Store
  | (.br 0, fr', st') =>
    (.next, { fr' with stack := (splitTop fr'.stack ar).1 ++ fr'.stack.drop (fr'.stack.length - hgt) }, st')
  | (.br (n + 1), fr', st') => (.br n, fr', st')
  | r => r

theorem execInstr_block (ar : Nat) (body : List Instr) :
    execInstr m (n + 1) (.block ar body) fr st = catchBlock ar fr.stack.length (execSeq m n body fr st) := rfl

theorem execInstr_ite (ar : Nat) (th el : List Instr) (c : Nat) (s : List Nat) (locs : Array Nat) :
    execInstr m (n + 1) (.ite ar th el) ⟨c :: s, locs⟩ st =
      execInstr m n (.block ar (if c % 2 ^ 32 != 0 then th else el)) ⟨s, locs⟩ st := rfl

theorem execInstr_loop (body : List Instr) :
    execInstr m (n + 1) (.loop body) fr st =
      match execSeq m n body fr st with
      | (.br 0, fr', st') =>
        execInstr m n (.loop body) { fr' with stack := fr'.stack.drop (fr'.stack.length - fr.stack.length) } st'
      | (.br (k + 1), fr', st') => (.br k, fr', st')
      | r => r := rfl

theorem execInstr_loop_if (body : List Instr) :
    execInstr m (n + 1) (.loop body) fr st =
      if (execSeq m n body fr st).1 = .br 0 then
        execInstr m n (.loop body)
          ⟨(execSeq m n body fr st).2.1.stack.drop ((execSeq m n body fr st).2.1.stack.length - fr.stack.length),
            (execSeq m n body fr st).2.1.locals⟩ (execSeq m n body fr st).2.2
      else
        match (execSeq m n body fr st).1 with
        | .br (k + 1) => (.br k, (execSeq m n body fr st).2)
        | _ => execSeq m n body fr st := by
  rw [execInstr_loop]
  generalize execSeq m n body fr st = r
  obtain ⟨c, fr', st'⟩ := r
  cases c with
  | br k => cases k <;> rfl
  | _ => rfl

/-- what a call makes of the outcome of the callee's body: every way of leaving the body returns -/
def bodyOut (nres : Nat) : Ctl × Frame × Store → Outcome × Store
  | (.trap kd, _, st) => (.trap kd, st)
  | (.exhausted, _, st) => (.exhausted, st)
  | (_, fr, st) => (.values (fr.stack.take nres).reverse, st)

theorem invoke_single {M : Module} {pt rt lt : List VT} {code : List Instr}
    (himp : M.imports = []) (hty : M.types = [⟨pt, rt⟩]) (hfn : M.funcs = [⟨0, lt, code⟩]) (args : List Nat)
    (hlen : args.length = pt.length) (k : Nat) (st0 : Store) :
    invoke M (k + 1) 0 args st0 =
      bodyOut rt.length (execSeq M k code ⟨[], (args ++ lt.map fun _ => 0).toArray⟩ { st0 with log := [] }) := by
  have htake : args.reverse.take pt.length = args.reverse := List.take_of_length_le (by simp [hlen])
  have hdrop : args.reverse.drop pt.length = [] := List.drop_of_length_le (by simp [hlen])
  simp only [invoke, callFunc, funcType, himp, hty, hfn, List.length_nil, Nat.lt_irrefl, if_false,
    Nat.sub_zero, List.getD_cons_zero, htake, hdrop, List.reverse_reverse, List.append_nil]
  generalize execSeq _ k code _ _ = r
  obtain ⟨ctl, fr, st⟩ := r
  cases ctl <;> simp only [bodyOut, List.take_take, Nat.min_self]

/-- `invoke_single` in the form the one-function modules of the fragments have: their types are the images under `g` of
a type enumeration `α` of their own -/
theorem invoke_single_map {α} {g : α → VT} {M : Module} {pt rt lt : List α} {code : List Instr}
    (himp : M.imports = []) (hty : M.types = [⟨pt.map g, rt.map g⟩]) (hfn : M.funcs = [⟨0, lt.map g, code⟩])
    (args : List Nat) (hlen : args.length = pt.length) (k : Nat) (st0 : Store) :
    invoke M (k + 1) 0 args st0 =
      bodyOut rt.length (execSeq M k code ⟨[], (args ++ lt.map fun _ => 0).toArray⟩ { st0 with log := [] }) := by
  have h := invoke_single himp hty hfn args (hlen.trans (List.length_map _).symm) k st0
  rw [List.map_map, List.length_map] at h
  exact h

mutual
/-- The fuel of `execSeq` / `execInstr` is a budget of positions, not of steps: `execSeq` spends one unit per instruction
of a sequence and `execInstr` one per nesting level (an `if` two: itself and the `block` it becomes).  Code that is run
through once, no loop repeated, therefore exhausts no budget above its weight (sums where maxima would do: any bound
serves), and a run that exhausts the budget `n` has spent at least `n - weight` units on repeating loops, one per
iteration.  A machine that simulates the reference semantics pays at least one step of its own per iteration, so it has
made `n - weightS code` steps when the budget `n` runs out: on this bound divergence and the backward direction of the
refinements of structured control (`C01_FlatLower`, `C01_FrontCF`) rest. -/
def weightI : Instr → Nat
  | .block _ b => weightS b + 1
  | .loop b => weightS b + 1
  | .ite _ t e => weightS t + weightS e + 2
  | _ => 0
def weightS : List Instr → Nat
  | [] => 0
  | i :: rest => weightI i + weightS rest + 1
end

end Wz.Spec.Wasm
