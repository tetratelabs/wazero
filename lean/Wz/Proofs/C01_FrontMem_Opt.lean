/-
C01 (front end with memory accesses): the validator `optOK` / `optValid` (no-op shifts become aliases, operands are
resolved, dead code is deleted) is sound (`opt_sound`; for whole functions `Wz.C01.frontmem_opt_validated`): accepted pairs
of one-block functions have the same outcome.
Invariant `VInv` between the run of the original (`st`) and of the optimised function (`st'`): same memory and trace;
the environments agree on every value that is neither dead nor aliased; an aliased value equals its target in the
ORIGINAL run, and the target is neither dead nor aliased; recorded types and constants hold in the original run;
everything mentioned is already defined, and every new definition is fresh.
-/
import Wz.Proofs.C01_FrontMem_Lockstep
import Wz.Proofs.C01_SsaPass_Typed

namespace Wz.Proofs.FrontMem
open Wz.Model.SsaPass Wz.Model.FrontendMem

theorem lookupConst_mem : ∀ (cs : List (Val × Ty × Nat)) (v : Nat) (e : Ty × Nat),
    lookupConst cs v = some e → (v, e) ∈ cs := by
  intro cs
  induction cs with
  | nil => intro v e h; cases h
  | cons p rest ih =>
    intro v e h
    obtain ⟨k, e0⟩ := p
    simp only [lookupConst] at h
    split at h
    · rename_i hk; subst hk; cases h; exact List.mem_cons_self ..
    · exact List.mem_cons_of_mem _ (ih v e h)

theorem stepM_frame (w : World) (i : MInstr) (st : St) (v : Nat) (h : v ∉ i.results) :
    (stepM w i st).st.env v = st.env v := by
  cases i with
  | base j => exact exec_frame w st.env j st v h
  | extload op r ty p off =>
    simp only [MInstr.results, List.mem_singleton] at h
    simp [stepM, Ctl.st, St.set, upd, h]

theorem evalExt_lt (op : ExtOp) (ty : Ty) (raw : Nat) : evalExt op ty raw < 2 ^ ty.bits := by
  unfold evalExt
  split
  · exact BitVec.isLt _
  · exact norm_lt _ _

theorem bindVals_typed (ps : List (Val × Ty)) (vs : List Nat) (e : Val → Nat) (hnd : (ps.map (·.1)).Nodup) (v : Val)
    (t : Ty) (hm : (v, t) ∈ ps) : bindVals e ps vs v < 2 ^ t.bits := by
  obtain ⟨k, hk⟩ := List.mem_iff_getElem?.mp hm
  exact Nat.lt_of_le_of_lt (Nat.le_of_eq (bindVals_at _ k vs _ (v, t) hnd hk)) (norm_lt ..)

theorem stepM_typed (w : World) (i : MInstr) (st st1 : St) (h : stepM w i st = .next st1) (hc : i.isCall = false) :
    ∀ r t, (r, t) ∈ i.typedResults → st1.env r < 2 ^ t.bits := by
  intro r t hm
  cases i with
  | extload op r0 ty p off =>
    simp only [MInstr.typedResults, List.mem_singleton, Prod.mk.injEq] at hm
    obtain ⟨rfl, rfl⟩ := hm
    simp only [stepM, Ctl.next.injEq] at h
    subst h
    simp only [St.set, upd, if_true]
    exact evalExt_lt _ _ _
  | base j =>
    -- an instruction other than a call has at most one result, which `bindVals` reduces to its type
    have hnd : (j.typedResults.map (·.1)).Nodup := by
      cases j <;> simp [Instr.typedResults, MInstr.isCall] at hc ⊢
    cases execInstr_step w st.env j st with
    | next outs m tr _ hk => cases (hk st.env).symm.trans h; exact bindVals_typed _ outs _ hnd r t hm
    | _ => rename_i hk; cases (hk st.env).symm.trans h

structure VInv (s : VSt) (st' st : St) : Prop where
  mem : st'.mem = st.mem
  tr : st'.trace = st.trace
  agree : ∀ v : Nat, v ∉ s.dead → aliasGet s.al v = none → st'.env v = st.env v
  al : ∀ k x : Nat, (k, x) ∈ s.al →
    st.env k = st.env x ∧ x ∉ s.dead ∧ aliasGet s.al x = none ∧ k ∈ s.seen ∧ x ∈ s.seen
  tys : ∀ (v : Nat) (t : Ty), (v, t) ∈ s.tys → st.env v < 2 ^ t.bits ∧ v ∈ s.seen
  consts : ∀ (v : Nat) (cty : Ty) (c : Nat), (v, cty, c) ∈ s.consts → st.env v = norm cty c ∧ v ∈ s.seen
  dead : ∀ v : Nat, v ∈ s.dead → v ∈ s.seen

variable {w : World} {s : VSt} {st' st : St}

theorem VInv.operand (h : VInv s st' st) (o : Nat) (hd : res s.al o ∉ s.dead) : st'.env (res s.al o) = st.env o := by
  unfold res at hd ⊢
  cases hg : aliasGet s.al o with
  | none =>
    rw [hg] at hd
    exact h.agree o hd hg
  | some x =>
    rw [hg] at hd
    obtain ⟨e1, _, e3, _, _⟩ := h.al o x (aliasGet_mem hg)
    simp only [Option.getD_some] at hd ⊢
    rw [h.agree x hd e3, e1]

theorem VInv.res_facts (h : VInv s st' st) (x : Nat) (hx : x ∈ s.seen) :
    st.env (res s.al x) = st.env x ∧ aliasGet s.al (res s.al x) = none ∧ res s.al x ∈ s.seen := by
  unfold res
  cases hg : aliasGet s.al x with
  | none => exact ⟨rfl, hg, hx⟩
  | some y =>
    obtain ⟨e1, _, e3, _, e5⟩ := h.al x y (aliasGet_mem hg)
    exact ⟨e1.symm, e3, e5⟩

theorem typedResults_fst (i : MInstr) : i.typedResults.map (·.1) = i.results := by
  cases i with
  | extload => rfl
  | base j => exact Wz.Model.SsaPass.typedResults_fst j

/-- the part of the invariant that only concerns the ORIGINAL run, after it has executed `i` (fresh results) -/
theorem VInv.orig_step (h : VInv s st' st) (i : MInstr) (st1 : St) (hstep : stepM w i st = .next st1)
    (hfresh : ∀ r ∈ i.results, r ∉ s.seen) :
    (∀ v : Nat, v ∈ s.seen → st1.env v = st.env v) ∧
    (∀ (v : Nat) (t : Ty), (v, t) ∈ (s.define i).tys → st1.env v < 2 ^ t.bits ∧ v ∈ (s.define i).seen) ∧
    (∀ (v : Nat) (cty : Ty) (c : Nat), (v, cty, c) ∈ (s.define i).consts →
      st1.env v = norm cty c ∧ v ∈ (s.define i).seen) := by
  have hframe : ∀ v : Nat, v ∈ s.seen → st1.env v = st.env v := by
    intro v hv
    have := stepM_frame w i st v (fun hm => hfresh v hm hv)
    rw [hstep] at this
    exact this
  refine ⟨hframe, ?_, ?_⟩
  · intro v t hm
    simp only [VSt.define] at hm ⊢
    rcases List.mem_append.mp hm with hm | hm
    · by_cases hc : i.isCall = true
      · rw [if_pos hc] at hm; cases hm
      · rw [if_neg hc] at hm
        refine ⟨stepM_typed w i st st1 hstep (by simpa using hc) v t hm, List.mem_append_left _ ?_⟩
        rw [← typedResults_fst]
        exact List.mem_map.mpr ⟨(v, t), hm, rfl⟩
    · obtain ⟨h1, h2⟩ := h.tys v t hm
      exact ⟨by rw [hframe v h2]; exact h1, List.mem_append_right _ h2⟩
  · intro v cty c hm
    simp only [VSt.define] at hm ⊢
    rcases List.mem_append.mp hm with hm | hm
    · -- only an `Iconst` records a constant
      split at hm
      · simp only [List.mem_singleton, Prod.mk.injEq] at hm
        obtain ⟨rfl, rfl, rfl⟩ := hm
        simp only [stepM, execInstr, Ctl.next.injEq] at hstep
        subst hstep
        exact ⟨by simp only [St.set, upd, if_true], List.mem_append_left _ (by simp [MInstr.results, Instr.results])⟩
      · cases hm
    · obtain ⟨h1, h2⟩ := h.consts v cty c hm
      exact ⟨by rw [hframe v h2]; exact h1, List.mem_append_right _ h2⟩

/-- KEEP: both runs execute the instruction (the optimised one with resolved operands) -/
theorem VInv.keep (h : VInv s st' st) (i : MInstr) (s1' s1 : St) (hstep : stepM w i st = .next s1)
    (hpost : Post i st' st s1' s1) (hfresh : ∀ r ∈ i.results, r ∉ s.seen) : VInv (s.define i) s1' s1 := by
  obtain ⟨hframe, htys, hconsts⟩ := h.orig_step i s1 hstep hfresh
  refine ⟨hpost.mem, hpost.trace, ?_, ?_, htys, hconsts, ?_⟩
  · intro v hd hg
    apply hpost.env
    by_cases hv : v ∈ i.results
    · exact .inl hv
    · exact .inr (h.agree v hd hg)
  · intro k x hm
    obtain ⟨e1, e2, e3, e4, e5⟩ := h.al k x hm
    exact ⟨by rw [hframe k e4, hframe x e5]; exact e1, e2, e3, List.mem_append_right _ e4, List.mem_append_right _ e5⟩
  · intro v hv
    exact List.mem_append_right _ (h.dead v hv)

/-- DELETE: only the original run executes the instruction; its results become dead -/
theorem VInv.delete (h : VInv s st' st) (i : MInstr) (s1 : St) (hstep : stepM w i st = .next s1)
    (hmem : s1.mem = st.mem) (htr : s1.trace = st.trace) (hfresh : ∀ r ∈ i.results, r ∉ s.seen) :
    VInv { s.define i with dead := i.results ++ s.dead } st' s1 := by
  obtain ⟨hframe, htys, hconsts⟩ := h.orig_step i s1 hstep hfresh
  have hfr2 : ∀ v : Nat, v ∉ i.results → s1.env v = st.env v := by
    intro v hv
    have := stepM_frame w i st v hv
    rw [hstep] at this
    exact this
  refine ⟨by rw [hmem]; exact h.mem, by rw [htr]; exact h.tr, ?_, ?_, htys, hconsts, ?_⟩
  · intro v hd hg
    have hd1 : v ∉ i.results := fun hm => hd (List.mem_append_left _ hm)
    have hd2 : v ∉ s.dead := fun hm => hd (List.mem_append_right _ hm)
    rw [hfr2 v hd1]
    exact h.agree v hd2 hg
  · intro k x hm
    obtain ⟨e1, e2, e3, e4, e5⟩ := h.al k x hm
    refine ⟨by rw [hframe k e4, hframe x e5]; exact e1, ?_, e3, List.mem_append_right _ e4, List.mem_append_right _ e5⟩
    intro hx
    rcases List.mem_append.mp hx with hx | hx
    · exact hfresh x hx e5
    · exact e2 hx
  · intro v hv
    rcases List.mem_append.mp hv with hv | hv
    · exact List.mem_append_left _ hv
    · exact List.mem_append_right _ (h.dead v hv)

/-- ALIAS: the original run executes a no-op shift; its result is aliased to the resolved operand -/
theorem VInv.alias (h : VInv s st' st) (i : MInstr) (a : Val × Val) (ha : nopAlias s i = some a)
    (hfresh : ∀ r ∈ i.results, r ∉ s.seen) :
    i.removable = true ∧ ∀ s1, stepM w i st = .next s1 → VInv { s.define i with al := a :: s.al } st' s1 := by
  -- `nopAlias` answers for one form only: a shift by a recorded constant
  revert ha
  fun_cases nopAlias s i <;> intro ha <;> cases ha
  next op r ty x c hop cty cv hc hcond =>
    obtain ⟨hmod, hty, hnd⟩ := hcond
    have hshift : isShift op := hop.elim .inl (fun h => h.elim (.inr ∘ .inr) (.inr ∘ .inl))
    refine ⟨rfl, fun s1 hstep => ?_⟩
    obtain ⟨hframe, htys, hconsts⟩ := h.orig_step (.base (.bin op r ty x c)) s1 hstep hfresh
    obtain ⟨_, hs, hmem, htr, hfr2⟩ := stepM_removable w (.base (.bin op r ty x c)) rfl st
    rw [hstep] at hs
    cases hs
    have hrfresh : r ∉ s.seen := hfresh r (List.mem_singleton_self r)
    obtain ⟨hxlt, hxseen⟩ := h.tys x ty hty
    obtain ⟨hcval, _⟩ := h.consts c cty cv (lookupConst_mem _ _ _ hc)
    obtain ⟨hrx, hrnone, hrseen⟩ := h.res_facts x hxseen
    have hval : s1.env r = st.env x := by
      simp only [stepM, execInstr, Ctl.next.injEq] at hstep
      subst hstep
      simp only [St.set, upd, if_true]
      rw [hcval]
      exact evalBin_shift_zero hshift ty hxlt (amount_zero cty ty cv hmod)
    have hne : res s.al x ≠ r := fun e => hrfresh (e ▸ hrseen)
    refine ⟨by rw [hmem]; exact h.mem, by rw [htr]; exact h.tr, ?_, ?_, htys, hconsts,
      fun v hv => List.mem_append_right _ (h.dead v hv)⟩
    · intro v hd hg
      simp only [aliasGet] at hg
      split at hg
      · cases hg
      · rename_i hvr
        rw [hfr2 v (fun hm => hvr (List.mem_singleton.mp hm).symm)]
        exact h.agree v hd hg
    · intro k y hm
      rcases List.mem_cons.mp hm with heq | hm
      · cases heq
        refine ⟨by rw [hval, hfr2 _ (fun hm => hne (List.mem_singleton.mp hm)), hrx], hnd, ?_,
          List.mem_append_left _ (List.mem_singleton_self _), List.mem_append_right _ hrseen⟩
        simp only [aliasGet, if_neg (Ne.symm hne)]
        exact hrnone
      · obtain ⟨e1, e2, e3, e4, e5⟩ := h.al k y hm
        refine ⟨by rw [hframe k e4, hframe y e5]; exact e1, e2, ?_, List.mem_append_right _ e4,
          List.mem_append_right _ e5⟩
        have hyr : r ≠ y := fun e => hrfresh (e ▸ e5)
        simp only [aliasGet, if_neg hyr]
        exact e3

theorem mapOperands_operands (g : Val → Val) (i : MInstr) : (i.mapOperands g).operands = i.operands.map g := by
  cases i with
  | extload => rfl
  | base j => exact Wz.Model.SsaPass.mapOperands_operands g j

theorem opt_sound (w : World) (is js : List MInstr) (s : VSt) (st' st : St) (log' log : List Acc)
    (hok : optOK s is js = true) (hI : VInv s st' st) (hlog : log'.Sublist log) :
    SameExit (execBodyL w js st' log') (execBodyL w is st log) := by
  refine lockstep_sound w (fun is js st' st => ∃ s, optOK s is js = true ∧ VInv s st' st) ?_ ?_
    is js st' st log' log ⟨s, hok, hI⟩ hlog
  · rintro (_ | _) st' st ⟨s, hok, _⟩
    · rfl
    · cases hok
  · rintro i is js st' st ⟨s, hok, hI⟩
    simp only [optOK, Bool.and_eq_true] at hok
    obtain ⟨hfr, hrest⟩ := hok
    have hfresh : ∀ r ∈ i.results, r ∉ s.seen := fun r hr => by simpa using List.all_eq_true.mp hfr r hr
    -- the original run alone executes `i`: its result becomes an alias, or dies
    have hskip : (match nopAlias s i with
          | some a => optOK { s.define i with al := a :: s.al } is js
          | none => i.removable && optOK { s.define i with dead := i.results ++ s.dead } is js) = true →
        ∃ st1, stepM w i st = .next st1 ∧ ∃ s, optOK s is js = true ∧ VInv s st' st1 := by
      intro h
      cases ha : nopAlias s i with
      | some a =>
        rw [ha] at h
        obtain ⟨hrem, hal⟩ := hI.alias (w := w) i a ha hfresh
        obtain ⟨st1, hs, _⟩ := stepM_removable w i hrem st
        exact ⟨st1, hs, _, h, hal st1 hs⟩
      | none =>
        rw [ha] at h
        simp only [Bool.and_eq_true] at h
        obtain ⟨st1, hs, hm1, ht1, _⟩ := stepM_removable w i h.1 st
        exact ⟨st1, hs, _, h.2, hI.delete i st1 hs hm1 ht1 hfresh⟩
    cases js with
    | nil => exact .inl (hskip hrest)
    | cons j js =>
      simp only at hrest
      split at hrest
      · -- both runs execute `i`, the optimised one with resolved operands, none of them dead
        rename_i hcond
        obtain ⟨rfl, hall⟩ := hcond
        have hops : ∀ o ∈ i.operands, st'.env (res s.al o) = st.env o := by
          intro o ho
          apply hI.operand
          have hmem : res s.al o ∈ (i.mapOperands (res s.al)).operands := by
            rw [mapOperands_operands]; exact List.mem_map.mpr ⟨o, ho, rfl⟩
          simpa using List.all_eq_true.mp hall _ hmem
        obtain ⟨hc, hacc⟩ := stepM_congr_map w (res s.al) i st' st hI.mem hI.tr hops
        exact .inr ⟨_, js, rfl, hacc, hc.imp (fun s1' s1 _ hs hpost => ⟨_, hrest, hI.keep i s1' s1 hs hpost hfresh⟩)
          (fun _ _ _ _ _ h => h)⟩
      · exact .inl (hskip hrest)

end Wz.Proofs.FrontMem
