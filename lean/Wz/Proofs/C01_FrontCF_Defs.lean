/-
C01 (front end, structured control flow): the vocabulary of the simulation between the reference semantics and the
SSA run of a function accepted by `FrontendCFCheck.validate`: running from a position inside a block, the invariant
of the symbolic state.
-/
import Wz.Model.FrontendCFCheck
import Wz.Proofs.C01_Front_Sim

namespace Wz.Proofs.FrontCF
open Wz.Spec Wz.Model.SsaPass Wz.Model.FrontendSL Wz.Model.FrontendCF Wz.Proofs.Front

def runPos (w : World) (g : Func) (fuel : Nat) (blk pos : Nat) (env : Val → Nat) : Outcome :=
  match execBody w [] ((instrsOf g blk).drop pos) (mk env) with
  | some (.goto b' args st') => runFrom w g fuel b' args st'
  | some (.ret vs st') => .values vs st'.mem st'.trace
  | some (.trap c st') => .trap c st'.mem st'.trace
  | _ => .error

structure Pt where
  blk : Nat
  pos : Nat
  env : Val → Nat

/-- the invariant: the symbolic stack `stk` and the symbolic locals `vars` describe the frame `fr` of the reference
semantics in the SSA environment `env` -/
structure InvC (lt : List Ty) (stk : List TV) (vars : List (Option TV)) (fr : Wasm.Frame) (env : Val → Nat) :
    Prop where
  vals : stk.map (fun p => env p.1) = fr.stack
  rng : ∀ p ∈ stk, env p.1 < 2 ^ p.2.bits
  vlen : vars.length = lt.length
  llen : fr.locals.size = lt.length
  var : ∀ (x : Nat) (v : TV), vars[x]? = some (some v) →
    fr.locals[x]? = some (env v.1) ∧ lt[x]? = some v.2 ∧ env v.1 < 2 ^ v.2.bits

theorem InvC.stack_length {lt stk vars} {fr : Wasm.Frame} {env : Val → Nat} (h : InvC lt stk vars fr env) :
    fr.stack.length = stk.length := by
  rw [← h.vals, List.length_map]

theorem InvC.pop {lt : List Ty} {p : TV} {stk : List TV} {vars} {fr : Wasm.Frame} {env : Val → Nat}
    (h : InvC lt (p :: stk) vars fr env) :
    fr.stack = env p.1 :: stk.map (fun q => env q.1) ∧ env p.1 < 2 ^ p.2.bits ∧
    InvC lt stk vars ⟨stk.map (fun q => env q.1), fr.locals⟩ env :=
  ⟨h.vals.symm, h.rng p (List.mem_cons_self ..),
    ⟨rfl, fun q hq => h.rng q (List.mem_cons_of_mem _ hq), h.vlen, h.llen, h.var⟩⟩

theorem InvC.push {lt : List Ty} {stk : List TV} {vars} {fr : Wasm.Frame} {env : Val → Nat}
    (h : InvC lt stk vars fr env) (p : TV) (hr : env p.1 < 2 ^ p.2.bits) :
    InvC lt (p :: stk) vars ⟨env p.1 :: fr.stack, fr.locals⟩ env := by
  refine ⟨?_, ?_, h.vlen, h.llen, h.var⟩
  · simp only [List.map_cons, h.vals]
  · intro q hq
    rcases List.mem_cons.mp hq with rfl | hq
    · exact hr
    · exact h.rng q hq

theorem InvC.setVar {lt : List Ty} {stk : List TV} {vars} {fr : Wasm.Frame} {env : Val → Nat}
    (h : InvC lt stk vars fr env) (x : Nat) (v : TV) (hx : x < vars.length) (hty : lt[x]? = some v.2)
    (hr : env v.1 < 2 ^ v.2.bits) :
    InvC lt stk (vars.set x (some v)) ⟨fr.stack, fr.locals.set! x (env v.1)⟩ env := by
  refine ⟨h.vals, h.rng, ?_, ?_, ?_⟩
  · simp only [List.length_set, h.vlen]
  · simp only [Array.set!, Array.size_setIfInBounds, h.llen]
  · intro y u hy
    rw [List.getElem?_set] at hy
    show (fr.locals.setIfInBounds x (env v.1))[y]? = _ ∧ _
    rw [Array.getElem?_setIfInBounds]
    by_cases hxy : x = y
    · subst hxy
      rw [if_pos rfl, if_pos hx] at hy
      obtain rfl : v = u := Option.some.inj (Option.some.inj hy)
      rw [if_pos rfl, if_pos (h.llen ▸ h.vlen ▸ hx)]
      exact ⟨rfl, hty, hr⟩
    · rw [if_neg hxy] at hy ⊢
      exact h.var y u hy

theorem drop_of_expect {g : Func} {c : CS} {is : List Instr} (h : expect g c is = true) :
    (instrsOf g c.blk).drop c.pos = is ++ (instrsOf g c.blk).drop (c.pos + is.length) := by
  simp only [expect, beq_iff_eq] at h
  have h1 := List.take_append_drop is.length ((instrsOf g c.blk).drop c.pos)
  rw [h, List.drop_drop] at h1
  exact h1.symm

theorem drop_of_getElem? {l : List Instr} {p : Nat} {i : Instr} (h : l[p]? = some i) :
    l.drop p = i :: l.drop (p + 1) := by
  obtain ⟨hp, rfl⟩ := List.getElem?_eq_some_iff.mp h
  exact List.drop_eq_getElem_cons hp

theorem getElem?_of_expect {g : Func} {c : CS} {i : Instr} (h : expect g c [i] = true) :
    (instrsOf g c.blk)[c.pos]? = some i := by
  have h1 := congrArg (·[0]?) (drop_of_expect h)
  simpa using h1

theorem env_mk (env : Val → Nat) : (fun v => (mk env).env (res [] v)) = env := rfl

theorem mk_env_res (env : Val → Nat) (c : Val) : (mk env).env (res [] c) = env c := rfl

theorem runPos_instr (w : World) (g : Func) {blk pos : Nat} {i : Instr} (h : (instrsOf g blk)[pos]? = some i)
    (fuel : Nat) (env : Val → Nat) :
    runPos w g fuel blk pos env =
      match execInstr w env i (mk env) with
      | .next st' =>
        match execBody w [] ((instrsOf g blk).drop (pos + 1)) st' with
        | some (.goto b' args st') => runFrom w g fuel b' args st'
        | some (.ret vs st') => .values vs st'.mem st'.trace
        | some (.trap c st') => .trap c st'.mem st'.trace
        | _ => .error
      | .goto b' args st' => runFrom w g fuel b' args st'
      | .ret vs st' => .values vs st'.mem st'.trace
      | .trap c st' => .trap c st'.mem st'.trace := by
  simp only [runPos, drop_of_getElem? h, execBody, env_mk]
  cases execInstr w env i (mk env) <;> rfl

theorem runFrom_enter (w : World) (g : Func) (hal : g.alias = []) (fuel : Nat) (t : Nat) (T : Block) (vs : List Nat)
    (env : Val → Nat) (hT : g.findBlock t = some T) (hlen : T.params.length = vs.length) :
    runFrom w g (fuel + 1) t vs (mk env) = runPos w g fuel t 0 (bindVals env T.params vs) := by
  simp only [runFrom, hT, hlen, ne_eq, not_true_eq_false, if_false, hal, runPos, instrsOf, Option.map_some,
    Option.getD_some, List.drop_zero]
  rfl

theorem hasPred_of_instr {g : Func} {blk pos : Nat} {i : Instr} {t : Nat} {args : List Val}
    (h : (instrsOf g blk)[pos]? = some i) (hb : i.branch? = some (t, args)) : hasPred g t = true := by
  unfold instrsOf at h
  cases hB : g.findBlock blk with
  | none => simp [hB] at h
  | some B =>
    simp only [hB, Option.map_some, Option.getD_some] at h
    obtain ⟨hmem, -, hval⟩ := findBlock_mem hB
    simp only [hasPred, List.any_eq_true, Bool.and_eq_true, Bool.not_eq_true', beq_iff_eq]
    exact ⟨B, hmem, hval, i, List.mem_of_getElem? h, by rw [hb]; rfl⟩

end Wz.Proofs.FrontCF
