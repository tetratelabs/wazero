/-
The integer instructions in the name table of the reference semantics.  `Wz.Spec.Num.scalar` dispatches on the
instruction NAME: `name.splitOn "."` (computed by `SplitOn.splitOn_singleton`) gives the type and the operator, and
on a name `iN.op` the table is `Num.ibin N op` / `Num.iun N op` (`scalar_ibin`, `scalar_iun`), the latter unless
`Num.conv` knows the whole name.
-/
import Wz.Spec.Num
import Wz.Proofs.C01_Num_SplitOn

namespace Wz.Proofs.NumNames
open Wz.Spec Wz.Proofs.SplitOn

inductive IntPfx : String → Nat → Prop
  | i32 : IntPfx "i32" 32
  | i64 : IntPfx "i64" 64

theorem IntPfx.le {t : String} {n : Nat} (ht : IntPfx t n) : 32 ≤ n := by cases ht <;> decide

theorem scalar_ibin {name t op : String} {n : Nat} (hsp : name.splitOn "." = [t, op]) (ht : IntPfx t n) (x y : Nat) :
    Num.scalar name [x, y] = Num.ibin n op x y := by
  unfold Num.scalar
  generalize name.splitOn "." = l at hsp
  subst hsp
  cases ht <;> rfl

theorem scalar_iun {name t op : String} {n x : Nat} (hsp : name.splitOn "." = [t, op]) (ht : IntPfx t n)
    (hc : Num.conv name x = none) : Num.scalar name [x] = Num.iun n op x := by
  unfold Num.scalar
  generalize name.splitOn "." = l at hsp
  subst hsp
  simp only [hc]
  cases ht <;> rfl

/-- the unary integer instructions that `Num.conv` does not know, so that `Num.scalar` leaves them to `Num.iun` -/
def iunNames : List String :=
  ["i32.eqz", "i32.clz", "i32.ctz", "i32.popcnt", "i32.extend8_s", "i32.extend16_s",
   "i64.eqz", "i64.clz", "i64.ctz", "i64.popcnt", "i64.extend8_s", "i64.extend16_s", "i64.extend32_s"]

theorem conv_isSome (name : String) (x y : Nat) : (Num.conv name x).isSome = (Num.conv name y).isSome := by
  unfold Num.conv
  split <;> simp only [Option.isSome_some, Option.isSome_none]

theorem conv_none {name : String} (hn : name ∈ iunNames) (x : Nat) : Num.conv name x = none := by
  -- one evaluation for all of `iunNames`: the names `Num.conv` matches against are converted once
  have h0 : iunNames.all (fun n => (Num.conv n 0).isSome == false) = true := by decide +kernel
  have := List.all_eq_true.mp h0 name hn
  rw [← conv_isSome name x, beq_iff_eq] at this
  exact Option.isNone_iff_eq_none.mp (Option.isSome_eq_false_iff.mp this)

/-! The four instructions whose operand type is not their result type: the three conversions between i32 and i64
(`Num.conv` knows them) and `i64.eqz`. -/

theorem scalar_wrap_i64 (x : Nat) : Num.scalar "i32.wrap_i64" [x] = some (.val (x % 2 ^ 32)) := by
  unfold Num.scalar; rw [splitOn_singleton '.' _]; rfl

theorem scalar_extend_i32_s (x : Nat) :
    Num.scalar "i64.extend_i32_s" [x] = some (.val (Int.extendS (Num.bv 32 x)).toNat) := by
  unfold Num.scalar; rw [splitOn_singleton '.' _]; rfl

theorem scalar_extend_i32_u (x : Nat) : Num.scalar "i64.extend_i32_u" [x] = some (.val (x % 2 ^ 32)) := by
  unfold Num.scalar; rw [splitOn_singleton '.' _]; rfl

theorem scalar_i64_eqz (x : Nat) : Num.scalar "i64.eqz" [x] = some (.val (Int.ieqz (Num.bv 64 x)).toNat) :=
  scalar_iun (name := "i64.eqz") (splitOn_singleton '.' _) .i64
    (conv_none (by simp only [iunNames, List.mem_cons, true_or, or_true]) x)

end Wz.Proofs.NumNames
