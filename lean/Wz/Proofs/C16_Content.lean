/-
C16 — the file-content part of the reference model: reads, writes, positional I/O, append and truncate act
on ONE byte list per inode with the POSIX offset rules; what `setContent` and `setDesc` leave alone; `desc` refuses
with EBADF only.
-/
import Wz.Model.RefFSTimes

namespace Wz.Proofs.C16Content
open Wz.Model.RefFS

theorem truncateTo_length (c : List Nat) (n : Nat) : (truncateTo c n).length = n := by
  unfold truncateTo
  simp only [List.length_append, List.length_take, List.length_replicate]
  omega

theorem truncateTo_get (c : List Nat) (n i : Nat) :
    (truncateTo c n)[i]? = if i < n then (if i < c.length then c[i]? else some 0) else none := by
  unfold truncateTo
  by_cases hn : n ≤ c.length
  · -- cut
    rw [Nat.sub_eq_zero_of_le hn, List.replicate_zero, List.append_nil, List.getElem?_take]
    split
    · rw [if_pos (by omega)]
    · rfl
  · -- zero-extended
    rw [List.take_of_length_le (by omega), List.getElem?_append, List.getElem?_replicate]
    split
    · rw [if_pos (by omega)]
    · split
      · rw [if_pos (by omega)]
      · rw [if_neg (by omega)]

theorem writeAt_eq (c : List Nat) (off : Nat) (bs : List Nat) (h : bs ≠ []) :
    writeAt c off bs = truncateTo c off ++ bs ++ c.drop (off + bs.length) := by
  unfold writeAt truncateTo
  rw [if_neg (by rw [List.isEmpty_eq_false_iff.2 h]; exact Bool.false_ne_true)]

theorem writeAt_length (c : List Nat) (off : Nat) (bs : List Nat) (h : bs ≠ []) :
    (writeAt c off bs).length = max c.length (off + bs.length) := by
  rw [writeAt_eq c off bs h, List.length_append, List.length_append, truncateTo_length, List.length_drop]
  omega

theorem writeAt_get (c : List Nat) (off : Nat) (bs : List Nat) (i : Nat) (h : bs ≠ []) :
    (writeAt c off bs)[i]? =
      if off ≤ i ∧ i < off + bs.length then bs[i - off]?
      else if i < c.length then c[i]?
      else if i < off then some 0 else none := by
  rw [writeAt_eq c off bs h, List.getElem?_append, List.getElem?_append, List.length_append, truncateTo_length,
    truncateTo_get, List.getElem?_drop]
  by_cases h1 : i < off
  · rw [if_pos (show i < off + bs.length by omega), if_pos h1, if_pos h1,
      if_neg (show ¬(off ≤ i ∧ i < off + bs.length) by omega)]
    split <;> rfl
  · by_cases h2 : i < off + bs.length
    · rw [if_pos h2, if_neg h1, if_pos ⟨by omega, h2⟩]
    · rw [if_neg h2, if_neg (by omega), if_neg h1]
      have : off + bs.length + (i - (off + bs.length)) = i := by omega
      rw [this]
      split
      · rfl
      · exact List.getElem?_eq_none (by omega)

/-- a zero-length write changes nothing (it does not extend the file either) -/
theorem writeAt_empty (c : List Nat) (off : Nat) : writeAt c off [] = c := rfl

theorem readAt_get (c : List Nat) (off len i : Nat) :
    (readAt c off len)[i]? = if i < len then c[off + i]? else none := by
  unfold readAt
  simp only [List.getElem?_take, List.getElem?_drop]

theorem readAt_length (c : List Nat) (off len : Nat) : (readAt c off len).length = min len (c.length - off) := by
  unfold readAt
  rw [List.length_take, List.length_drop]

theorem read_after_write (c : List Nat) (off : Nat) (bs : List Nat) :
    readAt (writeAt c off bs) off bs.length = bs := by
  by_cases h : bs = []
  · subst h; simp [readAt]
  · rw [writeAt_eq c off bs h, readAt, List.append_assoc,
      List.drop_append_of_le_length (by rw [truncateTo_length]; exact Nat.le_refl _),
      List.drop_of_length_le (by rw [truncateTo_length]; exact Nat.le_refl _), List.nil_append,
      List.take_append_of_le_length (Nat.le_refl _), List.take_length]

theorem append_write (c bs : List Nat) : writeAt c c.length bs = c ++ bs := by
  by_cases h : bs = []
  · subst h; simp [writeAt]
  · rw [writeAt_eq c _ bs h, List.drop_of_length_le (by omega), List.append_nil, truncateTo, List.take_length,
      Nat.sub_self, List.replicate_zero, List.append_nil]

theorem content_setContent_same (fs : FS) (ino : Nat) (c : List Nat) (h : (fs.node ino).isSome = true) :
    (fs.setContent ino c).content ino = c := by
  unfold FS.setContent
  cases hn : fs.node ino with
  | none => simp [hn] at h
  | some n => simp [FS.content, FS.node, FS.setNode, aget_aset_same]

theorem content_setContent_other (fs : FS) (ino ino' : Nat) (c : List Nat) (h : ino' ≠ ino) :
    (fs.setContent ino c).content ino' = fs.content ino' := by
  unfold FS.setContent
  cases hn : fs.node ino with
  | none => rfl
  | some n => simp [FS.content, FS.node, FS.setNode, aget_aset_other _ _ _ _ h]

theorem descs_setContent (fs : FS) (ino : Nat) (c : List Nat) : (fs.setContent ino c).descs = fs.descs := by
  unfold FS.setContent
  cases fs.node ino <;> rfl

/-- `FS.desc` refuses with EBADF only: in particular never with `E.ok`, which its type `Except E _` would allow -/
theorem desc_error {fs : FS} {fd : Int} {e : E} (h : fs.desc fd = .error e) : e = .badf := by
  unfold FS.desc at h
  split at h
  · exact (Except.error.inj h).symm
  · split at h
    · exact (Except.error.inj h).symm
    · split at h
      · exact (Except.error.inj h).symm
      · cases h

theorem content_setDesc (fs : FS) (id : Nat) (d : Desc) (ino : Nat) : (fs.setDesc id d).content ino = fs.content ino := rfl

end Wz.Proofs.C16Content
