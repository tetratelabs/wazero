/-
`String.splitOn` with a one-character separator, computed on the characters.  `Wz.Spec.Num.scalar` dispatches
on `name.splitOn "."`, and `String.splitOn` is defined by well-founded recursion on byte positions, which
neither `decide` nor the kernel evaluates.  `splitOn_singleton` moves the computation to `splitChars`, a
structural recursion on `List Char`.  A string literal unfolds to `String.ofList` of its characters, so
`splitOn_singleton '.' _ : "i32.add".splitOn "." = ["i32", "add"]` is checked by unification alone.
-/
namespace Wz.Proofs.SplitOn
open String (ofList)
open String.Pos.Raw (utf8GetAux extract)

/-- `acc`: the piece being read -/
def splitChars (c : Char) : List Char → List Char → List (List Char)
  | [], acc => [acc]
  | d :: ds, acc => if d = c then acc :: splitChars c ds [] else splitChars c ds (acc ++ [d])

/-- length in bytes of the UTF-8 encoding: the unit of `String.Pos.Raw` -/
def len (l : List Char) : Nat := (ofList l).utf8ByteSize

theorem len_nil : len [] = 0 := rfl

theorem len_append (p q : List Char) : len (p ++ q) = len p + len q := by
  unfold len
  rw [String.ofList_append, String.utf8ByteSize_append]

theorem len_cons (c : Char) (l : List Char) : len (c :: l) = c.utf8Size + len l := by
  rw [← List.singleton_append, len_append, len, ← String.singleton_eq_ofList, String.utf8ByteSize_singleton]

theorem atEnd_ofList (l : List Char) (k : Nat) : String.Pos.Raw.atEnd (ofList l) ⟨k⟩ = decide (len l ≤ k) := rfl

theorem get_ofList (l : List Char) (i : String.Pos.Raw) : i.get (ofList l) = utf8GetAux l 0 i := by
  rw [String.Pos.Raw.get, String.toList_ofList]

theorem next_ofList (l : List Char) (k : Nat) :
    String.Pos.Raw.next (ofList l) ⟨k⟩ = ⟨k + (utf8GetAux l 0 ⟨k⟩).utf8Size⟩ := by
  rw [String.Pos.Raw.next, get_ofList]; rfl

theorem getAux_append (p : List Char) (d : Char) (q : List Char) :
    ∀ k, utf8GetAux (p ++ d :: q) ⟨k⟩ ⟨k + len p⟩ = d := by
  induction p with
  | nil => intro k; simp [utf8GetAux, len_nil]
  | cons e p ih =>
    intro k
    have := e.utf8Size_pos
    have hne : ¬ k = k + len (e :: p) := by rw [len_cons]; omega
    simp only [List.cons_append, utf8GetAux, String.Pos.Raw.mk.injEq, hne, if_false]
    rw [len_cons, ← Nat.add_assoc]
    exact ih (k + e.utf8Size)

theorem go₂_append (q r : List Char) : ∀ k, extract.go₂ (q ++ r) ⟨k⟩ ⟨k + len q⟩ = q := by
  induction q with
  | nil => intro k; cases r <;> simp [extract.go₂, len_nil]
  | cons d q ih =>
    intro k
    have := d.utf8Size_pos
    have hne : ¬ k = k + len (d :: q) := by rw [len_cons]; omega
    simp only [List.cons_append, extract.go₂, String.Pos.Raw.mk.injEq, hne, if_false]
    rw [len_cons, ← Nat.add_assoc]
    exact congrArg _ (ih (k + d.utf8Size))

theorem go₁_append (p : List Char) (d : Char) (q r : List Char) :
    ∀ k, extract.go₁ (p ++ d :: q ++ r) ⟨k⟩ ⟨k + len p⟩ ⟨k + len p + len (d :: q)⟩ = d :: q := by
  induction p with
  | nil =>
    intro k
    simp only [List.nil_append, List.cons_append, extract.go₁, len_nil, Nat.add_zero, if_true]
    exact go₂_append (d :: q) r k
  | cons e p ih =>
    intro k
    have := e.utf8Size_pos
    have hne : ¬ k = k + len (e :: p) := by rw [len_cons]; omega
    simp only [List.cons_append, extract.go₁, String.Pos.Raw.mk.injEq, hne, if_false]
    rw [len_cons, ← Nat.add_assoc]
    exact ih (k + e.utf8Size)

theorem extract_append (p q r : List Char) :
    extract (ofList (p ++ q ++ r)) ⟨len p⟩ ⟨len p + len q⟩ = ofList q := by
  unfold extract
  cases q with
  | nil => simp [len_nil, String.ofList_nil]
  | cons d q =>
    have := d.utf8Size_pos
    have hlt : ¬ len p ≥ len p + len (d :: q) := by rw [len_cons]; omega
    simp only [hlt, if_false, String.toList_ofList]
    have := go₁_append p d q r 0
    simp only [Nat.zero_add] at this
    exact congrArg _ this

/-- `String.splitOnAux` with the characters `p` split off already (into `acc`, newest first), `q` read since the
last separator, and `rest` to come.  With a one-character separator the position in the separator is always 0. -/
theorem splitOnAux_singleton (c : Char) (rest : List Char) : ∀ (p q : List Char) (acc : List String),
    (ofList (p ++ q ++ rest)).splitOnAux (ofList [c]) ⟨len p⟩ ⟨len p + len q⟩ 0 acc =
      acc.reverse ++ (splitChars c rest q).map ofList := by
  induction rest with
  | nil =>
    intro p q acc
    rw [String.splitOnAux.eq_1]
    simp only [atEnd_ofList, len_append, len_nil, Nat.add_zero, Nat.le_refl, decide_true, if_true, extract_append,
      splitChars, List.reverse_cons, List.map_cons, List.map_nil]
  | cons d ds ih =>
    intro p q acc
    rw [String.splitOnAux.eq_1]
    have := d.utf8Size_pos
    have hend : ¬ len p + len q + (d.utf8Size + len ds) ≤ len p + len q := by omega
    have hget : utf8GetAux (p ++ q ++ d :: ds) 0 ⟨len p + len q⟩ = d := by
      have := getAux_append (p ++ q) d ds 0
      rwa [Nat.zero_add, len_append] at this
    have hsep : String.Pos.Raw.next (ofList [c]) 0 = ⟨c.utf8Size⟩ :=
      (next_ofList [c] 0).trans (by simp [utf8GetAux])
    simp only [atEnd_ofList, len_append, len_cons, len_nil, hend, decide_false, get_ofList, hget, utf8GetAux, if_true,
      next_ofList, hsep, String.Pos.Raw.unoffsetBy, Nat.add_zero, Nat.le_refl, decide_true, Nat.sub_zero,
      String.Pos.Raw.byteIdx_zero, Bool.false_eq_true, if_false, splitChars, beq_iff_eq]
    split
    · rename_i hdc
      subst hdc
      rw [Nat.add_sub_cancel, extract_append]
      simpa [len_append, len_cons, len_nil, Nat.add_assoc] using ih (p ++ q ++ [d]) [] (ofList q :: acc)
    · simpa [len_append, len_cons, len_nil, Nat.add_assoc] using ih p (q ++ [d]) acc

theorem splitOn_singleton (c : Char) (cs : List Char) :
    (ofList cs).splitOn (ofList [c]) = (splitChars c cs []).map ofList := by
  have hne : (ofList [c] == "") = false := by
    rw [beq_eq_false_iff_ne, Ne, String.ofList_eq_empty_iff]; exact List.cons_ne_nil _ _
  have := splitOnAux_singleton c cs [] [] []
  simpa [String.splitOn, hne, len_nil] using this

end Wz.Proofs.SplitOn
