/-
C01 (front end with memory accesses): the validator `dceOK` is sound (`dce_sound`; for whole functions
`Wz.C01.frontmem_dce_validated`).  If `dceOK [] is js`, the runs of `is` and `js` from the same state end in the same
outcome (values or trap code, final memory, call trace), and the access log of `js` is a sublist of that of `is` (only
loads disappear).  Invariant: the two environments agree outside the results of the deleted instructions, and no kept
instruction reads such a result.
-/
import Wz.Proofs.C01_FrontMem_Lockstep

namespace Wz.Proofs.FrontMem
open Wz.Model.SsaPass Wz.Model.FrontendMem

def SRel (dead : List Val) (st' st : St) : Prop :=
  st'.mem = st.mem ∧ st'.trace = st.trace ∧ ∀ v : Nat, v ∉ dead → st'.env v = st.env v

theorem SRel.mono {dead : List Val} {st' st : St} (h : SRel dead st' st) (extra : List Val) :
    SRel (extra ++ dead) st' st :=
  ⟨h.1, h.2.1, fun v hv => h.2.2 v (fun hm => hv (List.mem_append_right _ hm))⟩

theorem dce_sound (w : World) (is js : List MInstr) (dead : List Val) (st' st : St) (log' log : List Acc)
    (hok : dceOK dead is js = true) (hR : SRel dead st' st) (hlog : log'.Sublist log) :
    SameExit (execBodyL w js st' log') (execBodyL w is st log) := by
  refine lockstep_sound w (fun is js st' st => ∃ dead, dceOK dead is js = true ∧ SRel dead st' st) ?_ ?_
    is js st' st log' log ⟨dead, hok, hR⟩ hlog
  · rintro (_ | _) st' st ⟨dead, hok, _⟩
    · rfl
    · cases hok
  · rintro i is js st' st ⟨dead, hok, hR⟩
    -- deleting `i`: its results die
    have hdel : (i.removable && dceOK (i.results ++ dead) is js) = true →
        ∃ st1, stepM w i st = .next st1 ∧ ∃ dead, dceOK dead is js = true ∧ SRel dead st' st1 := by
      intro h
      simp only [Bool.and_eq_true] at h
      obtain ⟨st1, hs, hm1, ht1, he1⟩ := stepM_removable w i h.1 st
      refine ⟨st1, hs, _, h.2, hm1 ▸ hR.1, ht1 ▸ hR.2.1, fun v hv => ?_⟩
      rw [he1 v (fun hm => hv (List.mem_append_left _ hm))]
      exact hR.2.2 v (fun hm => hv (List.mem_append_right _ hm))
    cases js with
    | nil => exact .inl (hdel hok)
    | cons j js =>
      simp only [dceOK] at hok
      split at hok
      · -- keeping `i`: none of its operands is dead
        rename_i hcond
        obtain ⟨rfl, hall⟩ := hcond
        have hops : ∀ o ∈ i.operands, st'.env (id o) = st.env o := fun o ho =>
          hR.2.2 o (by simpa using List.all_eq_true.mp hall o ho)
        obtain ⟨hc, hacc⟩ := stepM_congr_map w id i st' st hR.1 hR.2.1 hops
        rw [mapOperands_id] at hc hacc
        exact .inr ⟨i, js, rfl, hacc, hc.imp (fun s1' s1 _ _ hpost =>
          ⟨dead, hok, hpost.mem, hpost.trace, fun v hv => hpost.env v (.inr (hR.2.2 v hv))⟩) (fun _ _ _ _ _ h => h)⟩
      · exact .inl (hdel hok)

end Wz.Proofs.FrontMem
