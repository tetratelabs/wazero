/-
C01 (front end): what the translation guarantees statically (`lower_static`).  Strict SSA in one block in the sense of
the fragment with memory accesses (`WellFormedM`: no branches, the values numbered in the order of their definitions,
every operand defined before its use, the shifted operand of a shift of the type of the shift), read on instructions of
`SsaPass`, is `SsaPass.wellFormed` (`wellFormed_of_M`, by `wellFormed_sb`).  This fragment is the one with memory
accesses without its memory instructions (`lowerMem_toM`, `tcBodyM_base`), and a body is walked there (`static_bodyM`):
`lower_static` is `lowerMem_wellFormed` at `toM f`, which is why this module, and with it `Wz.C01.front_wellFormed`,
imports `C01_FrontMem_WF`.
-/
import Wz.Proofs.C01_FrontMem_WF
import Wz.Proofs.C01_FrontMem_Cons

namespace Wz.Proofs.Front
open Wz.Model.SsaPass Wz.Model.FrontendSL Wz.Model.FrontendMem Wz.Proofs.FrontMem

/-- strict SSA in one block (`WellFormedM`), of instructions of `SsaPass`, is `SsaPass.wellFormed` -/
theorem wellFormed_of_M {ps : List (Val × Ty)} {is : List Instr} (h : WellFormedM ⟨ps, is.map .base⟩) :
    wellFormed (sb ps is) = true := by
  obtain ⟨hbr, ⟨N, hN⟩, hsc⟩ := h
  refine wellFormed_sb (fun i hi => ?_) ?_ ((scopedM_base _ _).mp hsc)
  · simpa only [MInstr.isBranch, Option.isSome_eq_false_iff, Option.isNone_iff_eq_none] using
      hbr _ (List.mem_map_of_mem hi)
  · rw [← flatMap_typed_fst, ← List.map_append, ← flatMap_base, hN]
    exact List.nodup_range

theorem lower_static (f : Fn) (hwt : wellTyped f = true) : wellFormed (sb (entryParams f) (entryInstrs f)) = true :=
  wellFormed_of_M (lowerMem_toM f ▸ lowerMem_wellFormed (toM f) ((tcBodyM_base ..).trans hwt))

end Wz.Proofs.Front
