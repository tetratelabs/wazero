/-
C01 (lowering): whole functions.  For a well-typed function of the fragment, arguments that fit the parameter types and
an operation list shorter than 2^64-1, `call_sim` relates one run of the structured reference semantics
(`Wz.Spec.Wasm.invoke` on the embedding) to the flat execution of `lower f` at every flat fuel; the refinement
statements are read off it: forward, backward, divergence (`lower_forward`, `lower_backward`, `lower_diverges`), and
"the same outcomes" (`lower_outcome_iff`).
-/
import Wz.Proofs.C01_FlatLower_Sim
import Wz.Proofs.C01_FlatLower_Labels

namespace Wz.Proofs.FlatLower
open Wz.Spec Wz.Spec.Wasm Wz.Model.FlatLower

def envOf (f : Fn) : Env :=
  { sym := lowerSym f, lt := f.params ++ f.locals, results := f.results.reverse, m := f.toModule,
    nodup := lowerSym_nodup f }

/-- the function is small enough for `math.MaxUint64` not to be an operation index -/
def Small (f : Fn) : Prop := (lowerSym f).length < retAddr

/-- the frame in which `callFunc` runs the body -/
def calleeLocals (f : Fn) (args : List Nat) : Array Nat := (args ++ f.locals.map (fun _ => 0)).toArray

theorem runStruct_zero (f : Fn) (args : List Nat) : runStruct f args 0 = .exhausted := by
  simp [runStruct, invoke, callFunc]

theorem runStruct_succ (f : Fn) (args : List Nat) (n : Nat) (hlen : args.length = f.params.length) :
    runStruct f args (n + 1) =
      (bodyOut f.results.length (execSeq f.toModule n (toInstrs f.body) ⟨[], calleeLocals f args⟩ {})).1 :=
  congrArg Prod.fst (invoke_single_map (M := f.toModule) rfl rfl rfl args hlen n {})

theorem runFlat_def (f : Fn) (args : List Nat) (m : Nat) :
    runFlat f args m = runCode (envOf f).code f.results.length args m := rfl

theorem runFlat_runsFor (f : Fn) {args : List Nat} {k : Nat} (h : RunsFor (envOf f).code k (0, args.reverse)) :
    runFlat f args k = .exhausted := by
  rw [runFlat_def, runCode, runFrom_runsFor h]

theorem runFlat_ret (f : Fn) (hsmall : Small f) {args S : List Nat} {locs : Array Nat} {k : Nat}
    (hS : f.results.length ≤ S.length)
    (hr : Reach (envOf f).code k (0, args.reverse) (retAddr, keepTop f.results.length 0 (flat S locs))) (m : Nat) :
    runFlat f args m = if m ≤ k then .exhausted else .values (S.take f.results.length).reverse := by
  have hpc : (envOf f).code[retAddr]? = none := by
    rw [List.getElem?_eq_none_iff, Env.code, resolve_length]; exact Nat.le_of_lt hsmall
  rw [runFlat_def, runCode, hr.runFrom_eq (r := .ok (keepTop f.results.length 0 (flat S locs)))
    (fun n => by simp only [runFrom, hpc]) m]
  by_cases hm : m ≤ k
  · simp only [hm, if_true]
  · simp [hm, keepTop, flat, List.take_append_of_le_length hS, Nat.min_eq_left hS]

theorem reach_consts (E : Env) (ts : List Ty) : ∀ (pc pc' : Nat) (stk : List Nat),
    Seg E.sym pc (ts.map (fun t => (Op.const t 0 : SymOp))) pc' →
    Reach E.code ts.length (pc, stk) (pc', (ts.map (fun _ => 0)).reverse ++ stk) := by
  induction ts with
  | nil => intro pc pc' stk hseg; cases hseg.nil; exact .refl _
  | cons t ts ih =>
    intro pc pc' stk hseg
    have h := (E.exec (p := pc + 1) hseg rfl).trans (ih (pc + 1) pc' (0 :: stk) hseg.cons.2)
    simpa [Nat.add_comm 1] using h

theorem inv_top (f : Fn) : Inv (envOf f) f.ctx [f.frame] [] := by
  refine ⟨rfl, rfl, rfl, ?_, ?_, ⟨f.frame, rfl, rfl, rfl, by simp [Fn.frame, envOf]⟩⟩
  · intro l F ts hF hts
    cases l with
    | zero =>
      simp [Fn.ctx] at hF hts; subst hF; subst hts
      simp [brArity, Fn.frame]
    | succ l => simp at hF
  · intro F hF
    simp at hF; subst hF; simp [Fn.frame]

theorem call_sim (f : Fn) (hwt : wellTyped f = true) (hsmall : Small f) (args : List Nat)
    (hargs : ValsOK f.params args) (n : Nat) :
    (runStruct f args (n + 1) ≠ .exhausted → ∃ k, ∀ m, runFlat f args m =
      if m ≤ k then .exhausted else FlatOut.ofSpec (runStruct f args (n + 1))) ∧
    (runStruct f args (n + 1) = .exhausted →
      RunsFor (envOf f).code (f.locals.length + (n - weightS (toInstrs f.body))) (0, args.reverse)) := by
  rw [runStruct_succ f args n hargs.length]
  obtain ⟨res, hres, hend⟩ := endOK_iff.mp hwt
  have hlocs : LocsOK (envOf f) (calleeLocals f args) := hargs.append (ValsOK.replicate_zero f.locals)
  have hh : f.params.length + f.locals.length = (flat ([] ++ []) (calleeLocals f args)).length := by
    simp [flat, calleeLocals, hargs.length, Nat.add_comm]
  -- the code: default values of the locals, the body, the function's `end`
  obtain ⟨p2, hseg, hsegT⟩ := (Seg.whole (lowerSym f)).append
  obtain ⟨p1, hsegC, hsegB⟩ := hseg.append
  have hstart : Reach (envOf f).code f.locals.length (0, args.reverse) (p1, flat [] (calleeLocals f args)) := by
    have := reach_consts (envOf f) f.locals 0 p1 args.reverse hsegC
    simpa [flat, calleeLocals] using this
  have hsim := sim_all (envOf f) n (st := []) (vs := []) (s0 := {}) (inv_top f) hres trivial hlocs hh hsegB
  change Sim _ _ _ _ _ _ _ _ _ (execSeq f.toModule n (toInstrs f.body) ⟨[], calleeLocals f args⟩ {}) at hsim
  generalize execSeq f.toModule n (toInstrs f.body) ⟨[], calleeLocals f args⟩ {} = out at hsim ⊢
  cases hsim with
  | @next st' vs' fr' s k hr' hstack hvs' hlocs' hk =>
    refine ⟨fun _ => ?_, fun h => by cases h⟩
    cases hend _ hr'
    have hlen : fr'.stack.length = f.results.length := by rw [hstack, List.append_nil, hvs'.length]; simp
    have hflen : (flat fr'.stack fr'.locals).length = f.params.length + f.locals.length + f.results.length := by
      rw [hlocs'.flat_length, hlen]; simp [envOf]
    rw [lowerS_h_end _ _ _ (hr' ▸ hres), List.length_reverse, ← hflen] at hsegT
    obtain ⟨k2, hk2⟩ := (envOf f).drop_br hsegT (applyDrop_dropRange (F := f.frame) (isEnd := true)
      (a := f.results.length) (by simp [Fn.frame]) (by simp [Fn.frame, hflen]))
    exact ⟨_, runFlat_ret f hsmall (Nat.le_of_eq hlen.symm) ((hstart.trans hk).trans hk2)⟩
  | @br l F ts rs X fr' s k hF hts hstack hrs hlocs' _ hk =>
    refine ⟨fun _ => ?_, fun h => by cases h⟩
    cases l with
    | succ l => simp at hF
    | zero =>
      cases hF; cases hts
      exact ⟨_, runFlat_ret f hsmall (by rw [hstack]; simp [hrs.length]) (hstart.trans hk)⟩
  | @ret rs X fr' s k hstack hrs hlocs' hk =>
    refine ⟨fun _ => ?_, fun h => by cases h⟩
    exact ⟨_, runFlat_ret f hsmall (S := fr'.stack) (by rw [hstack]; simp [hrs.length, envOf])
      (by simpa [envOf] using hstart.trans hk)⟩
  | trap hsim =>
    refine ⟨fun _ => ?_, fun h => by cases h⟩
    obtain ⟨k, hk⟩ := (TrapsAt.after hstart hsim).runFrom_eq
    refine ⟨k, fun m => ?_⟩
    rw [runFlat_def, runCode, hk m]
    by_cases hm : m ≤ k <;> simp only [hm, if_true, if_false] <;> rfl
  | exhausted hsim => exact ⟨fun h => absurd rfl h, fun _ => RunsFor.after hstart hsim⟩

theorem FlatOut.ofSpec_injective {o o' : Outcome} (h : FlatOut.ofSpec o = FlatOut.ofSpec o') : o = o' := by
  cases o <;> cases o' <;> simp_all [FlatOut.ofSpec]

/-- FORWARD: a finished structured run is matched by the flat run (for every sufficiently large flat fuel) -/
theorem lower_forward (f : Fn) (hwt : wellTyped f = true) (hsmall : Small f) (args : List Nat)
    (hargs : ValsOK f.params args) (n : Nat) (hne : runStruct f args n ≠ .exhausted) :
    ∃ m, ∀ m', m ≤ m' → runFlat f args m' = FlatOut.ofSpec (runStruct f args n) := by
  cases n with
  | zero => exact absurd (runStruct_zero f args) hne
  | succ n =>
    obtain ⟨k, hk⟩ := (call_sim f hwt hsmall args hargs n).1 hne
    exact ⟨k + 1, fun m' hm' => by rw [hk, if_neg (by omega)]⟩

/-- DIVERGENCE: the structured run exhausts every fuel iff the flat run does -/
theorem lower_diverges (f : Fn) (hwt : wellTyped f = true) (hsmall : Small f) (args : List Nat)
    (hargs : ValsOK f.params args) :
    (∀ n, runStruct f args n = .exhausted) ↔ (∀ m, runFlat f args m = .exhausted) := by
  refine ⟨fun hdiv m => runFlat_runsFor f
    (((call_sim f hwt hsmall args hargs (m + weightS (toInstrs f.body))).2 (hdiv _)).mono (by omega)),
    fun hflat n => Decidable.byContradiction fun h => ?_⟩
  obtain ⟨m, hm⟩ := lower_forward f hwt hsmall args hargs n h
  exact h (FlatOut.ofSpec_injective (o' := .exhausted) ((hm m (Nat.le_refl _)).symm.trans (hflat m)))

/-- BACKWARD: a finished flat run is matched by the structured run: with the fuel `m + weight + 1` the structured run
cannot be exhausted, since the flat machine would make more than `m` steps then -/
theorem lower_backward (f : Fn) (hwt : wellTyped f = true) (hsmall : Small f) (args : List Nat)
    (hargs : ValsOK f.params args) (m : Nat) (hne : runFlat f args m ≠ .exhausted) :
    ∃ n, FlatOut.ofSpec (runStruct f args n) = runFlat f args m := by
  have hsim := call_sim f hwt hsmall args hargs (m + weightS (toInstrs f.body))
  by_cases hex : runStruct f args (m + weightS (toInstrs f.body) + 1) = .exhausted
  · exact absurd (runFlat_runsFor f ((hsim.2 hex).mono (by omega))) hne
  · obtain ⟨k, hk⟩ := hsim.1 hex
    rw [hk m] at hne ⊢
    split at hne
    · exact absurd rfl hne
    · rename_i hm; exact ⟨_, (if_neg hm).symm⟩

theorem lower_outcome_iff (f : Fn) (hwt : wellTyped f = true) (hsmall : Small f) (args : List Nat)
    (hargs : ValsOK f.params args) (o : Outcome) (ho : o ≠ .exhausted) :
    (∃ n, runStruct f args n = o) ↔ (∃ m, runFlat f args m = FlatOut.ofSpec o) := by
  constructor
  · rintro ⟨n, rfl⟩
    exact (lower_forward f hwt hsmall args hargs n ho).imp fun m hm => hm m (Nat.le_refl _)
  · rintro ⟨m, hm⟩
    have hne : runFlat f args m ≠ .exhausted := fun h => ho (FlatOut.ofSpec_injective (o' := .exhausted) (hm.symm.trans h))
    exact (lower_backward f hwt hsmall args hargs m hne).imp fun n hn => FlatOut.ofSpec_injective (hn.trans hm)

end Wz.Proofs.FlatLower
