import Wz.Proofs.C01_SsaPass_PhiB

/-! `redundantPhiElim` (passRedundantPhiEliminationOpt) preserves the semantics of well-formed functions, and
well-formedness. -/
namespace Wz.Model.SsaPass

theorem uniqueIncoming_spec {phi u : Val} {args : List Val} (h : uniqueIncoming phi args = some u) :
    u ∈ args ∧ ∀ a ∈ args, a = phi ∨ a = u := by
  unfold uniqueIncoming at h
  split at h
  · cases h
  · rename_i u' rest hf
    split at h
    · rename_i hall
      cases h
      have hu : u ∈ args.filter (· ≠ phi) := by rw [hf]; exact List.mem_cons_self ..
      refine ⟨(List.mem_filter.mp hu).1, fun a ha => ?_⟩
      by_cases hap : a = phi
      · exact Or.inl hap
      · have : a ∈ args.filter (· ≠ phi) := List.mem_filter.mpr ⟨ha, by simpa using hap⟩
        rw [hf] at this
        rcases List.mem_cons.mp this with hau | hm
        · exact Or.inr hau
        · exact Or.inr (by simpa using List.all_eq_true.mp hall a hm)
    · cases h

theorem branchArgs_resolved {f : Func} (hnf : AliasNF f.alias) {b : BlockId} {idx : Nat} {a : Val}
    (h : a ∈ f.branchArgs b idx) : res f.alias a = a := by
  obtain ⟨_, _, _, x, _, _, rfl⟩ := mem_branchArgs_iff.mp h
  exact res_idem hnf x

theorem redundantParams_spec (f : Func) (hnf : AliasNF f.alias) (B : Block) :
    (redundantParams f B).Pairwise (fun x y => x.1 < y.1) ∧
    ∀ r ∈ redundantParams f B, ∃ ty, B.params[r.1]? = some (r.2.1, ty) ∧ Redundant f B.id r.1 r.2.1 r.2.2 := by
  constructor
  · unfold redundantParams
    apply List.Pairwise.filterMap _ _ (zipIdx_pairwise B.params 0)
    rintro ⟨pt, idx⟩ ⟨pt', idx'⟩ haa' r hr r' hr'
    obtain ⟨_, _, rfl⟩ := Option.map_eq_some_iff.mp hr
    obtain ⟨_, _, rfl⟩ := Option.map_eq_some_iff.mp hr'
    exact haa'
  · intro r hr
    unfold redundantParams at hr
    obtain ⟨⟨pt, idx⟩, ha, hsome⟩ := List.mem_filterMap.mp hr
    obtain ⟨u, hu, rfl⟩ := Option.map_eq_some_iff.mp hsome
    obtain ⟨humem, hall⟩ := uniqueIncoming_spec hu
    refine ⟨pt.2, List.mem_zipIdx_iff_getElem?.mp ha, fun a ha => ?_⟩
    rw [branchArgs_resolved hnf humem]
    exact hall a ha

/-- removing the redundant parameters of a block from the last to the first -/
theorem phiFold (w : World) {c : Cert} {b : BlockId} :
    ∀ (l : List (Nat × Val × Val)) (g : Func) (Bg : Block), WF c g → g.findBlock b = some Bg → b ≠ g.entry →
      l.Pairwise (fun x y => y.1 < x.1) →
      (∀ r ∈ l, ∃ ty, Bg.params[r.1]? = some (r.2.1, ty) ∧ Redundant g b r.1 r.2.1 r.2.2) →
      Refines w c g (l.foldl (fun g r => removeParam g b r.1 r.2.1 r.2.2) g) := by
  intro l
  induction l with
  | nil => intro g Bg hwf _ _ _ _; exact .refl hwf
  | cons r l ih =>
    intro g Bg hwf hB hbne hpw hall
    obtain ⟨idx, p, u⟩ := r
    rw [List.pairwise_cons] at hpw
    obtain ⟨ty, hp, hred⟩ := hall (idx, p, u) (List.mem_cons_self ..)
    have hs : ParamStep c g b idx p u ty Bg := ⟨hwf, hB, hbne, hp, hred⟩
    have hB1 : (removeParam g b idx p u).findBlock b = some (rpBlock b idx Bg) := by
      rw [findBlock_removeParam, hB]; rfl
    refine Refines.trans ⟨hs.run w, hs.wf_new⟩ (ih _ _ hs.wf_new hB1 (by rw [entry_removeParam]; exact hbne) hpw.2
      (fun r' hr' => ?_))
    -- the parameters that remain to be removed sit at smaller indices and stay redundant
    obtain ⟨ty', hp', hred'⟩ := hall r' (List.mem_cons_of_mem _ hr')
    have hlt : r'.1 < idx := hpw.1 r' hr'
    refine ⟨ty', ?_, hs.redundant_after hlt hp' hred'⟩
    rw [hs.rp_params_B0, List.getElem?_eraseIdx, if_pos hlt]; exact hp'

theorem phiVisit_sound (w : World) {c : Cert} {f : Func} (hwf : WF c f) (b : BlockId) :
    Refines w c f (phiVisit f b).1 := by
  fun_cases phiVisit f b <;> try exact .refl hwf
  -- the block has redundant parameters
  next hbne B hB _ _ _ =>
    obtain ⟨hpw, hall⟩ := redundantParams_spec f hwf.aliasNF B
    rw [(findBlock_mem hB).2.1] at hall
    exact phiFold w (redundantParams f B).reverse f B hwf hB hbne
      (List.pairwise_reverse.mpr hpw) (fun r hr => hall r (List.mem_reverse.mp hr))

theorem phiRound_sound (w : World) {c : Cert} (order : List BlockId) (f : Func) (hwf : WF c f) :
    Refines w c f (phiRound f order).1 :=
  Refines.foldl (·.1) (fun (acc : Func × Bool) b => ((phiVisit acc.1 b).1, acc.2 || (phiVisit acc.1 b).2)) order
    (fun _ b _ hwf => phiVisit_sound w hwf b) (f, false) hwf

theorem phiLoop_sound (w : World) {c : Cert} (order : List BlockId) :
    ∀ (n : Nat) (f : Func), WF c f → Refines w c f (phiLoop n f order) := by
  intro n
  induction n with
  | zero => intro f hwf; exact .refl hwf
  | succ n ih =>
    intro f hwf
    have h1 := phiRound_sound w order f hwf
    unfold phiLoop
    cases hpr : phiRound f order with
    | mk g ch =>
      rw [hpr] at h1
      simp only [] at h1 ⊢
      split
      · exact h1.trans (ih g h1.wf)
      · exact h1

theorem redundantPhiElim_sound (w : World) {c : Cert} {f : Func} (hwf : WF c f) : Refines w c f (redundantPhiElim f) :=
  phiLoop_sound w _ _ f hwf

end Wz.Model.SsaPass
