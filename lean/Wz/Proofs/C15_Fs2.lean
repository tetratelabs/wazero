/- Lemmas for C15: the 24 functions of Wz.Model.WasiFs2 — every alternative of every call is safe, and but for
sock_recv `Fine`: its writes lie inside the regions the signature designates; sock_recv is `Fine` with both repairs.
Core Lean only. -/
import Wz.Proofs.C15_Base
import Wz.Proofs.C15_Table
import Wz.Proofs.C15_Readdir

namespace Wz.C15
open Wz.Model Wz.Model.Wasi Wz.Model.DescTable Wz.Gen.Wasi

theorem allFine_atPath {m : Mem} {d : List (Nat × Nat)} {fds : Fds} {fd p len : Nat} {e : Err}
    (h : atPath fds m fd p len = some e) : AllFine m d (rE e) := by
  refine allFine_rE (fun he => ?_)
  subst he
  revert h
  fun_cases atPath fds m fd p len <;> nofun

theorem fdAdvise_fine (m : Mem) (d) (fds : Fds) (fd adv : Nat) : AllFine m d (fdAdvise fds fd adv) := by
  fun_cases fdAdvise fds fd adv <;> exact allFine_rE (by decide)

theorem fdAllocate_fine (m : Mem) (d) (fds : Fds) (fd off len : Nat) : AllFine m d (fdAllocate fds fd off len) := by
  fun_cases fdAllocate fds fd off len <;> exact allFine_rE (by decide)

theorem fdSyncLike_fine (m : Mem) (d) (fds : Fds) (fd : Nat) : AllFine m d (fdSyncLike fds fd) := by
  fun_cases fdSyncLike fds fd <;> exact allFine_rE (by decide)

theorem fdFdstatSetFlags_fine (m : Mem) (d) (fds : Fds) (fd fl : Nat) : AllFine m d (fdFdstatSetFlags fds fd fl) := by
  fun_cases fdFdstatSetFlags fds fd fl <;> exact allFine_rE (by decide)

theorem fdFilestatSetSize_fine (m : Mem) (d) (fds : Fds) (fd : Nat) : AllFine m d (fdFilestatSetSize fds fd) := by
  fun_cases fdFilestatSetSize fds fd <;> exact allFine_rE (by decide)

theorem fdFilestatSetTimes_fine (m : Mem) (d) (fds : Fds) (fd fst : Nat) :
    AllFine m d (fdFilestatSetTimes fds fd fst) := by
  fun_cases fdFilestatSetTimes fds fd fst <;> exact allFine_rE (by decide)

theorem sockShutdown_fine (m : Mem) (d) (fds : Fds) (fd how : Nat) : AllFine m d (sockShutdown fds fd how) := by
  fun_cases sockShutdown fds fd how <;> exact allFine_rE (by decide)

theorem pathOp_fine (m : Mem) (d) (fds : Fds) (fd p len : Nat) : AllFine m d (pathOp fds m fd p len) := by
  unfold pathOp
  split
  · exact allFine_atPath (by assumption)
  · exact allFine_rE (by decide)

theorem pathOp2_fine (m : Mem) (d) (fds : Fds) (fd p len fd2 p2 len2 : Nat) :
    AllFine m d (pathOp2 fds m fd p len fd2 p2 len2) := by
  unfold pathOp2
  split
  · exact allFine_atPath (by assumption)
  · split
    · exact allFine_atPath (by assumption)
    · exact allFine_rE (by decide)

theorem pathFilestatSetTimes_fine (m : Mem) (d) (fds : Fds) (fd p len fst : Nat) :
    AllFine m d (pathFilestatSetTimes fds m fd p len fst) := by
  unfold pathFilestatSetTimes
  split
  · exact allFine_rE (by decide)
  · exact pathOp_fine m d fds fd p len

theorem pathSymlink_fine (m : Mem) (d) (fds : Fds) (old oldLen fd new newLen : Nat) :
    AllFine m d (pathSymlink fds m old oldLen fd new newLen) := by
  fun_cases pathSymlink fds m old oldLen fd new newLen
  all_goals try exact allFine_rE (by decide)
  exact pathOp_fine m d fds _ _ _

theorem pathFilestatGet_fine (m : Mem) (fds : Fds) (fd p len res : Nat) (hr : res < 4294967296) :
    AllFine m [(res, 64)] (pathFilestatGet fds m fd p len res) := by
  fun_cases pathFilestatGet fds m fd p len res
  all_goals try exact allFine_rE (by decide)
  · exact allFine_atPath (by assumption)
  · rename_i hh
    exact List.forall_mem_cons.2 ⟨fine_lit nofun (List.forall_mem_singleton.2
      (placed_has hh hr (by decide) List.mem_cons_self (Nat.le_refl _) (Nat.le_refl _) (Nat.le_refl _))),
      List.forall_mem_singleton.2 (fine_err nofun)⟩

theorem clip_le (m : Mem) (off len : Nat) : off + clip m off len ≤ m.size ∨ clip m off len = 0 := by
  unfold clip
  split
  · right; rfl
  · left; omega

theorem clip_placed (m : Mem) (buf bufLen : Nat) (rest : List (Nat × Nat)) :
    Placed m ((buf, bufLen) :: rest) (Wr.region buf (clip m buf bufLen)) := by
  have hle : clip m buf bufLen ≤ bufLen := by unfold clip; split <;> omega
  refine fun _ => ⟨fun a h1 h2 => ⟨(buf, bufLen), List.mem_cons_self, h1, ?_⟩, fun _ => (clip_le m buf bufLen).symm⟩
  show a < buf + bufLen
  have : a < buf + clip m buf bufLen := h2
  omega

theorem pathReadlink_fine (m : Mem) (fds : Fds) (fd p len buf bufLen res : Nat) (hr : res < 4294967296) :
    AllFine m [(buf, bufLen), (res, 4)] (pathReadlink fds m fd p len buf bufLen res) := by
  fun_cases pathReadlink fds m fd p len buf bufLen res
  all_goals try exact allFine_rE (by decide)
  · exact allFine_atPath (by assumption)
  · rename_i hh
    exact List.forall_mem_cons.2 ⟨fine_err nofun, List.forall_mem_singleton.2 (fine_lit nofun
      (List.forall_mem_cons.2 ⟨clip_placed m buf bufLen _, List.forall_mem_singleton.2
        (placed_has hh hr (by decide) (List.mem_cons_of_mem _ List.mem_cons_self) (Nat.le_refl _) (Nat.le_refl _) (Nat.le_refl _))⟩))⟩
  · exact List.forall_mem_cons.2 ⟨fine_err nofun, List.forall_mem_singleton.2 (fine_lit (by decide)
      (List.forall_mem_singleton.2 (clip_placed m buf bufLen _)))⟩

theorem fine_inserted {m : Mem} {d : List (Nat × Nat)} {fds t : Fds} {k : Kind} {newFd : Nat} {b : Bool} {ws : List Wr}
    (h : insertFd fds k = (t, newFd, b)) (hw : ∀ w ∈ ws, Placed m d w) :
    Fine m d { err := .errno 0, writes := ws, fds := some t, alloc := 8 * (slots t - slots fds) } := by
  have h1 := slots_insert_le fds k
  unfold insertFd at h
  rw [h] at h1
  exact ⟨nofun, hw, fun h => absurd rfl h, by dsimp only at h1 ⊢; omega⟩

theorem pathOpened_fine (m : Mem) (fds : Fds) (res : Nat) (k : Kind) (hr : res < 4294967296) :
    AllFine m [(res, 4)] (pathOpened fds m res k) := by
  unfold pathOpened
  split
  · nofun
  · rename_i t newFd hins
    split
    · rename_i hh
      exact List.forall_mem_singleton.2
        (fine_inserted hins (List.forall_mem_singleton.2 (cell_placed newFd hh hr List.mem_cons_self)))
    · nofun

theorem pathOpen_fine (m : Mem) (fds : Fds) (fd p len oflags res : Nat) (hr : res < 4294967296) :
    AllFine m [(res, 4)] (pathOpen fds m fd p len oflags res) := by
  fun_cases pathOpen fds m fd p len oflags res
  all_goals try exact allFine_rE (by decide)
  · exact allFine_atPath (by assumption)
  · refine List.forall_mem_cons.2 ⟨fine_err nofun, List.forall_mem_append.2 ⟨pathOpened_fine m fds res _ hr, ?_⟩⟩
    split
    · nofun
    · exact pathOpened_fine m fds res _ hr

theorem sockAccept_fine (m : Mem) (fds : Fds) (fd res : Nat) (hr : res < 4294967296) :
    AllFine m [(res, 4)] (sockAccept fds m fd res) := by
  fun_cases sockAccept fds m fd res
  all_goals try exact allFine_rE (by decide)
  refine List.forall_mem_cons.2 ⟨fine_err nofun, ?_⟩
  split
  · nofun
  · rename_i t newFd hins
    exact List.forall_mem_singleton.2 (fine_inserted hins
      (optBytes_placed hr (by rw [bytesLE_length]; decide) List.mem_cons_self (Nat.le_of_eq (bytesLE_length 4 _))))

theorem sockSend_fine (m : Mem) (fds : Fds) (fd iovs cnt fl res : Nat) (hr : res < 4294967296) :
    AllFine m [(res, 4)] (sockSend fds m fd iovs cnt fl res) := by
  fun_cases sockSend fds m fd iovs cnt fl res
  all_goals try exact allFine_rE (by decide)
  · exact List.forall_mem_singleton.2 (fine_lit nofun (optRegion_placed hr (by decide) List.mem_cons_self))
  · rename_i heq
    exact allFine_rE (fun he => writevLoop_ne_panic .unknown m iovs (w32 (cnt * 8)) (stop8 cnt) (w32_lt _) _ 0 [] 0 rfl
      (by rw [heq, he]))
  · exact List.forall_mem_singleton.2 (fine_lit nofun
      (optBytes_placed hr (by rw [bytesLE_length]; decide) List.mem_cons_self (Nat.le_of_eq (bytesLE_length 4 _))))

/-- Every alternative is safe whatever the finding switches (F61 and F62 are about WHERE it writes, not about host
safety). -/
theorem sockRecv_fine (fixed fixedRead : Bool) (m : Mem) (fds : Fds) (fd iovs cnt fl res ro : Nat)
    (hi : iovs < 4294967296) (hr : res < 4294967296) (hro : ro < 4294967296) (hs : m.size < 9223372036854775808) :
    ∀ r ∈ sockRecv fixed fixedRead fds m fd iovs cnt fl res ro, (Bytes m → Safe m r) ∧
      (fixed = true ∧ fixedRead = true → Fine m (iovRegions m iovs cnt 0 ++ [(res, 4), (ro, 2)]) r) := by
  have hdres : (res, 4) ∈ iovRegions m iovs cnt 0 ++ [(res, 4), (ro, 2)] :=
    List.mem_append_right _ List.mem_cons_self
  have hdro : (ro, 2) ∈ iovRegions m iovs cnt 0 ++ [(res, 4), (ro, 2)] :=
    List.mem_append_right _ (List.mem_cons_of_mem _ List.mem_cons_self)
  have hflags := optBytes_placed (m := m) (bs := [0, 0]) hro (by decide) hdro (Nat.le_refl _)
  have hcell := optRegion_placed (m := m) hr (by decide) hdres
  have fine : ∀ {rs : List Res}, AllFine m (iovRegions m iovs cnt 0 ++ [(res, 4), (ro, 2)]) rs → ∀ r ∈ rs,
      (Bytes m → Safe m r) ∧ (fixed = true ∧ fixedRead = true → Fine m (iovRegions m iovs cnt 0 ++ [(res, 4), (ro, 2)]) r) :=
    fun h => h.cond hs
  -- the refusals apart, sock_recv has four answers
  fun_cases sockRecv fixed fixedRead fds m fd iovs cnt fl res ro
  all_goals try exact fine (allFine_rE (by decide))
  · -- RI_RECV_PEEK, repaired, without an iovec: nothing to peek into
    exact fine (List.forall_mem_singleton.2 (fine_lit nofun (List.forall_mem_append.2
      ⟨optBytes_placed hr (by rw [bytesLE_length]; decide) hdres (Nat.le_of_eq (bytesLE_length 4 0)), hflags⟩)))
  · -- RI_RECV_PEEK: the peeked data goes to the buffer the bytes at `iovs` name: in the memory; designated when the
    -- repaired variant has made sure that there is a first iovec
    rename_i hc h8 _ _ _ _ _ hbuf
    refine List.forall_mem_cons.2 ⟨fine (allFine_rE (e := Err.nz) nofun) _ List.mem_cons_self,
      List.forall_mem_singleton.2 ⟨fun hb => safe_lit nofun (List.forall_mem_append.2 ⟨List.forall_mem_append.2
        ⟨List.forall_mem_singleton.2 (Or.inr (has_le m _ _ (le32_lt m hb _) (le32_lt m hb _) hs (has_of_not hbuf))),
          fun w hw => (hcell w hw hs).2 hb⟩, fun w hw => (hflags w hw hs).2 hb⟩), ?_⟩⟩
    rintro ⟨rfl, _⟩
    refine fine_lit nofun (List.forall_mem_append.2 ⟨List.forall_mem_append.2
      ⟨List.forall_mem_singleton.2 ?_, hcell⟩, hflags⟩)
    have h8' : iovs + 8 ≤ m.size := has_le m iovs 8 hi (by decide) hs (by simpa using h8)
    have hc' : 0 < 0 + cnt := by
      have : ¬ cnt = 0 := by simpa using hc
      omega
    exact placed_iov (a := iovs + 8 * 0) (has_of_not hbuf)
      (List.mem_append_left _ (iovRegions_mem m iovs cnt 0 0 (Nat.le_refl _) hc' (by omega)))
      (Nat.le_refl _) (Nat.le_refl _) (Nat.le_refl _)
  · -- as-is `readv` on an iovec array that its own buffers overlap: anywhere in the memory
    rename_i hw
    refine List.forall_mem_singleton.2 ⟨fun _ => safe_lit nofun (List.forall_mem_singleton.2
      (Or.inr (Nat.le_of_eq (Nat.zero_add _)))), ?_⟩
    rintro ⟨_, rfl⟩
    simp at hw
  · -- `readv`: the buffers the iovec array names
    exact fine (List.forall_mem_singleton.2 (fine_lit nofun (List.forall_mem_append.2 ⟨List.forall_mem_append.2
      ⟨iovWritable_placed m iovs cnt _, hcell⟩, optRegion_placed hro (by decide) hdro⟩)))

/-- the host's file names are shorter than 4 GiB - 48 (else `maxDirents` panics with "invalid filename: too large",
which no guest argument can cause) -/
def HostNamesOk (h : Host) : Prop := ∀ n ∈ h.preEntries ++ h.dirEntries, n < 4294967248

theorem listing_ok (h : Host) (hh : HostNamesOk h) (k : Kind) : ∀ n ∈ listing h k, n < 4294967248 := by
  intro n hn
  unfold listing at hn
  split at hn
  all_goals
    simp only [List.mem_cons] at hn
    rcases hn with rfl | rfl | hn
    · decide
    · decide
    · exact hh n (by simp [hn])

theorem exactDirents_placed {m : Mem} (buf B bufLen dNext : Nat) (ents : List (List Nat × Nat)) (C T : Nat)
    (rest : List (Nat × Nat)) (hb : buf < 4294967296) (hB : B ≤ bufLen) (hl : bufLen < 4294967296)
    (hh : m.has buf B = true) : ∀ w ∈ exactDirents buf B dNext ents C T, Placed m ((buf, bufLen) :: rest) w := by
  intro w hw
  unfold exactDirents at hw
  simp only [List.mem_filter, Bool.and_eq_true, decide_eq_true_eq] at hw
  exact placed_has hh hb (by omega) List.mem_cons_self hB hw.2.1 hw.2.2

theorem readdirEmit_fine (m : Mem) (buf bufLen res : Nat) (names : List Nat) (ents : List (List Nat × Nat)) (dNext : Nat)
    (hn : ∀ n ∈ names, n < 4294967248)
    (hb : buf < 4294967296) (hl : bufLen < 4294967296) (hr : res < 4294967296) :
    AllFine m [(buf, bufLen), (res, 4)] (readdirEmit m buf bufLen res names ents dNext) := by
  have hdres : (res, 4) ∈ [(buf, bufLen), (res, 4)] := List.mem_cons_of_mem _ List.mem_cons_self
  obtain ⟨B, C, T, hsome, hw, hB⟩ := writeDirents_ok names bufLen hn hl
  obtain ⟨v, hwd⟩ := Option.isSome_iff_exists.1 hw
  unfold readdirEmit
  rw [hsome]
  dsimp only
  refine ifElim (AllFine m _) (fun _ => ?_) (fun _ => ?_)
  · refine ifElim (AllFine m _) (fun _ => allFine_rE (by decide)) (fun hbuf => ?_)
    have hex : ∀ w ∈ Wr.region buf B ::
        (if ents.map (fun e => e.1.length) = names then exactDirents buf B dNext ents C T else []),
        Placed m [(buf, bufLen), (res, 4)] w :=
      List.forall_mem_cons.2 ⟨placed_has (has_of_not hbuf) hb (by omega) List.mem_cons_self hB (Nat.le_refl _) (Nat.le_refl _),
        ifElim (fun l => ∀ w ∈ l, Placed m _ w)
          (fun _ => exactDirents_placed buf B bufLen dNext ents C T _ hb hB hl (has_of_not hbuf)) (fun _ => nofun)⟩
    rw [hwd]
    dsimp only
    refine ifElim (AllFine m _)
      (fun _ => List.forall_mem_singleton.2 (fine_lit (by decide) hex)) (fun hres => ?_)
    refine List.forall_mem_singleton.2 (fine_lit nofun (List.forall_mem_cons.2
      ⟨(List.forall_mem_cons.1 hex).1, List.forall_mem_append.2 ⟨(List.forall_mem_cons.1 hex).2,
        List.forall_mem_singleton.2 (cell_placed _ (has_of_not hres) hr hdres)⟩⟩))
  · refine ifElim (AllFine m _) (fun _ => allFine_rE (by decide)) (fun hres => ?_)
    exact List.forall_mem_singleton.2 (fine_lit nofun
      (List.forall_mem_singleton.2 (cell_placed _ (has_of_not hres) hr hdres)))

theorem fdReaddir_fine (h : Host) (hh : HostNamesOk h) (m : Mem) (fds : Fds) (fd buf bufLen cookie res : Nat)
    (hb : buf < 4294967296) (hl : bufLen < 4294967296) (hr : res < 4294967296) :
    AllFine m [(buf, bufLen), (res, 4)] (fdReaddir h fds m fd buf bufLen cookie res) := by
  fun_cases fdReaddir h fds m fd buf bufLen cookie res
  all_goals try exact allFine_rE (by decide)
  rename_i k _ _ _ _
  exact readdirEmit_fine m buf bufLen res _ _ _
    (fun n hn => listing_ok h hh k n (List.mem_of_mem_drop (List.mem_of_mem_take hn))) hb hl hr

end Wz.C15
