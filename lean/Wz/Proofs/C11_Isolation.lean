import Wz.Model.Isolation
/-
C11 lemmas: the abstraction relation between an instance in the shared heap and a lone instance, the
frame property of `hstep`, and the relation after an update of one own object.
-/
namespace Wz.C11
open Wz.Model.Isolation

/-- pointwise relation of two lists (core Lean has no `Forall₂`) -/
inductive All2 {α β} (R : α → β → Prop) : List α → List β → Prop
  | nil : All2 R [] []
  | cons {a b l1 l2} : R a b → All2 R l1 l2 → All2 R (a :: l1) (b :: l2)

/-- the six mutable objects are the instance's own, its code is a compiled module's -/
def Private (i : Inst) : Prop :=
  i.mem = .own i.id .mem ∧ i.tbl = .own i.id .tbl ∧ i.glob = .own i.id .glob ∧
  i.dhdr = .own i.id .dhdr ∧ i.ehdr = .own i.id .ehdr ∧ i.sys = .own i.id .sys ∧ ∃ mid, i.code = .shared mid .code

/-- what a data/element instance entry of instance `id` may point to: a segment of a compiled module, or
the instance's own copy of one -/
def roFor (id : Nat) : Addr → Prop
  | .shared _ (.dseg _) => True
  | .shared _ (.eseg _) => True
  | .ownD i _ => i = id
  | .ownE i _ => i = id
  | _ => False

def SegRel (pick : Obj → Option (List Nat)) (h : Heap) (id : Nat) : Option Addr → Option (List Nat) → Prop
  | none, none => True
  | some a, some b => roFor id a ∧ (h.get a).bind pick = some b
  | _, _ => False

/-- `Rel h i s`: the lone state `s` is what instance `i` looks like inside heap `h` -/
structure Rel (h : Heap) (i : Inst) (s : LState) : Prop where
  mem : h.get i.mem = some (.mem s.mem)
  tbl : h.get i.tbl = some (.tbl s.tmax s.tbl)
  glob : h.get i.glob = some (.vals s.glob)
  sys : h.get i.sys = some (.sys s.sys)
  code : h.get i.code = some (.code s.fns)
  data : ∃ dh, h.get i.dhdr = some (.hdrs dh) ∧ All2 (SegRel pickBytes h i.id) dh s.data
  elem : ∃ eh, h.get i.ehdr = some (.hdrs eh) ∧ All2 (SegRel pickRefs h i.id) eh s.elem

section
variable {α β : Type _} {R S : α → β → Prop} {l1 : List α} {l2 : List β}

theorem All2.imp (hRS : ∀ a b, R a b → S a b) (f : All2 R l1 l2) : All2 S l1 l2 := by
  induction f with
  | nil => exact .nil
  | cons h _ ih => exact .cons (hRS _ _ h) ih

theorem All2.length_eq (f : All2 R l1 l2) : l1.length = l2.length := by
  induction f with
  | nil => rfl
  | cons _ _ ih => exact congrArg (· + 1) ih

theorem All2.get (f : All2 R l1 l2) : ∀ (k : Nat) (x : α), l1[k]? = some x → ∃ y, l2[k]? = some y ∧ R x y := by
  induction f with
  | nil => intro k x hx; cases hx
  | cons h _ ih =>
    intro k x hx
    cases k with
    | zero => cases hx; exact ⟨_, rfl, h⟩
    | succ k => exact ih k x hx

theorem All2.get_none (f : All2 R l1 l2) (k : Nat) (hx : l1[k]? = none) : l2[k]? = none := by
  rw [List.getElem?_eq_none_iff] at hx ⊢
  exact All2.length_eq f ▸ hx

theorem All2.set {x : α} {y : β} (hxy : R x y) (f : All2 R l1 l2) : ∀ (k : Nat), All2 R (l1.set k x) (l2.set k y) := by
  induction f with
  | nil => exact fun _ => .nil
  | cons h t ih =>
    intro k
    cases k with
    | zero => exact .cons hxy t
    | succ k => exact .cons h (ih k)

end

def owner : Addr → Option Nat
  | .own i _ | .ownD i _ | .ownE i _ => some i
  | .shared _ _ => none

theorem roFor_owner {id : Nat} {a : Addr} (ha : roFor id a) {k : Nat} (hne : id ≠ k) : owner a ≠ some k := by
  cases a with
  | shared => simp [owner]
  | own => exact ha.elim
  | ownD i _ | ownE i _ => have : i = id := ha; simp [owner, this, hne]

theorem segRel_frame {pick h h' id} (hf : ∀ a, roFor id a → h'.get a = h.get a) :
    ∀ e d, SegRel pick h id e d → SegRel pick h' id e d
  | none, none, _ => trivial
  | some a, some b, ⟨hr, hg⟩ => ⟨hr, by rw [hf a hr]; exact hg⟩
  | none, some _, hfalse => hfalse.elim
  | some _, none, hfalse => hfalse.elim

abbrev ownInst (id mid : Nat) : Inst :=
  ⟨id, .own id .mem, .own id .tbl, .own id .glob, .own id .dhdr, .own id .ehdr, .own id .sys, .shared mid .code⟩

theorem Private.eq_ownInst {i : Inst} (hp : Private i) : ∃ mid, i = ownInst i.id mid := by
  obtain ⟨id, mem, tbl, glob, dhdr, ehdr, sys, code⟩ := i
  obtain ⟨h1, h2, h3, h4, h5, h6, mid, h7⟩ := hp
  simp only at h1 h2 h3 h4 h5 h6 h7
  subst h1 h2 h3 h4 h5 h6 h7
  exact ⟨mid, rfl⟩

/-- `Rel` reads the heap only at the instance's own objects, its code, and the segments its headers may point to: none of
them is owned by another instance `k` -/
theorem rel_frame {h h' : Heap} {j : Inst} {s : LState} (k : Nat)
    (hf : ∀ a, owner a ≠ some k → h'.get a = h.get a)
    (hp : Private j) (hne : j.id ≠ k) (r : Rel h j s) : Rel h' j s := by
  obtain ⟨mid, e⟩ := hp.eq_ownInst
  rw [e] at r ⊢
  have own : ∀ f, h'.get (.own j.id f) = h.get (.own j.id f) := fun f => hf _ (by simp [owner, hne])
  have ro : ∀ a, roFor j.id a → h'.get a = h.get a := fun a ha => hf a (roFor_owner ha hne)
  obtain ⟨rm, rt, rg, rs, rc, ⟨dh, rdh, fd⟩, ⟨eh, reh, fe⟩⟩ := r
  exact ⟨(own _).trans rm, (own _).trans rt, (own _).trans rg, (own _).trans rs,
    (hf _ (by simp [owner])).trans rc,
    ⟨dh, (own _).trans rdh, All2.imp (segRel_frame ro) fd⟩,
    ⟨eh, (own _).trans reh, All2.imp (segRel_frame ro) fe⟩⟩

/-- a step of instance `i` changes only `i`'s own six objects -/
theorem hstep_frame (env : Env) (h : Heap) (i : Inst) (op : Op) (hp : Private i) (a : Addr)
    (ha : ∀ f, a ≠ .own i.id f) : (hstep env h i op).1.get a = h.get a := by
  obtain ⟨mid, e⟩ := hp.eq_ownInst
  -- on the canonical form of the instance every write of `hstep` is, as written, to an address `.own i.id _`
  rw [e]
  fun_cases hstep env h _ op <;> simp only [Heap.get_set_ne _ _ _ _ (ha _)]

/-- The writes `hstep` makes to own object `f` of instance `id`, each with what the same op does to the lone state. -/
inductive Upd (h : Heap) (id : Nat) (s : LState) : Fld → Obj → LState → Prop
  | mem (m' : Mem) : Upd h id s .mem (.mem m') { s with mem := m' }
  | tbl (t' : List Nat) : Upd h id s .tbl (.tbl s.tmax t') { s with tbl := t' }
  | glob (g' : List (Nat × Nat)) : Upd h id s .glob (.vals g') { s with glob := g' }
  | sys (y' : Sys) : Upd h id s .sys (.sys y') { s with sys := y' }
  /-- `data.drop k`: the header entry is nilled, the lone instance forgets its copy -/
  | ddrop {dh : List (Option Addr)} (hdh : h.get (.own id .dhdr) = some (.hdrs dh)) (k : Nat) :
      Upd h id s .dhdr (.hdrs (dh.set k none)) { s with data := s.data.set k none }
  | edrop {eh : List (Option Addr)} (heh : h.get (.own id .ehdr) = some (.hdrs eh)) (k : Nat) :
      Upd h id s .ehdr (.hdrs (eh.set k none)) { s with elem := s.elem.set k none }

/-- `Rel` after a write to one own object: the object written is read back, the other five, the code and the segments
(none of them an `.own` address) are where they were. -/
theorem rel_set {h : Heap} {id mid : Nat} {s s' : LState} {f : Fld} {o : Obj} (r : Rel h (ownInst id mid) s)
    (u : Upd h id s f o s') : Rel (h.set (.own id f) o) (ownInst id mid) s' := by
  obtain ⟨rm, rt, rg, rs, rc, ⟨dh, rdh, fd⟩, ⟨eh, reh, fe⟩⟩ := r
  have keep {pick} : ∀ e d, SegRel pick h id e d → SegRel pick (h.set (.own id f) o) id e d :=
    segRel_frame fun a ha => Heap.get_set_ne _ _ _ _ (by rintro rfl; exact ha)
  cases u with
  | ddrop hdh k =>
    cases rdh.symm.trans hdh
    refine ⟨?_, ?_, ?_, ?_, ?_, ⟨_, ?_, All2.set (x := none) trivial (All2.imp keep fd) k⟩,
      ⟨eh, ?_, All2.imp keep fe⟩⟩ <;> simp [Heap.set, *]
  | edrop heh k =>
    cases reh.symm.trans heh
    refine ⟨?_, ?_, ?_, ?_, ?_, ⟨dh, ?_, All2.imp keep fd⟩,
      ⟨_, ?_, All2.set (x := none) trivial (All2.imp keep fe) k⟩⟩ <;> simp [Heap.set, *]
  | _ =>
    refine ⟨?_, ?_, ?_, ?_, ?_, ⟨dh, ?_, All2.imp keep fd⟩, ⟨eh, ?_, All2.imp keep fe⟩⟩ <;>
      simp [Heap.set, *]

/-- looking a segment up through the header gives what the lone instance has in its own copy -/
theorem seg_of_rel {pick h id e d} (r : SegRel pick h id e d) : seg pick h e = some (d.getD []) := by
  match e, d, r with
  | none, none, _ => rfl
  | some a, some b, ⟨_, hg⟩ => simpa [seg] using hg

end Wz.C11
