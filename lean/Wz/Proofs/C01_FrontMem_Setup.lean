/-
C01 / C02 (front end with memory accesses): `memOpSetup` is correct.  Under the invariant (embedding of the linear
memory, cached base / length, known safe bounds) the instructions it emits either trap with
`ExitCodeMemoryOutOfBounds` — exactly when `address + offset + width` exceeds the memory length, over the naturals —
or leave the absolute address `base + address` in the returned value; an elided check is justified by the recorded
bound.  The only accesses are reads of the two module-context words.
-/
import Wz.Proofs.C01_FrontMem_Basic

namespace Wz.Proofs.FrontMem
open Wz.Spec Wz.Model.SsaPass Wz.Model.FrontendSL Wz.Model.FrontendMem Wz.Proofs.Front

variable {w : World} {mc base : Nat} {bytes : ByteArray} {s : MS} {env : Val → Nat} {mem : Mem}

/-- what a successful piece of the setup guarantees: it runs through on every log, only reading the context, the
environment is unchanged below the old `next`, the front end's other state is kept -/
structure Piece (w : World) (mc base : Nat) (bytes : ByteArray) (s s' : MS) (env env' : Val → Nat) (mem : Mem)
    (l : List MInstr) : Prop where
  run : ∃ log', AccOK mc base bytes.size log' ∧
    ∀ log, runL w l (mkM env mem) log = .inr (mkM env' mem, log ++ log')
  frame : ∀ v, v < s.ls.next → env' v = env v
  next : s.ls.next ≤ s'.ls.next
  inv : MInv mc base bytes s' env' mem
  stack : s'.ls.stack = s.ls.stack
  locals : s'.ls.locals = s.ls.locals

theorem Piece.nil (h : MInv mc base bytes s env mem) : Piece w mc base bytes s s env env mem [] :=
  ⟨RunsM.nil, fun _ _ => rfl, Nat.le_refl _, h, rfl, rfl⟩

theorem Piece.comp {s1 s2 : MS} {env1 env2 : Val → Nat} {l1 l2 : List MInstr}
    (p1 : Piece w mc base bytes s s1 env env1 mem l1) (p2 : Piece w mc base bytes s1 s2 env1 env2 mem l2) :
    Piece w mc base bytes s s2 env env2 mem (l1 ++ l2) := by
  refine ⟨RunsM.comp p1.run p2.run, ?_, Nat.le_trans p1.next p2.next, p2.inv, ?_, ?_⟩
  · intro v hv
    rw [p2.frame v (Nat.lt_of_lt_of_le hv p1.next), p1.frame v hv]
  · rw [p2.stack, p1.stack]
  · rw [p2.locals, p1.locals]

theorem Piece.reinv {s1 s2 : MS} {env1 : Val → Nat} {l : List MInstr}
    (p : Piece w mc base bytes s s1 env env1 mem l) (h' : MInv mc base bytes s2 env1 mem) (hls : s2.ls = s1.ls) :
    Piece w mc base bytes s s2 env env1 mem l :=
  ⟨p.run, p.frame, by rw [hls]; exact p.next, h', by rw [hls]; exact p.stack, by rw [hls]; exact p.locals⟩

theorem Piece.carry {s1 : MS} {env1 : Val → Nat} {l : List MInstr} (p : Piece w mc base bytes s s1 env env1 mem l)
    {lt : List Ty} {tys : List Ty} {stack : List Nat} {locals : Array Nat} (h : Inv lt s.ls tys stack locals env) :
    Inv lt s1.ls tys stack locals env1 := by
  have e : s1.ls = ⟨s1.ls.next, s.ls.stack, s.ls.locals⟩ := by rw [← p.stack, ← p.locals]
  rw [e]; exact h.mono p.next p.frame

theorem piece_one {j : MInstr} {x : Nat} (h : MInv mc base bytes s env mem)
    (hstep : stepM w j (mkM env mem) = .next (mkM (upd env s.ls.next x) mem))
    (hacc : AccOK mc base bytes.size (instrAcc env j)) :
    Piece w mc base bytes s (s.bump 1) env (upd env s.ls.next x) mem [j] :=
  ⟨RunsM.one hstep hacc, fun _ hv => upd_ne _ _ (Nat.ne_of_lt hv),
    Nat.le_succ _, h.frame rfl rfl rfl (Nat.le_succ _) (fun _ hv => upd_ne _ _ (Nat.ne_of_lt hv)), rfl, rfl⟩

theorem Piece.snoc {s1 : MS} {env1 : Val → Nat} {l : List MInstr} {j : MInstr} {x : Nat}
    (p : Piece w mc base bytes s s1 env env1 mem l)
    (hstep : stepM w j (mkM env1 mem) = .next (mkM (upd env1 s1.ls.next x) mem))
    (hacc : AccOK mc base bytes.size (instrAcc env1 j)) :
    Piece w mc base bytes s (s1.bump 1) env (upd env1 s1.ls.next x) mem (l ++ [j]) :=
  p.comp (piece_one p.inv hstep hacc)

theorem piece_nodef {j : MInstr} (h : MInv mc base bytes s env mem)
    (hstep : stepM w j (mkM env mem) = .next (mkM env mem)) (hacc : instrAcc env j = []) :
    Piece w mc base bytes s s env env mem [j] :=
  ⟨RunsM.one hstep (hacc ▸ AccOK.nil), fun _ _ => rfl, Nat.le_refl _, h, rfl, rfl⟩

theorem MInv.setLen (h : MInv mc base bytes s env mem) {v : Nat} (hv : env v = bytes.size) (hlt : v < s.ls.next) :
    MInv mc base bytes { s with memLen := some v } env mem :=
  ⟨h.emb, h.ctx, h.nextGe, h.mbase, fun _ e => by cases e; exact ⟨hv, hlt⟩, h.bnd⟩

theorem MInv.setBase (h : MInv mc base bytes s env mem) {v : Nat} (hv : env v = base) (hlt : v < s.ls.next) :
    MInv mc base bytes { s with memBase := some v } env mem :=
  ⟨h.emb, h.ctx, h.nextGe, fun _ e => by cases e; exact ⟨hv, hlt⟩, h.mlen, h.bnd⟩

theorem MInv.addBound (h : MInv mc base bytes s env mem) {b ceil addr : Nat} (h1 : env b + ceil ≤ bytes.size)
    (h2 : env addr = base + env b) (h3 : b < s.ls.next) (h4 : addr < s.ls.next) :
    MInv mc base bytes { s with bounds := (b, ceil, addr) :: s.bounds } env mem := by
  refine ⟨h.emb, h.ctx, h.nextGe, h.mbase, h.mlen, ?_⟩
  intro b' bound' a' hm
  rcases List.mem_cons.mp hm with heq | hm
  · cases heq; exact ⟨h1, h2, h3, h4⟩
  · exact h.bnd b' bound' a' hm

theorem getMemLen_ok (h : MInv mc base bytes s env mem) :
    ∃ env', Piece w mc base bytes s (getMemLen s).2.2 env env' mem (getMemLen s).1 ∧
      env' (getMemLen s).2.1 = bytes.size ∧ (getMemLen s).2.1 < (getMemLen s).2.2.ls.next := by
  unfold getMemLen
  cases hm : s.memLen with
  | some v => exact ⟨env, Piece.nil h, h.mlen v hm⟩
  | none =>
    have hval : evalExt .uload32 .i64 (memLoad mem (mc + offMemLen) 4) = bytes.size := by
      rw [emb_len h.emb]
      simp only [evalExt, ExtOp.signed, Bool.false_eq_true, if_false, ExtOp.bytes, norm, Ty.bits]
      have := h.emb.lenR
      omega
    have p := piece_one (w := w) (j := .extload .uload32 s.ls.next .i64 moduleCtx offMemLen) (x := bytes.size) h
      (by simp only [stepM, mkM_env, mkM_mem, h.ctxAddr (by decide : offMemLen ≤ 16), ExtOp.bytes, hval, mkM_set])
      (by simp only [instrAcc, h.ctxAddr (by decide : offMemLen ≤ 16)]; exact AccOK.ctxLen)
    exact ⟨_, p.reinv (p.inv.setLen (upd_self ..) (Nat.lt_succ_self _)) rfl, upd_self .., Nat.lt_succ_self _⟩

theorem getMemBase_ok (h : MInv mc base bytes s env mem) :
    ∃ env', Piece w mc base bytes s (getMemBase s).2.2 env env' mem (getMemBase s).1 ∧
      env' (getMemBase s).2.1 = base := by
  unfold getMemBase
  cases hm : s.memBase with
  | some v => exact ⟨env, Piece.nil h, (h.mbase v hm).1⟩
  | none =>
    have hval : norm .i64 (memLoad mem (mc + offMemBase) 8) = base := by
      rw [emb_base h.emb]
      exact norm_of_lt (by have := h.emb.baseR; simp only [Ty.bits]; omega)
    have p := piece_one (w := w) (j := .base (.load s.ls.next .i64 moduleCtx offMemBase)) (x := base) h
      (by simp only [stepM, execInstr, mkM_env, mkM_mem, h.ctxAddr (by decide : offMemBase ≤ 16), Ty.bits,
            Nat.reduceDiv, hval, mkM_set])
      (by simp only [instrAcc, h.ctxAddr (by decide : offMemBase ≤ 16)]; exact AccOK.ctxBase)
    exact ⟨_, p.reinv (p.inv.setBase (upd_self ..) (Nat.lt_succ_self _)) rfl, upd_self ..⟩

/-- the bounds check; in bounds the zero-extended address is in value `next + 1` -/
theorem check_ok (h : MInv mc base bytes s env mem) {b a ceil : Nat} (hb : b < s.ls.next) (ha : env b = a)
    (ha32 : a < 2 ^ 32) (hc : ceil < 2 ^ 33) :
    (a + ceil ≤ bytes.size →
      ∃ env4, Piece w mc base bytes s (checkState s) env env4 mem (checkInstrs s b ceil) ∧
        env4 (s.ls.next + 1) = a ∧ s.ls.next + 2 ≤ (checkState s).ls.next) ∧
    (bytes.size < a + ceil → TrapsM w mc base bytes.size (checkInstrs s b ceil) env mem codeMemOOB) := by
  have hlenR := h.emb.lenR
  have p1 := piece_one (w := w) (j := .base (.iconst s.ls.next .i64 ceil)) (x := ceil) h
    (by simp only [stepM, execInstr, mkM_set, norm_of_lt (show ceil < 2 ^ Ty.i64.bits by simp only [Ty.bits]; omega)])
    AccOK.nil
  have p2 := p1.snoc (j := .base (.un .uextend (s.ls.next + 1) .i64 b)) (x := a)
    (by simp only [stepM, execInstr, mkM_set, mkM_env, upd_ne _ _ (Nat.ne_of_lt hb), ha, evalUn_uext a ha32]; rfl)
    AccOK.nil
  obtain ⟨env3, p3, hlen3, hlt3⟩ := getMemLen_ok (w := w) (s := s.bump 2) p2.inv
  have p123 := p2.comp p3
  unfold checkInstrs checkState
  generalize getMemLen (s.bump 2) = L at p3 hlen3 hlt3 p123
  have hLk : s.ls.next + 2 ≤ L.2.2.ls.next := p3.next
  have h3n : env3 s.ls.next = ceil :=
    (p3.frame _ (show s.ls.next < s.ls.next + 2 by omega)).trans
      ((upd_ne _ _ (Nat.ne_of_lt (Nat.lt_succ_self _))).trans (upd_self ..))
  have h3n1 : env3 (s.ls.next + 1) = a :=
    (p3.frame _ (show s.ls.next + 1 < s.ls.next + 2 by omega)).trans (upd_self ..)
  -- the comparison `len < address + ceil` is exact in 64 bits
  have p4 := p123.snoc (j := .base (.bin .iadd L.2.2.ls.next .i64 (s.ls.next + 1) s.ls.next)) (x := a + ceil)
    (by simp only [stepM, execInstr, mkM_set, mkM_env, h3n, h3n1, evalBin_iadd64 a ceil (by omega)]) AccOK.nil
  let env4 := upd (upd env3 L.2.2.ls.next (a + ceil)) (L.2.2.ls.next + 1) (if bytes.size < a + ceil then 1 else 0)
  have P : Piece w mc base bytes s ((L.2.2.bump 1).bump 1) env env4 mem _ :=
    p4.snoc (j := .base (.icmp (L.2.2.ls.next + 1) .i64 .ult L.2.1 L.2.2.ls.next)) (by
      simp only [stepM, execInstr, mkM_set, mkM_env, upd_ne _ _ (Nat.ne_of_lt hlt3), upd_self, hlen3,
        evalCond_ult64 bytes.size (a + ceil) (by omega) (by omega)]
      rfl) AccOK.nil
  have hexit : stepM w (.base (.exitIf execCtx (L.2.2.ls.next + 1) codeMemOOB)) (mkM env4 mem) =
      if bytes.size < a + ceil then .trap codeMemOOB (mkM env4 mem) else .next (mkM env4 mem) := by
    simp only [stepM, execInstr, mkM_env, env4, upd_self]
    by_cases hlt : bytes.size < a + ceil <;> simp [hlt]
  constructor
  · intro hin
    rw [if_neg (by omega)] at hexit
    refine ⟨env4, P.comp (piece_nodef P.inv hexit rfl), ?_, Nat.le_trans hLk (Nat.le_add_right _ 2)⟩
    show upd (upd env3 _ _) _ _ _ = a
    rw [upd_ne _ _ (show s.ls.next + 1 ≠ L.2.2.ls.next + 1 by omega),
      upd_ne _ _ (show s.ls.next + 1 ≠ L.2.2.ls.next by omega)]
    exact h3n1
  · intro hout
    rw [if_pos hout] at hexit
    exact RunsM.traps P.run (.one hexit AccOK.nil)

/-- `m` is what `memOpSetup` / `memCheck` return (instructions, address value, state) for the address `a` and the bound
`ceil` -/
def SetupOK (w : World) (mc base : Nat) (bytes : ByteArray) (s : MS) (env : Val → Nat) (mem : Mem) (a ceil : Nat)
    (m : List MInstr × Val × MS) : Prop :=
  (a + ceil ≤ bytes.size →
    ∃ env', Piece w mc base bytes s m.2.2 env env' mem m.1 ∧ env' m.2.1 = base + a) ∧
  (bytes.size < a + ceil → TrapsM w mc base bytes.size m.1 env mem codeMemOOB)

theorem memCheck_ok (h : MInv mc base bytes s env mem) {b a ceil : Nat} (hb : b < s.ls.next) (ha : env b = a)
    (ha32 : a < 2 ^ 32) (hc : ceil < 2 ^ 33) (addr? : Option Val)
    (haddr : ∀ a0 : Nat, addr? = some a0 → env a0 = base + a ∧ a0 < s.ls.next) :
    SetupOK w mc base bytes s env mem a ceil (memCheck s b ceil addr?) := by
  obtain ⟨hcheck, htrap⟩ := check_ok (w := w) h hb ha ha32 hc
  have hbaseR := h.emb.baseR
  constructor
  · intro hin
    obtain ⟨env4, P, h4a, hn⟩ := hcheck hin
    have hb4 : env4 b = a := by rw [P.frame b hb]; exact ha
    have hb' : b < (checkState s).ls.next := Nat.lt_of_lt_of_le hb P.next
    cases addr? with
    | some a0 =>
      -- an absolute address is known: only the bound is raised
      rw [memCheck_some]
      obtain ⟨ha0, ha0lt⟩ := haddr a0 rfl
      have ha04 : env4 a0 = base + a := by rw [P.frame a0 ha0lt]; exact ha0
      have ha0' := Nat.lt_of_lt_of_le ha0lt P.next
      exact ⟨env4, P.reinv (P.inv.addBound (ceil := ceil) (by rw [hb4]; exact hin) (by rw [ha04, hb4]) hb' ha0') rfl,
        ha04⟩
    | none =>
      rw [memCheck_none]
      obtain ⟨env5, P6, hbase5⟩ := getMemBase_ok (w := w) P.inv
      generalize getMemBase (checkState s) = G at P6 hbase5
      have h5n1 : env5 (s.ls.next + 1) = a := by rw [P6.frame _ (by omega)]; exact h4a
      have P7 := (P.comp P6).snoc (j := .base (.bin .iadd G.2.2.ls.next .i64 G.2.1 (s.ls.next + 1))) (x := base + a)
        (by simp only [stepM, execInstr, mkM_set, mkM_env, hbase5, h5n1, evalBin_iadd64 base a (by omega)]) AccOK.nil
      have hb7 : upd env5 G.2.2.ls.next (base + a) b = a := (P7.frame b hb).trans ha
      exact ⟨_, P7.reinv (P7.inv.addBound (ceil := ceil) (addr := G.2.2.ls.next) (by rw [hb7]; exact hin)
        (by rw [upd_self, hb7]) (Nat.lt_of_lt_of_le hb P7.next) (Nat.lt_succ_self _)) rfl, upd_self ..⟩
  · intro hout
    cases addr? with
    | some a0 => rw [memCheck_some]; exact htrap hout
    | none => rw [memCheck_none]; exact ((htrap hout).append _).append _

theorem memOpSetup_ok (h : MInv mc base bytes s env mem) {b a ceil : Nat} (hb : b < s.ls.next) (ha : env b = a)
    (ha32 : a < 2 ^ 32) (hc : ceil < 2 ^ 33) :
    SetupOK w mc base bytes s env mem a ceil (memOpSetup s b ceil) := by
  fun_cases memOpSetup s b ceil
  case case1 bound a0 hl hle =>
    -- the check is elided: the recorded bound covers this access
    obtain ⟨h1, h2, _, _⟩ := h.bnd b bound a0 (lookupBound_mem _ _ _ hl)
    rw [ha] at *
    exact ⟨fun _ => ⟨env, Piece.nil h, h2⟩, fun hout => by omega⟩
  case case2 bound a0 hl _ =>
    -- the recorded bound is too small: the check, and the recorded absolute address again
    obtain ⟨_, h2, _, h4⟩ := h.bnd b bound a0 (lookupBound_mem _ _ _ hl)
    exact memCheck_ok h hb ha ha32 hc _ (fun _ h0 => by cases h0; exact ⟨ha ▸ h2, h4⟩)
  case case3 => exact memCheck_ok h hb ha ha32 hc _ nofun

end Wz.Proofs.FrontMem
