/-
C13 — proofs about the cache-entry codec model (Wz.Model.CacheEntry).

The reader is a chain of reads, each followed by the rest of the reader.  `reader`, `body`, `execPart` state it
in that form (equal to the model by `rfl`), with the one place where the as-is reader (`deserializeR`) and the
repaired one (Wz.Model.CacheEntryFixed) differ as a parameter, so that every fact is proved for both.
One notion carries round trip and truncation: `Reads P w a`, "`P` reads `a` from exactly the bytes `w`" (what
follows `w` is left over; a strict prefix of `w` is refused with an error).  It is closed under sequencing
(`Reads.readThen`), so it is proved once along the reader, one lemma per read, and the theorems are its parts.
Core Lean only (no Mathlib in this project).
-/
import Wz.Model.CacheEntry

namespace Wz.C13.Entry
open Wz.Model.CacheEntry

theorem le_length (n v : Nat) : (le n v).length = n := by
  induction n generalizing v with
  | zero => rfl
  | succ n ih => simp [le, ih]

theorem leDec_le (n v : Nat) : leDec (le n v) = v % 256 ^ n := by
  induction n generalizing v with
  | zero => simp [le, leDec, Nat.mod_one]
  | succ n ih =>
    simp only [le, leDec, ih]
    rw [Nat.pow_succ, Nat.mul_comm (256 ^ n) 256, Nat.mod_mul]

def isErr : R CM → Prop
  | .err _ => True
  | _ => False

/-- `deserialize` is `toRes` of `deserializeR`, by `rfl` -/
def toRes : R CM → Res
  | .ok cm _ => .ok cm
  | .stale => .stale
  | .err s => .err s
  | .panic s => .panic s

theorem toRes_eq_ok {x : R CM} {cm : CM} (h : toRes x = .ok cm) : ∃ rest, x = .ok cm rest := by
  cases x <;> cases h
  exact ⟨_, rfl⟩

theorem toRes_of_isErr {x : R CM} (h : isErr x) : ∃ m, toRes x = .err m := by
  cases x with
  | err m => exact ⟨m, rfl⟩
  | _ => exact h.elim

theorem take_append_cases (w t : Bytes) (k : Nat) :
    k < w.length ∧ (w ++ t).take k = w.take k ∨
    w.length ≤ k ∧ (w ++ t).take k = w ++ t.take (k - w.length) := by
  by_cases h : k < w.length
  · exact .inl ⟨h, List.take_append_of_le_length (Nat.le_of_lt h)⟩
  · have h := Nat.le_of_not_lt h
    exact .inr ⟨h, by rw [List.take_append, List.take_of_length_le h]⟩

structure ReadsO {α : Type} (rd : Bytes → Option (α × Bytes)) (w : Bytes) (x : α) : Prop where
  full : ∀ t, rd (w ++ t) = some (x, t)
  short : ∀ k, k < w.length → rd (w.take k) = none

structure Reads (P : Bytes → R CM) (w : Bytes) (a : CM) : Prop where
  full : ∀ t, P (w ++ t) = .ok a t
  short : ∀ k, k < w.length → isErr (P (w.take k))

def readThen {α : Type} (o : Option (α × Bytes)) (msg : String) (K : α → Bytes → R CM) : R CM :=
  match o with
  | none => .err msg
  | some (x, r) => K x r

theorem readThen_eq_ok {α : Type} {o : Option (α × Bytes)} {msg : String} {K : α → Bytes → R CM} {cm : CM}
    {rest : Bytes} (h : readThen o msg K = .ok cm rest) : ∃ x r, o = some (x, r) ∧ K x r = .ok cm rest := by
  cases o with
  | none => cases h
  | some p => exact ⟨p.1, p.2, rfl, h⟩

theorem Reads.ok (a : CM) : Reads (fun r => .ok a r) [] a :=
  ⟨fun _ => rfl, nofun⟩

theorem Reads.of_eq {P Q : Bytes → R CM} {w : Bytes} {a : CM} (h : Reads Q w a) (e : ∀ r, P r = Q r) :
    Reads P w a :=
  ⟨fun t => (e _).trans (h.full t), fun k hk => e _ ▸ h.short k hk⟩

theorem Reads.cons {P : Bytes → R CM} (h0 : isErr (P [])) {b : Nat} {w : Bytes} {a : CM}
    (h : Reads (fun r => P (b :: r)) w a) : Reads P (b :: w) a :=
  ⟨h.full, fun k hk => by
    cases k with
    | zero => exact h0
    | succ k => exact h.short k (Nat.lt_of_succ_lt_succ hk)⟩

theorem Reads.readThen {α : Type} {rd : Bytes → Option (α × Bytes)} {w : Bytes} {x : α} (h1 : ReadsO rd w x)
    {K : α → Bytes → R CM} {w' : Bytes} {a : CM} (h2 : Reads (K x) w' a) (msg : String) :
    Reads (fun r => readThen (rd r) msg K) (w ++ w') a := by
  constructor
  · intro t
    simp only [List.append_assoc, h1.full, Entry.readThen, h2.full]
  · intro k hk
    rcases take_append_cases w w' k with ⟨hlt, e⟩ | ⟨hge, e⟩
    · simp only [e, h1.short k hlt, Entry.readThen]
      trivial
    · simp only [e, h1.full, Entry.readThen]
      exact h2.short _ (by rw [List.length_append] at hk; omega)

theorem Reads.cut_ok {P : Bytes → R CM} {w : Bytes} {a : CM} (h : Reads P w a) {t : Bytes} {k : Nat} {a' : CM}
    (hp : toRes (P ((w ++ t).take k)) = .ok a') : a' = a := by
  rcases take_append_cases w t k with ⟨hlt, e⟩ | ⟨_, e⟩
  · obtain ⟨_, hm⟩ := toRes_of_isErr (h.short k hlt)
    rw [e, hm] at hp
    cases hp
  · rw [e, h.full] at hp
    exact (Res.ok.inj hp).symm

theorem readFull_reads {n : Nat} {x : Bytes} (h : x.length = n) : ReadsO (readFull n) x x := by
  subst h
  constructor
  · intro t
    rw [readFull, if_neg (by rw [List.length_append]; omega), List.take_left, List.drop_left]
  · intro k hk
    rw [readFull, if_pos (by rw [List.length_take]; omega)]

theorem readU64_reads {v : Nat} (h : v < 2 ^ 64) : ReadsO readU64 (le 8 v) v := by
  have hl := le_length 8 v
  constructor
  · intro t
    rw [readU64, if_neg (by rw [List.length_append]; omega), List.take_left' hl, List.drop_left' hl, leDec_le,
      Nat.mod_eq_of_lt h]
  · intro k hk
    rw [readU64, if_pos (by rw [List.length_take]; omega)]

theorem readOffsets_reads (offs : List Nat) (h : ∀ o ∈ offs, o < 2 ^ 64) :
    ReadsO (readOffsets offs.length) (offs.flatMap (le 8)) offs := by
  induction offs with
  | nil => exact ⟨fun _ => rfl, nofun⟩
  | cons o os ih =>
    have ho := List.forall_mem_cons.mp h
    have h1 := readU64_reads ho.1
    have h2 := ih ho.2
    constructor
    · intro t
      simp only [List.length_cons, List.flatMap_cons, List.append_assoc, readOffsets, h1.full, h2.full]
    · intro k hk
      simp only [List.length_cons, List.flatMap_cons, List.length_append, readOffsets] at hk ⊢
      rcases take_append_cases (le 8 o) (os.flatMap (le 8)) k with ⟨hlt, e⟩ | ⟨hge, e⟩
      · simp only [e, h1.short k hlt]
      · simp only [e, h1.full, h2.short (k - (le 8 o).length) (by omega)]

theorem readPairs_reads (sm : List (Nat × Nat)) (h : ∀ p ∈ sm, p.1 < 2 ^ 64 ∧ p.2 < 2 ^ 64) :
    ReadsO (readPairs sm.length) (sm.flatMap fun p => le 8 p.1 ++ le 8 p.2) sm := by
  induction sm with
  | nil => exact ⟨fun _ => rfl, nofun⟩
  | cons p ps ih =>
    have hp := List.forall_mem_cons.mp h
    have h1 := readU64_reads hp.1.1
    have h2 := readU64_reads hp.1.2
    have h3 := ih hp.2
    constructor
    · intro t
      simp only [List.length_cons, List.flatMap_cons, List.append_assoc, readPairs, h1.full, h2.full, h3.full]
    · intro k hk
      simp only [List.length_cons, List.flatMap_cons, List.length_append, List.append_assoc, readPairs] at hk ⊢
      rcases take_append_cases (le 8 p.1) (le 8 p.2 ++ ps.flatMap fun p => le 8 p.1 ++ le 8 p.2) k
        with ⟨hlt, e⟩ | ⟨hge, e⟩
      · simp only [e, h1.short k hlt]
      · simp only [e, h1.full]
        rcases take_append_cases (le 8 p.2) (ps.flatMap fun p => le 8 p.1 ++ le 8 p.2) (k - (le 8 p.1).length)
          with ⟨hlt, e⟩ | ⟨hge, e⟩
        · simp only [e, h2.short _ hlt]
        · simp only [e, h2.full, h3.short (k - (le 8 p.1).length - (le 8 p.2).length) (by omega)]

-- `rfl`: the model's `match`es and the one of `readThen` are different constants, which definitional unfolding
-- sees through only when it is not "smart"
set_option smartUnfolding false in
theorem deserSrcMap_cons (offs : List Nat) (exec : Bytes) (flag : Nat) (r1 : Bytes) :
    deserSrcMap offs exec (flag :: r1) =
      if flag = 1 then
        readThen (readU64 r1) "error reading source map length" fun n r2 =>
          if exec = [] then .panic "index out of range [0] with length 0"
          else readThen (readPairs n r2) "error reading source map[" fun sm r3 => .ok ⟨offs, exec, sm⟩ r3
      else .ok ⟨offs, exec, []⟩ r1 := rfl

/-- a module without code has no source map (`CM.WF.smExec`); with a source map and without code the reader
would panic -/
theorem deserSrcMap_reads (offs : List Nat) (exec : Bytes) (sm : List (Nat × Nat))
    (hx : exec = [] → sm = []) (hl : sm.length < 2 ^ 64) (h : ∀ p ∈ sm, p.1 < 2 ^ 64 ∧ p.2 < 2 ^ 64) :
    Reads (deserSrcMap offs exec) (serSrcMap sm) ⟨offs, exec, sm⟩ := by
  cases sm with
  | nil => exact .cons (P := deserSrcMap offs exec) trivial (.ok _)
  | cons p ps =>
    have hx' : exec ≠ [] := fun e => nomatch hx e
    refine .cons (P := deserSrcMap offs exec) (b := 1) trivial ?_
    simp only [deserSrcMap_cons, if_true, if_neg hx']
    rw [← List.append_nil (List.flatMap _ _)]
    exact .readThen (readU64_reads hl) (.readThen (readPairs_reads _ h) (.ok _) _) _

def execPart (crc : Bytes → Nat) (offs : List Nat) (el : Nat) (r2 : Bytes) : R CM :=
  readThen (readFull el r2) "executable" fun exec r3 =>
    readThen (readFull 4 r3) "could not read checksum" fun c r4 =>
      if leDec c ≠ crc exec % 2 ^ 32 then .err "checksum mismatch" else deserSrcMap offs exec r4

def body (fixed : Bool) (crc : Bytes → Nat) (nf : Nat) (r : Bytes) : R CM :=
  readThen (readOffsets nf r) "error reading func[" fun offs r1 =>
    readThen (readU64 r1) "error reading executable size" fun el r2 =>
      match fixed with
      | true => execPart crc offs el r2
      | false => if el > 0 then execPart crc offs el r2 else deserSrcMap offs [] r2

def hdr (B : Nat → Bytes → R CM) (magic ver hd r : Bytes) : R CM :=
  if hd.take magic.length ≠ magic then .err "invalid magic number"
  else if magic.length + 1 + hd.getD magic.length 0 ≥ magic.length + 1 + ver.length + 4 then .stale
  else if (hd.drop (magic.length + 1)).take (hd.getD magic.length 0) ≠ ver then .stale
  else B (leDec (hd.drop (magic.length + 1 + ver.length + 4 - 4))) r

/-- `deserializeCompiledModule`, with what follows the header as a parameter -/
def reader (B : Nat → Bytes → R CM) (magic ver e : Bytes) : R CM :=
  if e.length = 0 then .err "error reading header"
  else if e.length < magic.length + 1 + ver.length + 4 then .err "invalid header length"
  else hdr B magic ver (e.take (magic.length + 1 + ver.length + 4)) (e.drop (magic.length + 1 + ver.length + 4))

set_option smartUnfolding false in
theorem deserializeR_eq (crc : Bytes → Nat) (magic ver e : Bytes) :
    deserializeR crc magic ver e = reader (body false crc) magic ver e := rfl

theorem deserialize_eq (crc : Bytes → Nat) (magic ver e : Bytes) :
    deserialize crc magic ver e = toRes (reader (body false crc) magic ver e) := by
  rw [← deserializeR_eq]; rfl

theorem hdr_entry (B : Nat → Bytes → R CM) (magic ver X r : Bytes) (vl : Nat) :
    hdr B magic ver (magic ++ [vl] ++ X) r =
      if vl ≥ ver.length + 4 then .stale
      else if X.take vl ≠ ver then .stale else B (leDec (X.drop ver.length)) r := by
  have hpre : (magic ++ [vl]).length = magic.length + 1 := List.length_append
  have hm : (magic ++ [vl] ++ X).take magic.length = magic := by
    rw [List.append_assoc, List.take_left' rfl]
  have hg : (magic ++ [vl] ++ X).getD magic.length 0 = vl := by
    rw [List.append_assoc, List.getD_eq_getElem?_getD, List.getElem?_append_right (Nat.le_refl _), Nat.sub_self]
    rfl
  have hd : (magic ++ [vl] ++ X).drop (magic.length + 1 + ver.length + 4 - 4) = X.drop ver.length := by
    rw [Nat.add_sub_cancel, ← hpre, List.drop_length_add_append]
  unfold hdr
  rw [hm, hg, hd, List.drop_left' hpre, if_neg (fun h => h rfl)]
  by_cases h : vl ≥ ver.length + 4
  · rw [if_pos h, if_pos (by omega)]
  · rw [if_neg h, if_neg (by omega)]

theorem reader_entry (B : Nat → Bytes → R CM) (magic ver ver' rest : Bytes) :
    reader B magic ver (magic ++ ver'.length :: (ver' ++ rest)) =
      if ver'.length + rest.length < ver.length + 4 then .err "invalid header length"
      else if ver' = ver then B (leDec (rest.take 4)) (rest.drop 4) else .stale := by
  have hpre : (magic ++ [ver'.length]).length = magic.length + 1 := List.length_append
  have hlen : (magic ++ [ver'.length] ++ (ver' ++ rest)).length =
      magic.length + 1 + (ver'.length + rest.length) := by simp only [List.length_append, hpre]
  unfold reader
  rw [List.append_cons, hlen, if_neg (by omega), Nat.add_assoc (magic.length + 1), ← hpre,
    List.take_length_add_append, List.drop_length_add_append, hdr_entry, hpre]
  by_cases hlt : ver'.length + rest.length < ver.length + 4
  · rw [if_pos (by omega), if_pos hlt]
  · rw [if_neg (by omega), if_neg hlt]
    by_cases hv : ver' = ver
    · subst hv
      rw [if_pos rfl, if_neg (by omega), List.take_length_add_append, List.take_left' rfl, if_neg (fun h => h rfl),
        List.drop_left' rfl, List.drop_length_add_append]
    · rw [if_neg hv]
      split
      · rfl
      · rw [List.take_take, Nat.min_eq_left (by omega), List.take_left' rfl, if_pos hv]

/-- the two parts of an entry (`serialize_eq`): the header, … -/
def header (magic ver : Bytes) (nf : Nat) : Bytes :=
  magic ++ ver.length :: (ver ++ le 4 nf)

/-- … and what the chain of reads consumes -/
def bodyBytes (crc : Bytes → Nat) (cm : CM) : Bytes :=
  cm.offsets.flatMap (le 8) ++ (le 8 cm.exec.length ++ (cm.exec ++ (le 4 (crc cm.exec) ++ serSrcMap cm.srcMap)))

theorem serialize_eq (crc : Bytes → Nat) (magic ver : Bytes) (cm : CM) (hv : ver.length < 256) :
    serialize crc magic ver cm = header magic ver cm.offsets.length ++ bodyBytes crc cm := by
  simp [serialize, header, bodyBytes, Nat.mod_eq_of_lt hv]

theorem header_length (magic ver : Bytes) (nf : Nat) :
    (header magic ver nf).length = magic.length + 1 + ver.length + 4 := by
  simp only [header, List.length_append, List.length_cons, le_length]
  omega

theorem reader_header (B : Nat → Bytes → R CM) (magic ver : Bytes) {nf : Nat} (hn : nf < 2 ^ 32) (r : Bytes) :
    reader B magic ver (header magic ver nf ++ r) = B nf r := by
  rw [header, List.append_assoc, List.cons_append, List.append_assoc, reader_entry,
    if_neg (by rw [List.length_append, le_length]; omega), if_pos rfl, List.take_left' (le_length 4 _),
    List.drop_left' (le_length 4 _), leDec_le, Nat.mod_eq_of_lt hn]

/-- the header is read in one piece: a cut inside it is an error whatever the bytes are -/
theorem reader_reads {B : Nat → Bytes → R CM} {nf : Nat} {w : Bytes} {a : CM} (hB : Reads (B nf) w a)
    (hn : nf < 2 ^ 32) (magic ver : Bytes) : Reads (reader B magic ver) (header magic ver nf ++ w) a := by
  constructor
  · intro t
    rw [List.append_assoc, reader_header B magic ver hn, hB.full]
  · intro k hk
    rcases take_append_cases (header magic ver nf) w k with ⟨hlt, e⟩ | ⟨hge, e⟩
    · have : ((header magic ver nf ++ w).take k).length < magic.length + 1 + ver.length + 4 := by
        rw [List.length_take, ← header_length magic ver nf]
        omega
      unfold reader
      rw [if_pos this]
      split <;> trivial
    · rw [e, reader_header B magic ver hn]
      exact hB.short _ (by rw [List.length_append] at hk; omega)

theorem execPart_reads (crc : Bytes → Nat) (offs : List Nat) (exec : Bytes) (sm : List (Nat × Nat))
    (hx : exec = [] → sm = []) (hl : sm.length < 2 ^ 64) (h : ∀ p ∈ sm, p.1 < 2 ^ 64 ∧ p.2 < 2 ^ 64) :
    Reads (execPart crc offs exec.length) (exec ++ (le 4 (crc exec) ++ serSrcMap sm)) ⟨offs, exec, sm⟩ :=
  .readThen (readFull_reads rfl) (.readThen (readFull_reads (le_length 4 _))
    (.of_eq (deserSrcMap_reads offs exec sm hx hl h) fun _ => if_neg (by simp [leDec_le])) _) _

/-- the as-is reader reads back only an entry with code (`body_reads_nil`) -/
theorem body_reads (fixed : Bool) (crc : Bytes → Nat) (cm : CM) (hwf : cm.WF)
    (hf : fixed = false → cm.exec ≠ []) :
    Reads (body fixed crc cm.offsets.length) (bodyBytes crc cm) cm :=
  .readThen (readOffsets_reads _ hwf.offs) (.readThen (readU64_reads hwf.execLen) (by
    have h := execPart_reads crc cm.offsets cm.exec cm.srcMap hwf.smExec hwf.smLen hwf.sm
    cases fixed
    · exact .of_eq h fun _ => if_pos (List.length_pos_iff.mpr (hf rfl))
    · exact h) _) _

/-- a module without code: the as-is reader does not skip the checksum field, it reads the source-map flag
there and stops -/
theorem body_reads_nil (crc : Bytes → Nat) (offs : List Nat) (ho : ∀ o ∈ offs, o < 2 ^ 64)
    (hc : crc [] % 256 ≠ 1) :
    Reads (body false crc offs.length) (offs.flatMap (le 8) ++ (le 8 0 ++ [crc [] % 256])) ⟨offs, [], []⟩ :=
  .readThen (readOffsets_reads _ ho) (.readThen (readU64_reads (by decide))
    (.of_eq (.cons (P := deserSrcMap offs []) trivial (.of_eq (.ok _) fun r => by rw [deserSrcMap_cons, if_neg hc]))
      fun _ => if_neg (Nat.lt_irrefl 0)) _) _

theorem reader_serialize (fixed : Bool) (crc : Bytes → Nat) (magic ver : Bytes) (cm : CM)
    (hwf : cm.WF) (hv : ver.length < 256) (hf : fixed = false → cm.exec ≠ []) :
    Reads (reader (body fixed crc) magic ver) (serialize crc magic ver cm) cm :=
  serialize_eq crc magic ver cm hv ▸ reader_reads (body_reads fixed crc cm hwf hf) hwf.noffs magic ver

/-- `w` is all of the entry for a module with code, all but its last four bytes for one without -/
theorem reader_serialize_asIs (crc : Bytes → Nat) (magic ver : Bytes) (cm : CM)
    (hwf : cm.WF) (hv : ver.length < 256) (hx : cm.exec = [] → crc [] % 256 ≠ 1) :
    ∃ w t, serialize crc magic ver cm = w ++ t ∧ Reads (reader (body false crc) magic ver) w cm := by
  by_cases he : cm.exec = []
  · have hsm := hwf.smExec he
    obtain ⟨offs, exec, sm⟩ := cm
    subst he hsm
    refine ⟨_, le 3 (crc [] / 256) ++ [0], ?_,
      reader_reads (body_reads_nil crc offs hwf.offs (hx rfl)) hwf.noffs magic ver⟩
    simp [serialize_eq _ _ _ _ hv, bodyBytes, le, serSrcMap]
  · exact ⟨_, [], (List.append_nil _).symm, reader_serialize false crc magic ver cm hwf hv fun _ => he⟩

theorem reader_other_version (B : Nat → Bytes → R CM) (crc : Bytes → Nat) (magic ver ver' : Bytes) (cm : CM)
    (hne : ver ≠ ver') (hv' : ver'.length < 256) :
    reader B magic ver (serialize crc magic ver' cm) = .stale ∨
    reader B magic ver (serialize crc magic ver' cm) = .err "invalid header length" := by
  rw [serialize_eq _ _ _ _ hv', header, List.append_assoc, List.cons_append, List.append_assoc, reader_entry]
  split
  · exact Or.inr rfl
  · exact Or.inl (if_neg (Ne.symm hne))

/-- `deser_ser`: what was serialized is read back. For a module without code the reader skips the checksum
field and takes its first byte as the source-map flag, hence the side condition (the real CRC-32C of the empty
string is 0). -/
theorem deser_ser (crc : Bytes → Nat) (magic ver : Bytes) (cm : CM)
    (hwf : cm.WF) (hv : ver.length < 256) (hx : cm.exec = [] → crc [] % 256 ≠ 1) :
    deserialize crc magic ver (serialize crc magic ver cm) = .ok cm := by
  obtain ⟨w, t, e, h⟩ := reader_serialize_asIs crc magic ver cm hwf hv hx
  rw [deserialize_eq, e, h.full]
  rfl

/-- every strict prefix of a valid entry WITH code is refused with an error (not even `stale`) -/
theorem truncation_rejected (crc : Bytes → Nat) (magic ver : Bytes) (cm : CM)
    (hwf : cm.WF) (hv : ver.length < 256) (hx : cm.exec ≠ []) (k : Nat)
    (hk : k < (serialize crc magic ver cm).length) :
    ∃ m, deserialize crc magic ver ((serialize crc magic ver cm).take k) = .err m := by
  rw [deserialize_eq]
  exact toRes_of_isErr ((reader_serialize false crc magic ver cm hwf hv fun _ => hx).short k hk)

/-- for ANY valid entry: a strict prefix is never read back as something else: it is refused (error or stale),
or it yields exactly the module that was written (possible only for modules without code, see the witness) -/
theorem truncation_harmless (crc : Bytes → Nat) (magic ver : Bytes) (cm cm' : CM)
    (hwf : cm.WF) (hv : ver.length < 256) (hx : cm.exec = [] → crc [] % 256 ≠ 1) (k : Nat)
    (h : deserialize crc magic ver ((serialize crc magic ver cm).take k) = .ok cm') :
    cm' = cm := by
  obtain ⟨w, t, e, hr⟩ := reader_serialize_asIs crc magic ver cm hwf hv hx
  rw [deserialize_eq, e] at h
  exact hr.cut_ok h

/-- an entry written by another version (of length < 256) is stale, or — when it is shorter than this
version's header — an error; never `ok` -/
theorem other_version_stale (crc : Bytes → Nat) (magic ver ver' : Bytes) (cm : CM)
    (hne : ver ≠ ver') (hv' : ver'.length < 256) :
    deserialize crc magic ver (serialize crc magic ver' cm) = .stale ∨
    deserialize crc magic ver (serialize crc magic ver' cm) = .err "invalid header length" := by
  rw [deserialize_eq]
  exact (reader_other_version _ crc magic ver ver' cm hne hv').imp (congrArg toRes) (congrArg toRes)

def crc0 : Bytes → Nat := fun _ => 0
def magic0 : Bytes := [87, 65, 90, 69, 86, 79]
def ver0 : Bytes := [100, 101, 118]
def cm0 : CM := ⟨[], [], []⟩

/-- a strict prefix of the entry of a module without code is accepted (the reader never reads the last
bytes of such an entry) -/
theorem truncation_accepted_witness :
    deserialize crc0 magic0 ver0
        ((serialize crc0 magic0 ver0 cm0).take ((serialize crc0 magic0 ver0 cm0).length - 1)) = .ok cm0 ∧
    deserialize crc0 magic0 ver0
        ((serialize crc0 magic0 ver0 cm0).take ((serialize crc0 magic0 ver0 cm0).length - 4)) = .ok cm0 := by
  decide +kernel

def crcSum : Bytes → Nat := fun bs => bs.foldl (· + ·) 0
def cm1 : CM := ⟨[0, 16], [1, 2, 3, 4, 5], [(7, 3)]⟩

theorem cm1_wf : cm1.WF := by
  constructor <;> simp [cm1] <;> decide

/-- test: full round trip of a concrete well-formed entry with code and source map -/
example : deserialize crcSum magic0 ver0 (serialize crcSum magic0 ver0 cm1) = .ok cm1 := by
  decide +kernel

/-- test: the same through the general theorem (non-vacuity of its hypotheses) -/
example : deserialize crcSum magic0 ver0 (serialize crcSum magic0 ver0 cm1) = .ok cm1 :=
  deser_ser crcSum magic0 ver0 cm1 cm1_wf (by decide) (by decide)

end Wz.C13.Entry
