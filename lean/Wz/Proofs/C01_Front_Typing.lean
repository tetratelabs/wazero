/-
C01 (front end): the stack typing `tcStep` as a relation.  The simulation and the static analysis of the translation
both go by cases on the accepted instruction, and `StepTy.of_tcStep` is that case distinction, with the shape of the
type stack before and after the instruction.  Also the equations of `tcBody`, `lowerBody` and `declLocals` on a
non-empty list, and that no branch instruction is ever emitted.
-/
import Wz.Model.FrontendSL

namespace Wz.Proofs.Front
open Wz.Model.SsaPass Wz.Model.FrontendSL

inductive StepTy (lt : List Ty) : SI → List Ty → List Ty → Prop
  | const (t v) {s} : StepTy lt (.const t v) s (t :: s)
  | localGet {i t s} : lt[i]? = some t → StepTy lt (.localGet i) s (t :: s)
  | localSet {i a s} : lt[i]? = some a → StepTy lt (.localSet i) (a :: s) s
  | localTee {i a s} : lt[i]? = some a → StepTy lt (.localTee i) (a :: s) (a :: s)
  | drop {a s} : StepTy lt .drop (a :: s) s
  | select {a s} : StepTy lt .select (.i32 :: a :: a :: s) (a :: s)
  | bin (t op) {s} : StepTy lt (.bin t op) (t :: t :: s) (t :: s)
  | rel (t op) {s} : StepTy lt (.rel t op) (t :: t :: s) (.i32 :: s)
  | eqz (t) {s} : StepTy lt (.eqz t) (t :: s) (.i32 :: s)
  | cnt (t op) {s} : StepTy lt (.cnt t op) (t :: s) (t :: s)
  | wrap {s} : StepTy lt .wrap (.i64 :: s) (.i32 :: s)
  | extendS {s} : StepTy lt .extendS (.i32 :: s) (.i64 :: s)
  | extendU {s} : StepTy lt .extendU (.i32 :: s) (.i64 :: s)
  | extend32S {s} : StepTy lt .extend32S (.i64 :: s) (.i64 :: s)
  | div (t op) {s} : StepTy lt (.div t op) (t :: t :: s) (t :: s)

theorem StepTy.of_tcStep {lt : List Ty} {i : SI} {tys tys' : List Ty} (h : tcStep lt i tys = some tys') :
    StepTy lt i tys tys' := by
  unfold tcStep at h
  -- every alternative of `tcStep` but the last tests equations between the types on the stack, the types of the
  -- instruction and `lt[i]?`, and returns the stack after it: `h` is a conjunction of them and of `… = tys'`
  split at h <;>
    simp only [Option.map_eq_some_iff, Option.ite_none_right_eq_some, Option.some.injEq, reduceCtorEq] at h
  all_goals
    revert tys'
    simp only [and_imp, forall_exists_index, forall_eq']
    intros
    subst_vars
    constructor <;> assumption

theorem stack_uncons {stk : List TV} {t : Ty} {tys : List Ty} (h : stk.map (·.2) = t :: tys) :
    ∃ v srest, stk = (v, t) :: srest ∧ srest.map (·.2) = tys :=
  match stk, h with
  | (v, _) :: srest, h => by
    obtain ⟨rfl, h'⟩ := List.cons.inj h
    exact ⟨v, srest, rfl, h'⟩

theorem locals_get {s : LS} {lt : List Ty} {i : Nat} {t : Ty} (h : s.locals.map (·.2) = lt) (hi : lt[i]? = some t) :
    ∃ v, s.locals[i]? = some (v, t) := by
  rw [← h, List.getElem?_map] at hi
  obtain ⟨⟨v, _⟩, hp, rfl⟩ := Option.map_eq_some_iff.mp hi
  exact ⟨v, hp⟩

theorem locals_set {s : LS} {lt : List Ty} {i : Nat} {p : TV} (h : s.locals.map (·.2) = lt)
    (hi : lt[i]? = some p.2) : (s.locals.set i p).map (·.2) = lt := by
  obtain ⟨hlen, hget⟩ := List.getElem?_eq_some_iff.mp hi
  rw [List.map_set, h, ← hget]; exact List.set_getElem_self hlen

theorem tcBody_cons_eq {lt res : List Ty} {i : SI} (is : List SI) (tys : List Ty) (hi : i ≠ .ret) :
    tcBody lt res (i :: is) tys = match tcStep lt i tys with | some s' => tcBody lt res is s' | none => false := by
  cases i <;> first | rfl | exact absurd rfl hi

theorem tcBody_cons {lt res : List Ty} {i : SI} {is : List SI} {tys : List Ty} (hi : i ≠ .ret)
    (h : tcBody lt res (i :: is) tys = true) : ∃ tys', tcStep lt i tys = some tys' ∧ tcBody lt res is tys' = true := by
  rw [tcBody_cons_eq is tys hi] at h
  split at h
  · exact ⟨_, ‹_›, h⟩
  · cases h

theorem lowerBody_cons (nres : Nat) {i : SI} (is : List SI) (s : LS) (hi : i ≠ .ret) :
    lowerBody nres (i :: is) s = (lowerI i s).1 ++ lowerBody nres is (lowerI i s).2 := by
  cases i <;> first | rfl | exact absurd rfl hi

theorem lowerI_noBranch (i : SI) (s : LS) : ∀ j ∈ (lowerI i s).1, j.branch? = none := by
  have h : (lowerI i s).1.all (·.branch?.isNone) = true := by cases i <;> rfl
  exact fun j hj => Option.isNone_iff_eq_none.mp (List.all_eq_true.mp h j hj)

theorem lowerBody_noBranch (nres : Nat) : ∀ (body : List SI) (s : LS), ∀ j ∈ lowerBody nres body s, j.branch? = none
  | [], _, j, hj => by cases List.mem_singleton.mp hj; rfl
  | i :: is, s, j, hj => by
    by_cases hi : i = .ret
    · subst hi; cases List.mem_singleton.mp hj; rfl
    · rw [lowerBody_cons nres is s hi] at hj
      exact (List.mem_append.mp hj).elim (lowerI_noBranch i s j) (lowerBody_noBranch nres is _ j)

theorem declLocals_cons_some {t : Ty} {z : Zeros} {v : Val} (h : z.get t = some v) (ts : List Ty) (n : Nat) :
    declLocals (t :: ts) n z = declLocals ts n z := by
  rw [declLocals, h]

theorem declLocals_cons_none {t : Ty} {z : Zeros} (h : z.get t = none) (ts : List Ty) (n : Nat) :
    declLocals (t :: ts) n z =
      (.iconst n t 0 :: (declLocals ts (n + 1) (z.set t n)).1, (declLocals ts (n + 1) (z.set t n)).2) := by
  rw [declLocals, h]

theorem declLocals_noBranch : ∀ (ls : List Ty) (n : Nat) (z : Zeros), ∀ j ∈ (declLocals ls n z).1, j.branch? = none
  | [], _, _, _, hj => by cases hj
  | t :: ts, n, z, j, hj => by
    cases h : z.get t with
    | some v => rw [declLocals_cons_some h] at hj; exact declLocals_noBranch ts n z j hj
    | none =>
      rw [declLocals_cons_none h] at hj
      exact (List.mem_cons.mp hj).elim (· ▸ rfl) (declLocals_noBranch ts _ _ j)

theorem entryInstrs_noBranch (f : Fn) : ∀ j ∈ entryInstrs f, j.branch? = none := fun j hj =>
  (List.mem_append.mp hj).elim (declLocals_noBranch _ _ _ j) (lowerBody_noBranch _ _ _ j)

end Wz.Proofs.Front
