import Wz.Gen.Shapes

/-- Closes `Wz.Gen.Shapes.get "key" = some "text"`, and a conjunction of such equations, for literal keys: unfolds the
regenerated table and walks it comparing the KEYS only.  `String.reduceEq` decides each comparison, so the texts, which
are long, are never compared; `decide` on the same goal spends its time comparing them. -/
macro "shape_lookup" : tactic =>
  `(tactic| simp only [Wz.Gen.Shapes.get, Wz.Gen.Shapes.table, List.find?_cons_of_neg, List.find?_cons_of_pos,
      beq_iff_eq, String.reduceEq, not_false_eq_true, Option.map_some, and_self])
