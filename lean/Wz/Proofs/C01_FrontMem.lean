/-
C01 / C02 (front end with memory accesses): bodies (`sim_bodyM`, induction with `sim_stepM`) and whole functions
(`lowerMem_refines`: `runM` on `lowerMem f`, started on a memory that embeds the linear memory, against
`Wz.Spec.Wasm.invoke`): same values or the same trap, the final memory embeds the specification's final memory, every
access of the SSA run is confined, and the final flat memory is the initial one with writes inside the linear memory
prepended.
-/
import Wz.Proofs.C01_FrontMem_Sim
import Wz.Proofs.C01_FrontMem_Writes

namespace Wz.Proofs.FrontMem
open Wz.Spec Wz.Model.SsaPass Wz.Model.FrontendSL Wz.Model.FrontendMem Wz.Proofs.Front

variable {w : World} {m : Wasm.Module} {lt : List Ty} {mc base : Nat}

/-- the two runs of a body agree: same returned values or the same trap, the flat memory embeds the final linear
memory, the accesses logged after `log0` are confined -/
def BodyRelM (mc base len nres : Nat) (r : Wasm.Ctl × Wasm.Frame × Wasm.Store) (o : Option Ctl × List Acc)
    (log0 : List Acc) (mem0 : Mem) : Prop :=
  ∃ log', o.2 = log0 ++ log' ∧ AccOK mc base len log' ∧ r.2.2.mem.size = len ∧
    (∀ c, o.1 = some c → WritesIn base len mem0 c.st.mem) ∧
    match r.1 with
    | .next | .ret => ∃ env' mem', o.1 = some (.ret ((r.2.1.stack.take nres).reverse) (mkM env' mem')) ∧
        Emb mc base r.2.2.mem mem'
    | .trap k => ∃ code env' mem', o.1 = some (.trap code (mkM env' mem')) ∧ trapKindM code = k ∧ okCode code ∧
        Emb mc base r.2.2.mem mem'
    | _ => False

theorem execBodyL_ret (w : World) (vs : List Val) (env : Val → Nat) (mem : Mem) (log : List Acc) :
    execBodyL w [.base (.ret vs)] (mkM env mem) log = (some (.ret (vs.map env) (mkM env mem)), log) := by
  simp only [execBodyL, stepM, execInstr, instrAcc, List.append_nil]
  rfl

theorem sim_bodyM (res : List Ty) (nres : Nat) : ∀ (body : List MI) (s : MS) (tys : List Ty) (stack : List Nat)
    (locals : Array Nat) (env : Val → Nat) (st : Wasm.Store) (mem : Mem) (n : Nat) (log0 : List Acc),
    Inv lt s.ls tys stack locals env → MInv mc base st.mem s env mem → tcBodyM lt res body tys = true →
    body.length + 1 ≤ n →
    BodyRelM mc base st.mem.size nres (Wasm.execSeq m n (body.map MI.toInstr) ⟨stack, locals⟩ st)
      (execBodyL w (lowerBodyM nres body s) (mkM env mem) log0) log0 mem := by
  intro body
  induction body with
  | nil =>
    intro s tys stack locals env st mem n log0 hinv hm _ hn
    obtain ⟨n, rfl⟩ : ∃ k, n = k + 1 := ⟨n - 1, by omega⟩
    simp only [List.map_nil, Wasm.execSeq, lowerBodyM, execBodyL_ret, peekN_env hinv]
    exact ⟨[], by simp, AccOK.nil, rfl, fun _ hc => by cases hc; exact .refl .., env, mem, rfl, hm.emb⟩
  | cons i is ih =>
    intro s tys stack locals env st mem n log0 hinv hm htc hn
    simp only [List.length_cons] at hn
    obtain ⟨n, rfl⟩ : ∃ k, n = k + 2 := ⟨n - 2, by omega⟩
    by_cases hi : i = .base .ret
    · subst hi
      simp only [List.map_cons, MI.toInstr, SI.toInstr, Wasm.execSeq, Wasm.execInstr, lowerBodyM, execBodyL_ret,
        peekN_env hinv]
      exact ⟨[], by simp, AccOK.nil, rfl, fun _ hc => by cases hc; exact .refl .., env, mem, rfl, hm.emb⟩
    · obtain ⟨tys', hstep, hrest⟩ := tcBodyM_cons hi htc
      rw [lowerBodyM_cons nres hi]
      simp only [List.map_cons, Wasm.execSeq]
      rcases sim_stepM (w := w) (m := m) (n := n) i hinv hm hstep with
        ⟨stack', locals', env', bytes', mem', hsp, hsz, hw, ⟨log', hok, hrun⟩, hinv', hm'⟩ |
        ⟨code, fr', hsp, htrap, hcode⟩
      · rw [hsp, execBodyL_append, hrun log0]
        simp only
        have := ih (lowerMI i s).2 tys' stack' locals' env' { st with mem := bytes' } mem' (n + 1) (log0 ++ log')
          hinv' hm' hrest (by omega)
        obtain ⟨log'', h1, h2, h3, h4, h5⟩ := this
        have hsz' : ({ st with mem := bytes' } : Wasm.Store).mem.size = st.mem.size := hsz
        rw [hsz'] at h2 h4
        exact ⟨log' ++ log'', by rw [h1, List.append_assoc], hok.append h2, by rw [h3, hsz'],
          fun c hc => hw.trans (h4 c hc), h5⟩
      · obtain ⟨env', log', hok, hrun⟩ := htrap.body _
        rw [hsp, hrun log0]
        exact ⟨log', rfl, hok, rfl, fun _ hc => by cases hc; exact .refl .., code, env', mem, rfl, rfl, hcode, hm.emb⟩

theorem trapCodeM_kind {code : Nat} (h : okCode code) : trapCodeM (trapKindM code) = code := by
  rcases h with rfl | rfl | rfl <;> decide

theorem trapKindM_cases {code : Nat} (h : okCode code) :
    trapKindM code = "oob-memory" ∨ trapKindM code = "div0" ∨ trapKindM code = "overflow" := by
  rcases h with rfl | rfl | rfl <;> decide

theorem lowerMem_refines (f : FnM) (hwt : wellTypedM f = true) (args : List Nat) (hargs : ArgsOK f.sig args)
    (w : World) (ec mc base : Nat) (bytes : ByteArray) (mem0 : Mem) (hemb : Emb mc base bytes mem0)
    (n : Nat) (hn : f.body.length + 3 ≤ n) :
    RefinesM mc base (runSpecM f args bytes n) (runM w (lowerMem f) (ec :: mc :: args) mem0).1 ∧
    Confined mc base bytes.size (runM w (lowerMem f) (ec :: mc :: args) mem0).2 ∧
    ∀ mem', finalMem (runM w (lowerMem f) (ec :: mc :: args) mem0).1 = some mem' → WritesIn base bytes.size mem0 mem' := by
  obtain ⟨henv1_hi, hinv⟩ := entry_inv f.sig args hargs ec mc
  obtain ⟨(hlen' : args.length = f.params.length), hrange⟩ := hargs
  let env1 := entryEnv f.sig ec mc args
  -- the SSA side: the entry of the block, the zero constants of the locals
  have hdecl : ∀ log, runL w ((initLS f.sig).1.map .base) (mkM env1 mem0) log = .inr (mkM env1 mem0, log) :=
    fun log => by
      rw [show (initLS f.sig).1 = (declLocals f.locals (f.params.length + 2) {}).1 from rfl,
        runL_base w _ (declLocals_pure f.locals (f.params.length + 2) {}),
        declLocals_exec w f.locals (f.params.length + 2) {} env1 henv1_hi (mkM env1 mem0) rfl]
      rfl
  have hssa : runM w (lowerMem f) (ec :: mc :: args) mem0 =
      match execBodyL w (lowerBodyM f.results.length f.body { ls := (initLS f.sig).2 }) (mkM env1 mem0) [] with
      | (some (.ret vs st'), log) => (.values vs st'.mem st'.trace, log)
      | (some (.trap c st'), log) => (.trap c st'.mem st'.trace, log)
      | (_, log) => (.error, log) := by
    have hl : ¬ (lowerMem f).params.length ≠ (ec :: mc :: args).length := by
      simp [lowerMem, entryParams, FnM.sig, hlen']
    have henv : ({ St.init with env := bindVals St.init.env (lowerMem f).params (ec :: mc :: args), mem := mem0 } : St) =
        mkM env1 mem0 := rfl
    simp only [runM, hl, if_false, henv]
    have : (lowerMem f).instrs = (initLS f.sig).1.map .base ++
        lowerBodyM f.results.length f.body { ls := (initLS f.sig).2 } := rfl
    rw [this, execBodyL_append, hdecl []]
    rfl
  have hctx : env1 moduleCtx = mc :=
    (entryEnv_moduleCtx f.sig ec mc args).trans (norm_of_lt (by have := hemb.mcR; show mc < 2 ^ 64; omega))
  have hnext : 2 ≤ (initLS f.sig).2.next := Nat.le_trans (Nat.le_add_left ..) (initLS_next f.sig)
  have hm0 : MInv mc base bytes { ls := (initLS f.sig).2 } env1 mem0 := ⟨hemb, hctx, hnext, nofun, nofun, nofun⟩
  obtain ⟨k, rfl⟩ : ∃ k, n = k + 1 := ⟨n - 1, by omega⟩
  let st0 : Wasm.Store := { ({ mem := bytes } : Wasm.Store) with log := [] }
  have hrel := sim_bodyM (w := w) (m := f.toModule) (mc := mc) (base := base) f.results f.results.length f.body
    { ls := (initLS f.sig).2 } [] [] (args ++ f.locals.map (fun _ => 0)).toArray env1 st0 mem0 k []
    hinv hm0 hwt (by omega)
  have hspec := Wasm.invoke_single_map (M := f.toModule) rfl rfl rfl args hlen' k { mem := bytes }
  rw [hssa, runSpecM, hspec]
  generalize Wasm.execSeq f.toModule k (List.map MI.toInstr f.body)
      { locals := (args ++ List.map (fun _ => 0) f.locals).toArray } st0 = r at hrel ⊢
  generalize execBodyL w (lowerBodyM f.results.length f.body { ls := (initLS f.sig).2 }) (mkM env1 mem0) [] = o at hrel ⊢
  obtain ⟨ctl, fr', st'⟩ := r
  obtain ⟨oc, olog⟩ := o
  obtain ⟨log', hlog, hok, hsz, hwr, hmatch⟩ := hrel
  simp only [List.nil_append] at hlog
  subst hlog
  cases ctl with
  | next | ret =>
    obtain ⟨env', mem', ho, he⟩ := hmatch
    simp only at ho
    subst ho
    -- `hok : AccOK …`, which is the model's `Confined` word for word
    exact ⟨⟨mem', rfl, he⟩, hok, fun _ h => by cases h; exact hwr _ rfl⟩
  | br | exhausted => exact hmatch.elim
  | trap kd =>
    obtain ⟨code, env', mem', ho, hk, hcode, he⟩ := hmatch
    simp only at ho
    subst ho
    subst hk
    exact ⟨⟨mem', by simp only [mkM, trapCodeM_kind hcode], he, trapKindM_cases hcode⟩, hok,
      fun _ h => by cases h; exact hwr _ rfl⟩

/-- the SSA outcome determines the outcome of the reference semantics it refines (the three trap kinds have
different exit codes) -/
theorem refinesM_unique {mc base : Nat} {sp sp' : Wasm.Outcome × ByteArray} {o : Outcome}
    (h : RefinesM mc base sp o) (h' : RefinesM mc base sp' o) : sp.1 = sp'.1 ∧ sp.1 ≠ .exhausted := by
  obtain ⟨o1, b1⟩ := sp
  obtain ⟨o2, b2⟩ := sp'
  cases o1 <;> cases o2 <;> try exact h.elim
  all_goals try exact h'.elim
  · obtain ⟨m1, rfl, _⟩ := h
    obtain ⟨m2, e2, _⟩ := h'
    cases e2
    exact ⟨rfl, nofun⟩
  · obtain ⟨m1, rfl, _⟩ := h
    obtain ⟨m2, e2, _⟩ := h'
    cases e2
  · obtain ⟨m1, rfl, _⟩ := h
    obtain ⟨m2, e2, _⟩ := h'
    cases e2
  · obtain ⟨m1, rfl, _, hk⟩ := h
    obtain ⟨m2, e2, _, hk'⟩ := h'
    have hc := (Outcome.trap.inj e2).1
    refine ⟨?_, nofun⟩
    rcases hk with rfl | rfl | rfl <;> rcases hk' with rfl | rfl | rfl <;> first | rfl | exact absurd hc (by decide)

end Wz.Proofs.FrontMem
