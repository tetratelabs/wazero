/-
C02 helper lemmas: soundness of the front end's bounds-check elision (core 2), by an invariant over
op lists.
-/
import Wz.Model.SafeBounds

namespace Wz.C02
open Wz.Model.SafeBounds

/-- What a cache entry promises at a moment when the real memory is (base, len). -/
def EntryOK (val : Nat → Nat) (base len : Nat) (e : Entry) : Prop :=
  0 < e.bound → val e.v + e.bound ≤ len ∧ ∀ a, e.addr = some a → a = base + val e.v

/-- The invariant: the SSA variables hold the real base/length, and every entry keeps its promise. -/
def Inv (val : Nat → Nat) (d : Dyn) (st : State) : Prop :=
  d.cbase = d.base ∧ d.clen = d.len ∧ ∀ e ∈ st, EntryOK val d.base d.len e

/-- Older states (restored at loop back edges): their bounds are still covered (memory never shrinks). -/
def HistOK (val : Nat → Nat) (len : Nat) (hist : List State) : Prop :=
  ∀ st ∈ hist, ∀ e ∈ st, 0 < e.bound → val e.v + e.bound ≤ len

theorem get_some {st : State} {v : Nat} {e : Entry} (h : st.get v = some e) :
    e ∈ st ∧ e.v = v ∧ 0 < e.bound := by
  unfold State.get at h
  have hm := List.mem_of_find?_eq_some h
  have hp := List.find?_some h
  simp only [Bool.and_eq_true, beq_iff_eq, decide_eq_true_eq] at hp
  exact ⟨hm, hp.1, hp.2⟩

theorem mem_set {st : State} {e x : Entry} (h : x ∈ st.set e) : x = e ∨ x ∈ st := by
  unfold State.set at h
  rcases List.mem_cons.mp h with h | h
  · exact Or.inl h
  · exact Or.inr (List.mem_filter.mp h).1

theorem set_ok {val : Nat → Nat} {base len : Nat} {st : State} {e : Entry}
    (hst : ∀ x ∈ st, EntryOK val base len x) (he : EntryOK val base len e) : ∀ x ∈ st.set e, EntryOK val base len x := by
  intro x hx
  rcases mem_set hx with rfl | h
  · exact he
  · exact hst x h

theorem record_ok (val : Nat → Nat) (base len : Nat) (st : State) (v bound : Nat) (addr : Option Nat)
    (hst : ∀ e ∈ st, EntryOK val base len e)
    (hb : val v + bound ≤ len) (ha : ∀ a, addr = some a → a = base + val v) :
    ∀ e ∈ record st v bound addr, EntryOK val base len e := by
  unfold record
  cases hg : st.get v with
  | none => exact set_ok hst fun _ => ⟨hb, ha⟩
  | some e =>
    have ⟨hem, hev, hep⟩ := get_some hg
    simp only
    split
    · exact set_ok hst fun _ => ⟨by simpa [hev] using hb, by simpa using (hst e hem hep).2⟩
    · exact hst

theorem mem_normalize {st : State} {x : Entry} (h : x ∈ normalize st) : x ∈ st := by
  unfold normalize at h
  refine List.foldrRecOn (motive := fun acc => x ∈ acc → x ∈ st) st _ (by intro h; cases h) (fun acc ih e he hx => ?_) h
  split at hx
  · rcases List.mem_cons.mp hx with rfl | hx
    · exact he
    · exact ih (List.mem_filter.mp hx).1
  · exact ih hx

theorem EntryOK.of_bound {val : Nat → Nat} {base len : Nat} {x : Entry} (ha : x.addr = none)
    (hb : 0 < x.bound → val x.v + x.bound ≤ len) : EntryOK val base len x :=
  fun hp => ⟨hb hp, fun a e => by rw [ha] at e; cases e⟩

theorem resetAddrs_ok {val : Nat → Nat} {base len base' len' : Nat} {st : State} (hl : len ≤ len')
    (hst : ∀ e ∈ st, EntryOK val base len e) : ∀ e ∈ resetAddrs st, EntryOK val base' len' e := by
  intro x hx
  obtain ⟨e, he, rfl⟩ := List.mem_map.mp hx
  exact .of_bound rfl fun hp => Nat.le_trans (hst e he hp).1 hl

theorem foldl_min_le (others : List State) (v : Nat) (init : Nat) :
    others.foldl (fun m o => match o.get v with | some x => min m x.bound | none => m) init ≤ init := by
  refine List.foldlRecOn (motive := (· ≤ init)) others _ (Nat.le_refl _) fun m hm o _ => ?_
  cases o.get v with
  | none => exact hm
  | some x => exact Nat.le_trans (Nat.min_le_left _ _) hm

theorem mem_intersect {cur : State} {others : List State} {x : Entry} (h : x ∈ intersect cur others) :
    ∃ e ∈ cur, x.v = e.v ∧ x.bound ≤ e.bound ∧ 0 < e.bound ∧ x.addr = none := by
  unfold intersect at h
  obtain ⟨e, he, hx⟩ := List.mem_filterMap.mp h
  split at hx
  · rename_i hc
    injection hx with hx
    subst hx
    exact ⟨e, he, rfl, foldl_min_le others e.v e.bound, hc.1, rfl⟩
  · cases hx

/-- entering a block keeps the invariant (for arbitrary end states of the other predecessors) -/
theorem enterBlock_ok (val : Nat → Nat) (base len : Nat) (cur : State) (others : List State) (isSealed : Bool)
    (hst : ∀ e ∈ cur, EntryOK val base len e) :
    ∀ e ∈ enterBlock cur others isSealed, EntryOK val base len e := by
  intro x hx
  unfold enterBlock at hx
  split at hx
  · split at hx
    · exact hst x (mem_normalize hx)
    · exact resetAddrs_ok (Nat.le_refl _) (fun e he => hst e (mem_normalize he)) x hx
  · obtain ⟨e, he, hv, hb, hp, ha⟩ := mem_intersect hx
    refine .of_bound ha fun _ => ?_
    rw [hv]
    exact Nat.le_trans (Nat.add_le_add_left hb _) (hst e (mem_normalize he) hp).1

def EvSafe (val : Nat → Nat) (ev : Ev) : Prop :=
  ∀ addr v ceil base len chk, ev = .ok addr v ceil base len chk → val v + ceil ≤ len ∧ addr = base + val v

theorem EvSafe.trap {val : Nat → Nat} {v ceil : Nat} : EvSafe val (.trap v ceil) := by
  intro _ _ _ _ _ _ h; cases h

theorem EvSafe.ok {val : Nat → Nat} {addr v ceil base len : Nat} {chk : Bool}
    (h1 : val v + ceil ≤ len) (h2 : addr = base + val v) : EvSafe val (.ok addr v ceil base len chk) := by
  intro _ _ _ _ _ _ h; cases h; exact ⟨h1, h2⟩

theorem stepAccess_ok (val : Nat → Nat) (st : State) (d : Dyn) (v off size : Nat) (hI : Inv val d st) :
    (∀ e ∈ (stepAccess val st d v off size).1, EntryOK val d.base d.len e) ∧
    EvSafe val (stepAccess val st d v off size).2 := by
  obtain ⟨hcb, hcl, hst⟩ := hI
  unfold stepAccess
  cases hg : st.get v with
  | none =>
    simp only
    split
    · exact ⟨hst, .trap⟩
    · exact ⟨record_ok val d.base d.len st v (off + size) _ hst (by omega) (by rintro a ⟨rfl⟩; omega),
        .ok (by omega) (by omega)⟩
  | some e =>
    have ⟨hem, hev, hep⟩ := get_some hg
    have he := hst e hem hep
    rw [hev] at he
    simp only
    split
    · cases ha : e.addr with
      | some a => exact ⟨hst, .ok (by omega) (he.2 a ha)⟩
      | none =>
        exact ⟨set_ok hst fun _ => ⟨hev ▸ he.1, by rintro a ⟨rfl⟩; simp only [hev]; omega⟩,
          .ok (by omega) (by omega)⟩
    · split
      · exact ⟨hst, .trap⟩
      · have haddr : (match e.addr with | some a => a | none => d.cbase + val v) = d.base + val v := by
          cases ha : e.addr with
          | some a => exact he.2 a ha
          | none => simp only; omega
        exact ⟨record_ok val d.base d.len st v (off + size) _ hst (by omega) (by rintro a ⟨rfl⟩; exact haddr),
          .ok (by omega) haddr⟩

theorem histOK_snoc (val : Nat → Nat) (base len : Nat) (hist : List State) (st : State)
    (hH : HistOK val len hist) (hst : ∀ e ∈ st, EntryOK val base len e) : HistOK val len (hist ++ [st]) := by
  intro s hs e he hp
  rcases List.mem_append.mp hs with h | h
  · exact hH s h e he hp
  · simp only [List.mem_singleton] at h
    subst h
    exact (hst e he hp).1

theorem run_sound (val : Nat → Nat) (ops : List Op) (c : Cfg) (evs : List Ev)
    (hI : Inv val c.dyn c.st) (hH : HistOK val c.dyn.len c.hist) (h : run val ops c = some evs) :
    ∀ ev ∈ evs, EvSafe val ev := by
  fun_induction run val ops c generalizing evs
  -- ill-formed paths: a memory that shrinks, a loop-back target that is missing or carries addresses
  all_goals try cases h
  · exact fun _ hev => nomatch hev
  · exact fun ev hm => List.mem_singleton.mp hm ▸ .trap
  · rename_i v off size _ c r _ _ _ _ _ _ heq ih
    have ⟨hst', hev⟩ := stepAccess_ok val c.st c.dyn v off size hI
    obtain ⟨evs', hr, rfl⟩ := Option.map_eq_some_iff.mp h
    exact List.forall_mem_cons.2
      ⟨heq ▸ hev, ih evs' ⟨hI.1, hI.2.1, hst'⟩ (histOK_snoc val c.dyn.base c.dyn.len c.hist _ hH hst') hr⟩
  · rename_i base' len' _ c hge st' ih
    have hge' : c.dyn.len ≤ len' := Nat.le_of_not_lt hge
    have hst' := resetAddrs_ok (base' := base') hge' hI.2.2
    have hH' : HistOK val len' c.hist := fun s hs e he hp => Nat.le_trans (hH s hs e he hp) hge'
    exact ih evs ⟨rfl, rfl, hst'⟩ (histOK_snoc val base' len' c.hist _ hH' hst') h
  · rename_i others isSealed _ c st' ih
    have hst' := enterBlock_ok val c.dyn.base c.dyn.len c.st others isSealed hI.2.2
    exact ih evs ⟨hI.1, hI.2.1, hst'⟩ (histOK_snoc val c.dyn.base c.dyn.len c.hist _ hH hst') h
  · rename_i k _ c st' hk hall ih
    -- a restored state carries no addresses; its bounds are covered because it is in the history
    have hst' : ∀ e ∈ st', EntryOK val c.dyn.base c.dyn.len e := fun e he =>
      .of_bound (Option.isNone_iff_eq_none.mp (List.all_eq_true.mp hall e he))
        (hH st' (List.mem_of_getElem? hk) e he)
    exact ih evs ⟨hI.1, hI.2.1, hst'⟩ (histOK_snoc val c.dyn.base c.dyn.len c.hist _ hH hst') h

end Wz.C02
