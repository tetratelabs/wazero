/-
C01 (front end, structured control flow): the simulation.  For a function accepted by the checker
`FrontendCFCheck` (statement per piece of code: `PI` instructions, `PS` sequences, `PA` arms run as a block of the
reference semantics, `PL` loops run from their header), by induction on the budget `n` of the reference semantics
(`sim_all`), with one conclusion, `Res`: from the corresponding point the SSA run enters exactly `k` blocks and is then
at a point `b` (`StepsK`) such that (`Post`)
* if the reference semantics finished the piece of code - normally, by a branch to an enclosing label, by `return`, by
  a trap - `b` is the corresponding point with the invariant `InvC`, resp. the run ends at `b` with the same values /
  the same trap;
* if it EXHAUSTED the budget `n` on code of static weight `W` (`Wasm.weightI` / `Wasm.weightS`), `n - W ≤ k`.  The reference semantics can
  exhaust a budget above `W` only through loop iterations; each costs it one unit and costs the SSA run at least one
  block entry (the `1 ≤ k` of `AtLabel`).
-/
import Wz.Proofs.C01_FrontCF_Div
import Wz.Proofs.C01_FrontCF_Edge

namespace Wz.Proofs.FrontCF
open Wz.Spec Wz.Model.SsaPass Wz.Model.FrontendSL Wz.Model.FrontendCF Wz.Proofs.Front

/-- the run is at the entry of the block of `lab`, which it entered by a branch: at least one block entry -/
def AtLabel (cx : Ctx) (lab : Lab) (k : Nat) (b : Pt) (fr : Wasm.Frame) : Prop :=
  1 ≤ k ∧ hasPred cx.g lab.tgt = true ∧ ∃ env', b = ⟨lab.tgt, 0, env'⟩ ∧
    InvC cx.lt (((paramsOf cx.g lab.tgt).take lab.tys.length).reverse ++ lab.outer) (entOf cx.ent lab.tgt) fr env'

/-- `.br l`: the run has returned from the function, or is at the label with the frame cut down as `Wasm.execInstr`
does it at the end of a `block` -/
def Post (w : World) (cx : Ctx) (labs : List Lab) (r : CR) (out : Wasm.Ctl × Wasm.Frame × Wasm.Store) (d k : Nat)
    (b : Pt) : Prop :=
  match out.1 with
  | .next => ∃ c' env', r = .live c' ∧ b = ⟨c'.blk, c'.pos, env'⟩ ∧ InvC cx.lt c'.stack c'.vars out.2.1 env'
  | .br l => ∃ lab, labs[l]? = some lab ∧
    if lab.isRet then Final w cx.g b (.values ((out.2.1.stack.take cx.res.length).reverse) [] [])
    else AtLabel cx lab k b
      ⟨out.2.1.stack.take lab.tys.length ++ out.2.1.stack.drop (out.2.1.stack.length - lab.outer.length),
        out.2.1.locals⟩
  | .ret => Final w cx.g b (.values ((out.2.1.stack.take cx.res.length).reverse) [] [])
  | .trap kd => Final w cx.g b (.trap (trapCodeCF kd) [] [])
  | .exhausted => d ≤ k

def Res (w : World) (cx : Ctx) (labs : List Lab) (src : Pt) (r : CR) (out : Wasm.Ctl × Wasm.Frame × Wasm.Store)
    (d : Nat) : Prop :=
  ∃ k b, StepsK w cx.g k src b ∧ Post w cx labs r out d k b

variable {w : World} {cx : Ctx}

theorem Res.prepend {labs : List Lab} {a b : Pt} {r : CR} {out : Wasm.Ctl × Wasm.Frame × Wasm.Store} {d d' j : Nat}
    (h1 : StepsK w cx.g j a b) (h2 : Res w cx labs b r out d) (hd : d' ≤ d + j) : Res w cx labs a r out d' := by
  obtain ⟨k, c, hs, hp⟩ := h2
  refine ⟨k + j, c, h1.trans hs, ?_⟩
  obtain ⟨ctl, fr', st'⟩ := out
  cases ctl with
  | br l =>
    obtain ⟨lab, hl, h⟩ := hp
    refine ⟨lab, hl, ?_⟩
    split
    · rename_i hr; rwa [if_pos hr] at h
    · rename_i hr; rw [if_neg hr] at h; exact ⟨Nat.le_add_right_of_le h.1, h.2⟩
  | exhausted => exact Nat.le_trans hd (Nat.add_le_add_right hp j)
  | _ => exact hp

theorem Res.mono {labs : List Lab} {a : Pt} {r : CR} {out : Wasm.Ctl × Wasm.Frame × Wasm.Store} {d d' : Nat}
    (h : d' ≤ d) (h2 : Res w cx labs a r out d) : Res w cx labs a r out d' :=
  Res.prepend (StepsK.refl w cx.g a) h2 h

theorem Res.here {labs : List Lab} {src : Pt} {r : CR} {out : Wasm.Ctl × Wasm.Frame × Wasm.Store} {d : Nat}
    (h : Post w cx labs r out d 0 src) : Res w cx labs src r out d :=
  ⟨0, src, StepsK.refl w cx.g src, h⟩

/-- the labels of the function's own frame carry the function's result types and target the return block -/
def LabsOK (cx : Ctx) (labs : List Lab) : Prop := ∀ lab ∈ labs, lab.isRet = true → lab.tys = cx.res ∧ lab.tgt = retBlk

theorem LabsOK.cons {labs : List Lab} (h : LabsOK cx labs) (lab : Lab) (hl : lab.isRet = false) :
    LabsOK cx (lab :: labs) := by
  intro l hl' hr
  rcases List.mem_cons.mp hl' with rfl | hl'
  · rw [hl] at hr; cases hr
  · exact h l hl' hr

variable (w) (cx) (m : Wasm.Module)

def PI (n : Nat) : Prop :=
  ∀ (i : CI) (labs : List Lab) (c : CS) (fr : Wasm.Frame) (env : Val → Nat) (st : Wasm.Store),
    LabsOK cx labs → InvC cx.lt c.stack c.vars fr env → chkI cx labs c i ≠ .fail →
    Res w cx labs ⟨c.blk, c.pos, env⟩ (chkI cx labs c i) (Wasm.execInstr m n i.toInstr fr st)
      (n - Wasm.weightI i.toInstr)

def PS (n : Nat) : Prop :=
  ∀ (is : List CI) (labs : List Lab) (c : CS) (fr : Wasm.Frame) (env : Val → Nat) (st : Wasm.Store),
    LabsOK cx labs → InvC cx.lt c.stack c.vars fr env → chkL cx labs c is ≠ .fail →
    Res w cx labs ⟨c.blk, c.pos, env⟩ (chkL cx labs c is) (Wasm.execSeq m n (toInstrs is) fr st) (n - Wasm.weightS (toInstrs is))

/-- An arm (the body of a `block`, an arm of an `if`) whose continuation is the label `lab`, run as a `block` of the
reference semantics from a state with the stack the label keeps.  `nb` is the block counter at the end of the arm;
the counter `nbx` of the state after the construct is any number (for an `if` it is the one after the other arm): the
point, the stack and the locals of that state do not depend on it. -/
def PA (n : Nat) : Prop :=
  ∀ (b : List CI) (lab : Lab) (labs : List Lab) (c : CS) (fr : Wasm.Frame) (env : Val → Nat) (st : Wasm.Store)
    (nb nbx : Nat),
    LabsOK cx labs → lab.isRet = false → c.stack = lab.outer →
    InvC cx.lt c.stack c.vars fr env → finishArm cx lab (chkL cx (lab :: labs) c b) = some nb →
    Res w cx labs ⟨c.blk, c.pos, env⟩ (afterBlock cx lab nbx)
      (Wasm.execInstr m n (.block lab.tys.length (toInstrs b)) fr st) (n - (Wasm.weightS (toInstrs b) + 1))

/-- A loop with the header block `H` and the continuation `H + 1`, run from the entry of the header; `nb2` is the block
counter with which the checker walks the body, `nb` and `nbx` are as in `PA`. -/
def PL (n : Nat) : Prop :=
  ∀ (b : List CI) (H : Nat) (tys : List Ty) (stk : List TV) (labs : List Lab) (fr : Wasm.Frame) (env : Val → Nat)
    (st : Wasm.Store) (nb2 nb nbx : Nat),
    LabsOK cx labs → InvC cx.lt stk (entOf cx.ent H) fr env →
    finishArm cx ⟨H + 1, tys, stk, false⟩
      (chkL cx (⟨H, [], stk, false⟩ :: labs) (entryCS cx H 0 stk nb2) b) = some nb →
    Res w cx labs ⟨H, 0, env⟩ (afterBlock cx ⟨H + 1, tys, stk, false⟩ nbx)
      (Wasm.execInstr m n (.loop (toInstrs b)) fr st) (n - (Wasm.weightS (toInstrs b) + 1))

variable {w} {cx} {m}

theorem edge_steps (hal : cx.g.alias = []) {c : CS} {lab : Lab} {args : List Val} {fr : Wasm.Frame} {env : Val → Nat}
    {blk pos : Nat} {i : Instr} (hi : (instrsOf cx.g blk)[pos]? = some i) (hb : i.branch? = some (lab.tgt, args))
    (hx : execInstr w env i (mk env) = .goto lab.tgt (args.map env) (mk env))
    (hedge : edgeOK cx c lab args = true) (hinv : InvC cx.lt c.stack c.vars fr env) :
    ∃ b, StepsK w cx.g 1 ⟨blk, pos, env⟩ b ∧ AtLabel cx lab 1 b
      ⟨fr.stack.take lab.tys.length ++ fr.stack.drop (fr.stack.length - lab.outer.length), fr.locals⟩ := by
  obtain ⟨T, hT, hTl, hinv'⟩ := edge_sound cx c lab args fr env hedge hinv
  exact ⟨_, stepsK_goto hal hi hx hT hTl, Nat.le_refl 1, hasPred_of_instr hi hb, _, rfl, hinv'⟩

theorem AtLabel.enter {t k : Nat} {stk : List TV} {b : Pt} {fr : Wasm.Frame} (hlen : fr.stack.length = stk.length)
    (h : AtLabel cx ⟨t, [], stk, false⟩ k b
      ⟨fr.stack.take 0 ++ fr.stack.drop (fr.stack.length - stk.length), fr.locals⟩) :
    ∃ env', b = ⟨t, 0, env'⟩ ∧ InvC cx.lt stk (entOf cx.ent t) fr env' := by
  obtain ⟨_, _, env', hb, hi⟩ := h
  rw [hlen, Nat.sub_self] at hi
  exact ⟨env', hb, hi⟩

theorem AtLabel.after {lab : Lab} {labs : List Lab} {k : Nat} {b : Pt} {fr : Wasm.Frame} {st : Wasm.Store}
    (h : AtLabel cx lab k b fr) (nb d : Nat) : Post w cx labs (afterBlock cx lab nb) (.next, fr, st) d k b := by
  obtain ⟨_, hp, env', hb, hi⟩ := h
  exact ⟨entryCS cx lab.tgt lab.tys.length lab.outer nb, env', by simp only [afterBlock, hp, if_true], hb, hi⟩

theorem chkJump_label (hal : cx.g.alias = []) {lab : Lab} (hlr : lab.isRet = false) {c : CS} {fr : Wasm.Frame}
    {env : Val → Nat} (hinv : InvC cx.lt c.stack c.vars fr env) (hj : chkJump cx c lab = true) :
    ∃ b, StepsK w cx.g 1 ⟨c.blk, c.pos, env⟩ b ∧ AtLabel cx lab 1 b
      ⟨fr.stack.take lab.tys.length ++ fr.stack.drop (fr.stack.length - lab.outer.length), fr.locals⟩ := by
  simp only [chkJump, hlr, Bool.false_eq_true, if_false] at hj
  split at hj
  · rename_i t args hi
    simp only [Bool.and_eq_true, beq_iff_eq] at hj
    obtain ⟨rfl, hedge⟩ := hj
    exact edge_steps hal hi rfl rfl hedge hinv
  · cases hj

/-- the `Jump` to a block that takes over the whole stack (the header of a loop; the blocks an `if` and a `br_if`
allocate: their check in `chkI` is `chkJump` at the position after the conditional branch) -/
theorem chkJump_enter (hal : cx.g.alias = []) {c : CS} {t : Nat} {fr : Wasm.Frame} {env : Val → Nat}
    (hinv : InvC cx.lt c.stack c.vars fr env) (hj : chkJump cx c ⟨t, [], c.stack, false⟩ = true) :
    ∃ env', StepsK w cx.g 1 ⟨c.blk, c.pos, env⟩ ⟨t, 0, env'⟩ ∧ InvC cx.lt c.stack (entOf cx.ent t) fr env' := by
  obtain ⟨b, hs, h⟩ := chkJump_label (w := w) hal rfl hinv hj
  obtain ⟨env', rfl, hi⟩ := h.enter hinv.stack_length
  exact ⟨env', hs, hi⟩

theorem peekVals_env {lt stk vars} {fr : Wasm.Frame} {env : Val → Nat} (h : InvC lt stk vars fr env) (k : Nat) :
    (peekVals stk k).map env = (fr.stack.take k).reverse := by
  simp only [peekVals, List.map_reverse, List.map_map, ← h.vals, ← List.map_take]
  rfl

theorem final_ret_of_expect {lt : List Ty} {c : CS} {fr : Wasm.Frame} {env : Val → Nat} (k : Nat)
    (hinv : InvC lt c.stack c.vars fr env) (he : expect cx.g c [.ret (peekVals c.stack k)] = true) :
    Final w cx.g ⟨c.blk, c.pos, env⟩ (.values ((fr.stack.take k).reverse) [] []) := by
  have := final_ret (w := w) (env := env) (getElem?_of_expect he)
  rwa [peekVals_env hinv] at this

/-- the live end of an arm: the jump to the continuation `lab` -/
theorem arm_next (hal : cx.g.alias = []) {lab : Lab} (hlr : lab.isRet = false) {labs : List Lab} {c' : CS}
    {fr' : Wasm.Frame} {st' : Wasm.Store} {env' : Val → Nat} {nb : Nat} (nbx d : Nat)
    (hi : InvC cx.lt c'.stack c'.vars fr' env') (hfin : finishArm cx lab (.live c') = some nb) :
    Res w cx labs ⟨c'.blk, c'.pos, env'⟩ (afterBlock cx lab nbx) (.next, fr', st') d := by
  dsimp only [finishArm] at hfin
  split at hfin
  · rename_i hc
    simp only [Bool.and_eq_true, beq_iff_eq] at hc
    obtain ⟨b, hs, h⟩ := chkJump_label (w := w) hal hlr hi hc.2
    -- the arm leaves exactly the values of the label over the stack the label keeps
    rw [hi.stack_length, hc.1, Nat.add_sub_cancel, List.take_append_drop] at h
    exact ⟨1, b, hs, h.after nbx d⟩
  · cases hfin

theorem PA_succ (hal : cx.g.alias = []) {n : Nat} (hps : PS w cx m n) : PA w cx m (n + 1) := by
  intro b lab labs c fr env st nb nbx hlabs hlr hout hinv hfin
  have hne : chkL cx (lab :: labs) c b ≠ .fail := fun h => by rw [h] at hfin; cases hfin
  have hres := hps b (lab :: labs) c fr env st (hlabs.cons lab hlr) hinv hne
  rw [Wasm.execInstr_block]
  generalize Wasm.execSeq m n (toInstrs b) fr st = out at hres ⊢
  obtain ⟨ctl, fr', st'⟩ := out
  cases ctl with
  | next =>
    obtain ⟨k, _, hs, c', env', hr, rfl, hi⟩ := hres
    rw [hr] at hfin
    exact (arm_next hal hlr nbx _ hi hfin).prepend hs (Nat.le_add_right ..)
  | br l =>
    cases l with
    | zero =>
      -- a branch to the arm's own label: the `block` of the reference semantics ends with the frame cut the same way
      obtain ⟨k, p, hs, lab', hl, h⟩ := hres
      obtain rfl : lab = lab' := Option.some.inj hl
      rw [hlr, if_neg Bool.false_ne_true, ← hout, ← hinv.stack_length] at h
      exact ⟨k, p, hs, h.after nbx _⟩
    | succ l => exact hres
  | ret => exact hres
  | trap k => exact hres
  | exhausted => exact hres.mono (by omega)

theorem PL_succ (hal : cx.g.alias = []) {n : Nat} (hps : PS w cx m n) (hpl : PL w cx m n) : PL w cx m (n + 1) := by
  intro b H tys stk labs fr env st nb2 nb nbx hlabs hinv hfin
  have hne : chkL cx (⟨H, [], stk, false⟩ :: labs) (entryCS cx H 0 stk nb2) b ≠ .fail :=
    fun h => by rw [h] at hfin; cases hfin
  have hres := hps b (⟨H, [], stk, false⟩ :: labs) (entryCS cx H 0 stk nb2) fr env st (hlabs.cons _ rfl) hinv hne
  rw [Wasm.execInstr_loop]
  generalize Wasm.execSeq m n (toInstrs b) fr st = out at hres ⊢
  obtain ⟨ctl, fr', st'⟩ := out
  cases ctl with
  | next =>
    obtain ⟨k, _, hs, c', env', hr, rfl, hi⟩ := hres
    rw [hr] at hfin
    exact (arm_next hal rfl nbx _ hi hfin).prepend hs (Nat.le_add_right ..)
  | br l =>
    cases l with
    | zero =>
      -- the back edge: the invariant holds at the header again, one unit of the budget and one block entry later
      obtain ⟨k, p, hs, lab', hl, h⟩ := hres
      obtain rfl : (⟨H, [], stk, false⟩ : Lab) = lab' := Option.some.inj hl
      simp only [Bool.false_eq_true, if_false, AtLabel, List.length_nil, List.take_zero, List.reverse_nil,
        List.nil_append, ← hinv.stack_length] at h
      obtain ⟨hk, _, env'', rfl, hi2⟩ := h
      exact (hpl b H tys stk labs _ env'' st' nb2 nb nbx hlabs hi2 hfin).prepend hs (by omega)
    | succ l => exact hres
  | ret => exact hres
  | trap k => exact hres
  | exhausted => exact hres.mono (by omega)

theorem PS_succ {n : Nat} (hpi : PI w cx m n) (hps : PS w cx m n) : PS w cx m (n + 1) := by
  intro is labs c fr env st hlabs hinv hne
  cases is with
  | nil => exact .here ⟨c, env, rfl, rfl, hinv⟩
  | cons i rest =>
    rw [toInstrs, Wasm.execSeq_cons]
    have hne_i : chkI cx labs c i ≠ .fail := fun h => hne (by simp only [chkL, h])
    have hres := hpi i labs c fr env st hlabs hinv hne_i
    generalize Wasm.execInstr m n i.toInstr fr st = out at hres ⊢
    obtain ⟨ctl, fr', st'⟩ := out
    cases ctl with
    | next =>
      obtain ⟨k, _, hs, c', env', hr, rfl, hi⟩ := hres
      have hl : chkL cx labs c (i :: rest) = chkL cx labs c' rest := by simp only [chkL, hr]
      rw [hl] at hne ⊢
      exact (hps rest labs c' fr' env' st' hlabs hi hne).prepend hs (by simp only [Wasm.weightS]; omega)
    | br l => exact hres
    | ret => exact hres
    | trap k => exact hres
    | exhausted => exact hres.mono (by simp only [Wasm.weightS]; omega)

theorem trapCodeCF_unreachable : trapCodeCF "unreachable" = codeUnreachable := by decide

theorem vars_getD {vars : List (Option TV)} {x : Nat} {v : TV} (h : vars.getD x none = some v) :
    vars[x]? = some (some v) := by
  rw [List.getD_eq_getElem?_getD] at h
  cases hx : vars[x]? with
  | none => simp [hx] at h
  | some o => simp only [hx, Option.getD_some] at h; rw [h]

theorem mem_varIds {vars : List (Option TV)} {x : Nat} {v : TV} (h : vars[x]? = some (some v)) :
    v.1 ∈ varIds vars := by
  simp only [varIds, List.mem_filterMap]
  exact ⟨some v, List.mem_of_getElem? h, rfl⟩

theorem trapCodeCF_trapKind {code : Nat} (h : code = codeDivByZero ∨ code = codeOverflow) :
    trapCodeCF (trapKind code) = code := by
  rcases h with rfl | rfl <;> decide

/-- A plain instruction, by the arms of `chkOp`: the instructions `lowerI` emits on the symbolic stack stand at the current
position (their first result id `r` is read off the instruction found there), and none of their results is a tracked
value. -/
theorem chkOp_res (n : Nat) {i : SI} (hi : isPlain i = true) (d : Nat) (labs : List Lab) (c : CS) (fr : Wasm.Frame)
    (env : Val → Nat) (st : Wasm.Store) (hinv : InvC cx.lt c.stack c.vars fr env) :
    chkOp cx c i ≠ .fail →
    Res w cx labs ⟨c.blk, c.pos, env⟩ (chkOp cx c i) (Wasm.execInstr m (n + 1) i.toInstr fr st) d := by
  fun_cases chkOp cx c i
  all_goals try exact fun h => absurd rfl h
  case case2 tys' htc _ r _ hc =>
    intro _
    simp only [Bool.and_eq_true, freshFor, List.all_eq_true, Bool.not_eq_true', List.contains_eq_mem,
      decide_eq_false_iff_not] at hc
    obtain ⟨hfr, hexp⟩ := hc
    have hfresh : ∀ p ∈ c.stack, ∀ q ∈ resultsOf i r c.stack, p.1 ≠ q :=
      fun p hp q hq heq => (hfr q hq).1 (heq ▸ List.mem_map_of_mem hp)
    obtain ⟨fs, fl⟩ := fr
    rcases sim_plain (w := w) (m := m) (locals := fl) (st := st) (n := n) hi (.of_tcStep htc)
        ⟨hinv.vals, rfl, hinv.rng⟩ hfresh with
      ⟨stack', env', hsp, hss, hinv', -⟩ | ⟨code, fr', hsp, hss, hcode⟩
    · rw [hsp]
      refine ⟨0, _, stepsK_straight w cx.g c.blk c.pos _ env env' (drop_of_expect hexp) hss.body, _, env', rfl, rfl, ?_⟩
      refine ⟨hinv'.vals, hinv'.rng, hinv.vlen, hinv.llen, fun x v hx => ?_⟩
      -- the values of the locals are not among the results, so the frame property keeps them
      rw [hss.frame fun hq => (hfr _ hq).2 (mem_varIds hx)]
      exact hinv.var x v hx
    · rw [hsp]
      refine .here (?_ : Final w cx.g _ (.trap (trapCodeCF (trapKind code)) [] []))
      rw [trapCodeCF_trapKind hcode]
      exact final_trap w cx.g c.blk c.pos _ env code (drop_of_expect hexp) hss.body

/-- `br_if` to the function's label: the conditional branch to the block that stands for the return block, which
returns its parameters -/
theorem brnz_ret (hal : cx.g.alias = []) {blk pos : Nat} {cv : Val} {stk : List TV} {vars : List (Option TV)}
    {fr : Wasm.Frame} {env : Val → Nat}
    (hi : (instrsOf cx.g blk)[pos]? = some (.brnz cv retBlk (peekVals stk cx.res.length))) (hz : env cv ≠ 0)
    (hpre : hasPrefix cx.res.reverse (stk.map (·.2)) = true) (hrb : retBlockOK cx = true)
    (hinv : InvC cx.lt stk vars fr env) :
    ∃ b, StepsK w cx.g 1 ⟨blk, pos, env⟩ b ∧
      Final w cx.g b (.values ((fr.stack.take cx.res.length).reverse) [] []) := by
  unfold retBlockOK at hrb
  cases hR : cx.g.findBlock retBlk with
  | none => rw [hR] at hrb; cases hrb
  | some R =>
    simp only [hR, Bool.and_eq_true, beq_iff_eq, decide_eq_true_eq] at hrb
    obtain ⟨⟨hRt, hnd⟩, hRi⟩ := hrb
    simp only [hasPrefix, beq_iff_eq, List.length_reverse] at hpre
    have hlen : cx.res.length ≤ stk.length := by
      have := congrArg List.length hpre
      simp only [List.length_take, List.length_map, List.length_reverse] at this
      omega
    have hRl : R.params.length = cx.res.length := by rw [← hRt, List.length_map]
    have hpl : (peekVals stk cx.res.length).length = cx.res.length := by
      simp only [peekVals, List.length_reverse, List.length_map, List.length_take]; omega
    have hs1 := stepsK_goto (w := w) (env := env) (args := peekVals stk cx.res.length) hal hi
      (by simp only [execInstr, hz, ne_eq, not_false_eq_true, if_true]) hR
      (by rw [hpl, hRl])
    have hi0 : (instrsOf cx.g retBlk)[0]? = some (.ret (R.params.map (·.1))) := by
      unfold instrsOf
      rw [hR, Option.map_some, Option.getD_some, hRi]
      rfl
    refine ⟨_, hs1, ?_⟩
    have hfin := final_ret (w := w) (env := bindVals env R.params ((peekVals stk cx.res.length).map env)) hi0
    -- the parameters of the return block are bound to the values of the top of the stack
    have hpv := params_vals R.params (peekVals stk cx.res.length) env (stk.take cx.res.length).reverse
      R.params.length hnd (Nat.le_refl _)
      (by simp only [List.length_reverse, List.length_take]; omega)
      (by rw [List.take_of_length_le (by omega)]; simp only [peekVals, List.map_reverse])
      (by rw [List.take_length, hRt, List.map_reverse, List.map_take, hpre, List.reverse_reverse])
      (fun p hp => hinv.rng p (List.mem_of_mem_take (List.mem_reverse.mp hp)))
    rw [List.take_length] at hpv
    rw [List.map_map] at hfin
    have hcomp : (bindVals env R.params ((peekVals stk cx.res.length).map env) ∘ fun x => x.1) =
        fun p : TV => bindVals env R.params ((peekVals stk cx.res.length).map env) p.1 := rfl
    rw [hcomp, hpv, List.map_reverse, List.map_take, hinv.vals] at hfin
    exact hfin

/-- One instruction, by the arms of `chkI`, numbered as they stand in its definition with every test inside an arm
counted.  The arms that refuse go at once; each of the others comes with what the checker has found there, and what is
left to show is the run. -/
theorem PI_succ (hal : cx.g.alias = []) {n : Nat} (hpa : PA w cx m n) (hpa' : PA w cx m (n + 1))
    (hpl' : PL w cx m (n + 1)) : PI w cx m (n + 1) := by
  intro i labs c fr env st hlabs hinv
  fun_cases chkI cx labs c i
  all_goals try exact fun h => absurd rfl h
  all_goals intro hne
  -- `return`
  case case1 he =>
    simp only [Bool.and_eq_true] at he
    exact .here (final_ret_of_expect _ hinv he.2)
  -- `local.get x`
  case case3 x v hv _ =>
    rw [CI.toInstr, SI.toInstr, Wasm.execInstr_localGet]
    obtain ⟨h1, _, h3⟩ := hinv.var x v (vars_getD hv)
    rw [getElem!_def, h1]
    exact .here ⟨_, env, rfl, rfl, hinv.push v h3⟩
  -- `local.set x`
  case case6 x v stk t hlt hstk hc =>
    obtain ⟨hfs, hr, hinv'⟩ := (hstk ▸ hinv).pop
    obtain ⟨fs, fl⟩ := fr
    obtain rfl : fs = _ := hfs
    rw [CI.toInstr, SI.toInstr, Wasm.execInstr_localSet]
    exact .here ⟨_, env, rfl, rfl, hinv'.setVar x v hc.2 (by rw [hlt, hc.1]) hr⟩
  -- `local.tee x`: the invariant keeps the whole stack, only its top is read
  case case9 x v stk t hlt hstk hc =>
    obtain ⟨hfs, hr, _⟩ := (hstk ▸ hinv).pop
    obtain ⟨fs, fl⟩ := fr
    obtain rfl : fs = _ := hfs
    rw [CI.toInstr, SI.toInstr, Wasm.execInstr_localTee]
    exact .here ⟨_, env, rfl, rfl, hinv.setVar x v hc.2 (by rw [hlt, hc.1]) hr⟩
  -- the other straight-line instructions
  case case12 i h1 h2 h3 h4 =>
    exact chkOp_res n (by cases i <;> first | rfl | cases h1 rfl | cases h2 _ rfl | cases h3 _ rfl | cases h4 _ rfl)
      _ labs c fr env st hinv hne
  -- `unreachable`
  case case13 he =>
    refine .here (?_ : Final w cx.g _ (.trap (trapCodeCF "unreachable") [] []))
    rw [trapCodeCF_unreachable]
    exact final_exit (getElem?_of_expect he)
  -- `br l`: to a label, or to the function's label (a `Return`)
  case case15 l lab hl hj =>
    cases hr : lab.isRet with
    | false =>
      obtain ⟨b, hs, h⟩ := chkJump_label (w := w) hal hr hinv hj
      exact ⟨1, b, hs, lab, hl, by rwa [hr, if_neg Bool.false_ne_true]⟩
    | true =>
      simp only [chkJump, hr, if_true, Bool.and_eq_true] at hj
      refine .here ⟨lab, hl, ?_⟩
      rw [hr, if_pos rfl, ← (hlabs lab (List.mem_of_getElem? hl) hr).1]
      exact final_ret_of_expect _ hinv hj.2
  -- `br_if l`: the `Brnz` to the label, then the `Jump` to a new block
  case case18 l v stk lab hl hstk _ _ okBr _ _ h =>
    obtain ⟨hty, hbr, hj⟩ := h
    obtain ⟨hfs, hrng, hinv1⟩ := (hstk ▸ hinv).pop
    have hrng : env v.1 < 2 ^ 32 := by rw [hty] at hrng; exact hrng
    obtain ⟨fs, fl⟩ := fr
    obtain rfl : fs = _ := hfs
    rw [CI.toInstr, Wasm.execInstr_brIf, Nat.mod_eq_of_lt hrng]
    unfold okBr at hbr
    split at hbr
    · rename_i cv t args hi
      simp only [Bool.and_eq_true, beq_iff_eq] at hbr
      obtain ⟨⟨rfl, rfl⟩, hbr⟩ := hbr
      by_cases hz : env v.1 = 0
      · -- not taken
        obtain ⟨env', hs, hi'⟩ := chkJump_enter (w := w) (c := { c with pos := c.pos + 1, stack := stk }) hal hinv1 hj
        have hs1 : StepsK w cx.g 0 ⟨c.blk, c.pos, env⟩ ⟨c.blk, c.pos + 1, env⟩ :=
          stepsK_next hi (by simp only [execInstr, hz, ne_eq, not_true_eq_false, if_false])
        simp only [hz, bne_self_eq_false, Bool.false_eq_true, if_false]
        exact ⟨_, _, hs1.trans hs, _, env', rfl, rfl, hi'⟩
      · have hb : (env v.1 != 0) = true := by simp [hz]
        rw [if_pos hb]
        have hx : execInstr w env (.brnz v.1 lab.tgt args) (mk env) = .goto lab.tgt (args.map env) (mk env) := by
          simp only [execInstr, hz, ne_eq, not_false_eq_true, if_true]
        cases hr : lab.isRet with
        | false =>
          simp only [hr, Bool.false_eq_true, if_false] at hbr
          obtain ⟨b, hs, h⟩ := edge_steps (w := w) hal hi rfl hx hbr hinv1
          exact ⟨1, b, hs, lab, hl, by rwa [hr, if_neg Bool.false_ne_true]⟩
        | true =>
          simp only [hr, if_true, Bool.and_eq_true, beq_iff_eq] at hbr
          obtain ⟨⟨rfl, hpre⟩, hrb⟩ := hbr
          obtain ⟨htys, htgt⟩ := hlabs lab (List.mem_of_getElem? hl) hr
          rw [htgt, htys] at hi
          rw [htys] at hpre
          obtain ⟨b, hs, h⟩ := brnz_ret (w := w) hal hi hz hpre hrb hinv1
          exact ⟨1, b, hs, lab, hl, by rwa [hr, if_pos rfl]⟩
    · cases hbr
  -- `block`: the body is an arm that continues at the new block
  case case22 bt body _ lab nb hfin =>
    exact (hpa' body lab labs { c with nb := c.nb + 1 } fr env st nb nb hlabs rfl rfl hinv hfin).mono
      (by simp only [CI.toInstr, Wasm.weightI]; omega)
  -- `loop`: the `Jump` to the header
  case case25 bt body _ _ _ hj nb hfin =>
    obtain ⟨env', hs, hi⟩ := chkJump_enter (w := w) hal hinv hj
    exact (hpl' body c.nb bt.results c.stack labs fr env' st (c.nb + 2) nb nb hlabs hi hfin).prepend hs
      (by simp only [CI.toInstr, Wasm.weightI]; omega)
  -- `if`: `Brz` to the else block, else the `Jump` to the then block; the arm taken is run as a `block`, one unit of the
  -- budget later
  case case30 bt _ th el _ _ v stk hstk _ _ _ _ _ labF okBr _ h nb1 hfin1 nb2 hfin2 =>
    obtain ⟨hv, hbr, hj⟩ := h
    obtain ⟨hfs, hrng, hinvP⟩ := (hstk ▸ hinv).pop
    have hrng : env v.1 < 2 ^ 32 := by rw [hv] at hrng; exact hrng
    obtain ⟨fs, fl⟩ := fr
    obtain rfl : fs = _ := hfs
    rw [CI.toInstr, Wasm.execInstr_ite, Nat.mod_eq_of_lt hrng]
    unfold okBr at hbr
    split at hbr
    · rename_i cv tE argsE hiE
      simp only [Bool.and_eq_true, beq_iff_eq] at hbr
      obtain ⟨⟨rfl, rfl⟩, hedgeE⟩ := hbr
      by_cases h0 : env v.1 = 0
      · -- the else arm: `Brz` is taken
        obtain ⟨b, hs, h⟩ := edge_steps (w := w) (c := { c with stack := stk }) hal hiE rfl
          (by simp only [execInstr, h0, if_true]; rfl) hedgeE hinvP
        obtain ⟨env', rfl, hi⟩ := h.enter hinvP.stack_length
        simp only [h0, bne_self_eq_false, Bool.false_eq_true, if_false]
        exact (hpa el labF labs (entryCS cx (c.nb + 1) 0 stk nb1) _ env' st nb2 nb2 hlabs rfl rfl hi hfin2).prepend hs
          (by simp only [Wasm.weightI]; omega)
      · -- the then arm: `Brz` falls through to the `Jump`
        obtain ⟨env', hs, hi⟩ := chkJump_enter (w := w) (c := { c with pos := c.pos + 1, stack := stk }) hal hinvP hj
        have hs1 : StepsK w cx.g 0 ⟨c.blk, c.pos, env⟩ ⟨c.blk, c.pos + 1, env⟩ :=
          stepsK_next hiE (by simp only [execInstr, h0, if_false])
        have hb : (env v.1 != 0) = true := by simp [h0]
        simp only [hb, if_true]
        exact (hpa th labF labs (entryCS cx c.nb 0 stk (c.nb + 3)) _ env' st nb1 nb2 hlabs rfl rfl hi hfin1).prepend
          (hs1.trans hs) (by simp only [Wasm.weightI]; omega)
    · cases hbr

theorem sim_all (hal : cx.g.alias = []) : ∀ n, PI w cx m n ∧ PS w cx m n ∧ PA w cx m n ∧ PL w cx m n := by
  intro n
  induction n with
  | zero =>
    have h0 : ∀ (labs : List Lab) (src : Pt) (r : CR) (fr : Wasm.Frame) (st : Wasm.Store) (W : Nat),
        Res w cx labs src r (.exhausted, fr, st) (0 - W) :=
      fun _ _ _ _ _ _ => .here (show 0 - _ ≤ 0 by omega)
    refine ⟨?_, ?_, ?_, ?_⟩
    · intro i labs c fr env st _ _ _
      rw [Wasm.execInstr_zero]
      exact h0 ..
    · intro is labs c fr env st _ _ _
      rw [Wasm.execSeq_zero]
      exact h0 ..
    · intro b lab labs c fr env st nb nbx _ _ _ _ _
      rw [Wasm.execInstr_zero]
      exact h0 ..
    · intro b H tys stk labs fr env st nb2 nb nbx _ _ _
      rw [Wasm.execInstr_zero]
      exact h0 ..
  | succ n ih =>
    obtain ⟨hpi, hps, hpa, hpl⟩ := ih
    -- `block` and `loop` hand their whole budget on (to `PA`, `PL` at `n + 1`); `if` spends a unit first (`PA` at `n`)
    have hpa' : PA w cx m (n + 1) := PA_succ hal hps
    have hpl' : PL w cx m (n + 1) := PL_succ hal hps hpl
    exact ⟨PI_succ hal hpa hpa' hpl', PS_succ hpi hps, hpa', hpl'⟩

end Wz.Proofs.FrontCF
