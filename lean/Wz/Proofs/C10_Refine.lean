/-
Helper lemmas for C10 about the registry model `Wz.Model.Registry`.
`Wz.C10`: the functions of the specification and of the implementation model case by case (`Reg.step`; `stepOp`, for every
variant where the action reads no switch or the equation shows the switch, else for the repaired variant; `runOpFuel`,
`stepThread`, `Conc.step`), and the run of `closeModule` and `instantiate` to its end in closed form (`runOp_close`,
`runOp_inst_*`).
`Wz.C10.Refine`: instance-wise invariants preserved by every atomic action and hence by every interleaving (Part D of
`Props/C10.lean`).
Core Lean only.
-/
import Wz.Model.Registry

namespace Wz.C10
open Wz.Model.Registry

theorem closeMods_eq_map (h : Nat) (ms : List Mod) :
    closeMods h ms = ms.map fun m => if m.h == h then { m with isOpen := false } else m := by
  induction ms with
  | nil => rfl
  | cons m ms ih => rw [closeMods, ih]; rfl

theorem closeAllMods_eq_map (ms : List Mod) : closeAllMods ms = ms.map fun m => { m with isOpen := false } := by
  induction ms with
  | nil => rfl
  | cons m ms ih => rw [closeAllMods, ih]; rfl

theorem closeMods_map_h (h : Nat) (ms : List Mod) : (closeMods h ms).map (·.h) = ms.map (·.h) := by
  rw [closeMods_eq_map, List.map_map]
  exact List.map_congr_left fun m _ => by dsimp only [Function.comp]; split <;> rfl

theorem closeAllMods_map_h (ms : List Mod) : (closeAllMods ms).map (·.h) = ms.map (·.h) := by
  rw [closeAllMods_eq_map, List.map_map]; rfl

theorem mem_closeMods {h : Nat} {ms : List Mod} {x : Mod} (hx : x ∈ closeMods h ms) :
    ∃ m ∈ ms, x.h = m.h ∧ x.name = m.name ∧ (x.isOpen = true → m.isOpen = true ∧ m.h ≠ h) := by
  rw [closeMods_eq_map] at hx
  obtain ⟨m, hm, rfl⟩ := List.mem_map.mp hx
  refine ⟨m, hm, ?_⟩
  by_cases e : m.h = h
  · rw [if_pos (beq_iff_eq.mpr e)]; exact ⟨rfl, rfl, nofun⟩
  · rw [if_neg (mt beq_iff_eq.mp e)]; exact ⟨rfl, rfl, fun ho => ⟨ho, e⟩⟩

theorem mem_closeAllMods {ms : List Mod} {x : Mod} (hx : x ∈ closeAllMods ms) : x.isOpen = false := by
  obtain ⟨m, _, rfl⟩ := List.mem_map.mp (closeAllMods_eq_map ms ▸ hx)
  rfl

theorem closeMods_id (h : Nat) (ms : List Mod) (hc : ∀ m ∈ ms, m.h = h → m.isOpen = false) : closeMods h ms = ms := by
  rw [closeMods_eq_map]
  refine (List.map_congr_left fun m hm => ?_).trans (List.map_id' ms)
  split
  · rw [← hc m hm (beq_iff_eq.mp ‹_›)]
  · rfl

theorem closeMods_idem (h : Nat) (ms : List Mod) : closeMods h (closeMods h ms) = closeMods h ms :=
  closeMods_id h _ fun _ hx e =>
    have ⟨_, _, eh, _, ho⟩ := mem_closeMods hx
    Bool.eq_false_iff.mpr fun o => (ho o).2 (eh ▸ e)

theorem closeAll_id (ms : List Mod) (hc : ∀ m ∈ ms, m.isOpen = false) : closeAllMods ms = ms := by
  rw [closeAllMods_eq_map]
  exact (List.map_congr_left fun m hm => by rw [← hc m hm]).trans (List.map_id' ms)

theorem has_iff (r : Reg) (h : Nat) : r.has h = true ↔ h ∈ r.mods.map (·.h) := by
  simp only [Reg.has, List.any_eq_true, List.mem_map, beq_iff_eq]

theorem owner_zero (r : Reg) : r.owner 0 = none := rfl

theorem owner_find {r : Reg} {n : Nat} (hn : n ≠ 0) :
    r.owner n = (r.mods.find? (fun m => m.isOpen && m.name == n)).map (·.h) :=
  if_neg (mt beq_iff_eq.mp hn)

theorem owner_some {r : Reg} {n h : Nat} (ho : r.owner n = some h) :
    n ≠ 0 ∧ ∃ m ∈ r.mods, m.h = h ∧ m.isOpen = true ∧ m.name = n := by
  have hn : n ≠ 0 := fun e => by rw [e, owner_zero] at ho; cases ho
  rw [owner_find hn, Option.map_eq_some_iff] at ho
  obtain ⟨m, hfind, e⟩ := ho
  have hp := List.find?_some hfind
  rw [Bool.and_eq_true, beq_iff_eq] at hp
  exact ⟨hn, m, List.mem_of_find?_eq_some hfind, e, hp⟩

theorem owner_none {r : Reg} {n : Nat} (hn : n ≠ 0) (ho : r.owner n = none) :
    ∀ m ∈ r.mods, m.isOpen = true → m.name ≠ n := by
  intro m hm hopen e
  rw [owner_find hn, Option.map_eq_none_iff, List.find?_eq_none] at ho
  exact ho m hm (by rw [hopen, e, beq_self_eq_true]; rfl)

theorem owner_allClosed (r : Reg) (n : Nat) (hc : ∀ m ∈ r.mods, m.isOpen = false) : r.owner n = none := by
  cases ho : r.owner n with
  | none => rfl
  | some h =>
    obtain ⟨_, m, hm, _, hopen, _⟩ := owner_some ho
    rw [hc m hm] at hopen; cases hopen

theorem owner_cons (r : Reg) (h n k : Nat) (b : Bool) (hk : k ≠ 0) :
    Reg.owner { r with mods := ⟨h, n, b⟩ :: r.mods } k = if (b && n == k) = true then some h else r.owner k := by
  rw [owner_find hk, owner_find hk, List.find?_cons]
  dsimp only
  cases (b && n == k) <;> rfl

theorem find_closeMods (h n : Nat) (ms : List Mod) (hne : ∀ m ∈ ms, m.h = h → ¬ (m.isOpen = true ∧ m.name = n)) :
    (closeMods h ms).find? (fun m => m.isOpen && m.name == n) = ms.find? (fun m => m.isOpen && m.name == n) := by
  induction ms with
  | nil => rfl
  | cons a ms ih =>
    rw [closeMods, List.find?_cons, List.find?_cons, ih (fun m hm => hne m (List.mem_cons_of_mem _ hm))]
    by_cases ha : a.h = h
    · have hp : (a.isOpen && a.name == n) = false := by
        rw [← Bool.not_eq_true, Bool.and_eq_true, beq_iff_eq]; exact hne a List.mem_cons_self ha
      rw [if_pos (beq_iff_eq.mpr ha), hp]; rfl
    · rw [if_neg (mt beq_iff_eq.mp ha)]

theorem step_lookup (r : Reg) (n : Nat) :
    r.step (.lookup n) = match r.owner n with
      | some h => (r, .found h)
      | none => (r, .notFound) := rfl

theorem step_lookup_fst (r : Reg) (n : Nat) : (r.step (.lookup n)).1 = r := by
  rw [step_lookup]; split <;> rfl

theorem step_closeModule {r : Reg} {h : Nat} (c : Nat) (hh : r.has h = true) :
    r.step (.closeModule h c) = ({ r with mods := closeMods h r.mods }, .ok) := by
  rw [Reg.step, if_pos hh]

theorem step_instantiate {r : Reg} {h : Nat} (n : Nat) (p : Pre) (hc : r.rtClosed = false) (hh : r.has h = false) :
    r.step (.instantiate h n p) =
      ({ r with mods := ⟨h, n, !(r.owner n).isSome⟩ :: r.mods }, if (r.owner n).isSome then .errDup else .ok) := by
  rw [Reg.step, hc, hh]
  cases (r.owner n).isSome <;> rfl

def isRequest : Op → Bool
  | .compile | .hostCompile _ | .instantiate _ _ _ => true
  | _ => false

theorem step_refused {r : Reg} (hc : r.rtClosed = true) : ∀ {op : Op}, isRequest op = true → r.step op = (r, .errClosed)
  | .compile, _ | .hostCompile _, _ | .instantiate _ _ _, _ => by rw [Reg.step, hc]; rfl

/-- `afterCompile op = .done .ok` says that the request is a compile or host compile: an instantiate goes on to `iFail`. -/
theorem step_granted {r : Reg} (hc : r.rtClosed = false) :
    ∀ {op : Op}, isRequest op = true → afterCompile op = .done .ok → r.step op = (r, .ok)
  | .compile, _, _ | .hostCompile _, _, _ => by rw [Reg.step, hc]; rfl

def newH : Op → Option Nat
  | .instantiate h _ _ => some h
  | _ => none

def useH : Op → Option Nat
  | .closeModule h _ | .isClosed h => some h
  | _ => none

def gotH : Op → Res → Option Nat
  | .instantiate h _ _, .ok => some h
  | .lookup _, .found h => some h
  | _, _ => none

theorem has_iff_mem (s : Impl) (h : Nat) : s.has h = true ↔ ∃ i ∈ s.insts, i.h = h := by
  simp only [Impl.has, List.any_eq_true, beq_iff_eq]

theorem has_false_iff (s : Impl) (h : Nat) : s.has h = false ↔ ∀ i ∈ s.insts, i.h ≠ h := by
  simp only [Impl.has, List.any_eq_false, beq_iff_eq]

theorem has_congr {s1 s2 : Impl} (e : s1.insts.map (·.h) = s2.insts.map (·.h)) (h : Nat) : s1.has h = s2.has h := by
  have : ∀ s : Impl, s.has h = (s.insts.map (·.h)).any (· == h) := fun s => by
    rw [Impl.has, List.any_map]; rfl
  rw [this, this, e]

theorem has_cons (s : Impl) (i : Inst) (k : Nat) (l : List Nat) (nm : Option (List (Nat × Nat))) (rc : Option Nat) :
    Impl.has ⟨i :: s.insts, l, nm, rc⟩ k = (i.h == k || s.has k) := rfl

theorem get_none_has (s : Impl) (h : Nat) : s.get h = none ↔ s.has h = false := by
  simp only [Impl.get, Impl.has, List.find?_eq_none, List.any_eq_false]

theorem get_some {s : Impl} {h : Nat} {i : Inst} (hget : s.get h = some i) : i ∈ s.insts ∧ i.h = h :=
  ⟨List.mem_of_find?_eq_some hget, beq_iff_eq.mp (List.find?_some (p := fun i : Inst => i.h == h) hget)⟩

theorem get_of_has {s : Impl} {h : Nat} (hh : s.has h = true) : ∃ i, s.get h = some i :=
  Option.ne_none_iff_exists'.mp fun e => by rw [(get_none_has s h).mp e] at hh; cases hh

theorem eq_of_nodup_map {α β : Type} {f : α → β} {l : List α} (hnd : (l.map f).Nodup) {i j : α} (hi : i ∈ l)
    (hj : j ∈ l) (e : f i = f j) : i = j := by
  induction l with
  | nil => cases hi
  | cons a l ih =>
    rw [List.map_cons, List.nodup_cons] at hnd
    rw [List.mem_cons] at hi hj
    rcases hi with rfl | hi <;> rcases hj with rfl | hj
    · rfl
    · exact absurd (List.mem_map.mpr ⟨j, hj, e.symm⟩) hnd.1
    · exact absurd (List.mem_map.mpr ⟨i, hi, e⟩) hnd.1
    · exact ih hnd.2 hi hj

theorem updInst_eq_map (h : Nat) (f : Inst → Inst) (l : List Inst) :
    updInst h f l = l.map fun i => if i.h == h then f i else i := by
  induction l with
  | nil => rfl
  | cons a l ih => rw [updInst, ih]; rfl

theorem mem_updInst {h : Nat} {f : Inst → Inst} {l : List Inst} {x : Inst} (hx : x ∈ updInst h f l) :
    ∃ y ∈ l, (y.h = h ∧ x = f y) ∨ (y.h ≠ h ∧ x = y) := by
  rw [updInst_eq_map] at hx
  obtain ⟨y, hy, rfl⟩ := List.mem_map.mp hx
  refine ⟨y, hy, ?_⟩
  by_cases e : y.h = h
  · rw [if_pos (beq_iff_eq.mpr e)]; exact Or.inl ⟨e, rfl⟩
  · rw [if_neg (mt beq_iff_eq.mp e)]; exact Or.inr ⟨e, rfl⟩

theorem ite_h {c : Prop} [Decidable c] {f : Inst → Inst} (hf : ∀ i, (f i).h = i.h) (i : Inst) :
    (if c then f i else i).h = i.h := by
  split
  · exact hf i
  · rfl

theorem updInst_map_h (h : Nat) (f : Inst → Inst) (hf : ∀ i, (f i).h = i.h) (l : List Inst) :
    (updInst h f l).map (·.h) = l.map (·.h) := by
  rw [updInst_eq_map, List.map_map]
  exact List.map_congr_left fun i _ => ite_h hf i

theorem has_updInst (s : Impl) (h : Nat) (f : Inst → Inst) (hf : ∀ i, (f i).h = i.h) (k : Nat) :
    Impl.has { s with insts := updInst h f s.insts } k = s.has k :=
  has_congr (updInst_map_h h f hf s.insts) k

theorem find_updInst (h : Nat) (f : Inst → Inst) (hf : ∀ i, (f i).h = i.h) (l : List Inst) :
    (updInst h f l).find? (fun i => i.h == h) = (l.find? (fun i => i.h == h)).map f := by
  induction l with
  | nil => rfl
  | cons a l ih =>
    rw [updInst, List.find?_cons, List.find?_cons]
    by_cases ha : (a.h == h) = true
    · rw [if_pos ha, hf, ha]; rfl
    · rw [if_neg ha, Bool.not_eq_true _ |>.mp ha, ih]

theorem updInst_not_mem (h : Nat) (f : Inst → Inst) (l : List Inst) (hh : ∀ i ∈ l, i.h ≠ h) :
    updInst h f l = l := by
  rw [updInst_eq_map]
  exact (List.map_congr_left fun i hi => if_neg (mt beq_iff_eq.mp (hh i hi))).trans (List.map_id' l)

theorem ensureRes_keeps (i : Inst) :
    (ensureRes i).h = i.h ∧ (ensureRes i).name = i.name ∧ (ensureRes i).closed = i.closed := by
  unfold ensureRes
  cases i.notifier <;> cases hs : i.sys <;> simp [hs]

theorem ensureRes_h (i : Inst) : (ensureRes i).h = i.h := (ensureRes_keeps i).1
theorem ensureRes_closed (i : Inst) : (ensureRes i).closed = i.closed := (ensureRes_keeps i).2.2

theorem nameLookup_erase_ne (n k : Nat) (hk : n ≠ k) (m : List (Nat × Nat)) :
    nameLookup n (nameErase k m) = nameLookup n m := by
  induction m with
  | nil => rfl
  | cons a m ih =>
    obtain ⟨a1, a2⟩ := a
    rw [nameErase, nameLookup]
    by_cases h1 : a1 = k
    · rw [if_pos (beq_iff_eq.mpr h1), ih, if_neg (mt beq_iff_eq.mp (h1 ▸ hk.symm))]
    · rw [if_neg (mt beq_iff_eq.mp h1), nameLookup, ih]

theorem nameLookup_erase_self (k : Nat) (m : List (Nat × Nat)) : nameLookup k (nameErase k m) = none := by
  induction m with
  | nil => rfl
  | cons a m ih =>
    obtain ⟨a1, a2⟩ := a
    rw [nameErase]
    by_cases h1 : a1 = k
    · rw [if_pos (beq_iff_eq.mpr h1), ih]
    · rw [if_neg (mt beq_iff_eq.mp h1), nameLookup, if_neg (mt beq_iff_eq.mp h1), ih]

theorem closeFromStore_h (c : Nat) (i : Inst) : (closeFromStore c i).h = i.h := by
  unfold closeFromStore; split
  · rfl
  · rw [ensureRes_h]

theorem closeListed_eq_map (c : Nat) (list : List Nat) (l : List Inst) :
    closeListed c list l = l.map fun i => if list.contains i.h then closeFromStore c i else i := by
  induction l with
  | nil => rfl
  | cons a l ih => rw [closeListed, ih]; rfl

theorem closeListed_map_h (c : Nat) (list : List Nat) (l : List Inst) :
    (closeListed c list l).map (·.h) = l.map (·.h) := by
  rw [closeListed_eq_map, List.map_map]
  exact List.map_congr_left fun i _ => ite_h (closeFromStore_h c) i

theorem mem_closeListed {c : Nat} {list : List Nat} {l : List Inst} {x : Inst} (hx : x ∈ closeListed c list l) :
    ∃ y ∈ l, x.h = y.h ∧ (x.closed = none → y.closed = none ∧ y.h ∉ list) := by
  rw [closeListed_eq_map] at hx
  obtain ⟨y, hy, rfl⟩ := List.mem_map.mp hx
  refine ⟨y, hy, ?_⟩
  by_cases hin : list.contains y.h = true
  · rw [if_pos hin]
    refine ⟨closeFromStore_h c y, ?_⟩
    unfold closeFromStore
    split
    · rename_i hs; intro e; rw [e] at hs; cases hs
    · rw [ensureRes_closed]; nofun
  · rw [if_neg hin]
    exact ⟨rfl, fun e => ⟨e, fun hm => hin (List.contains_iff_mem.mpr hm)⟩⟩

/-- The record `registerModule` creates: open, `Sys` attached, no notifier yet, no effects. -/
def freshI (h n : Nat) : Inst := ⟨h, n, none, false, true, [], 0⟩

/-- The name map after `deleteModule` of the record with handle `h` and name `n` in the repaired variant. -/
def closeNames (names : Option (List (Nat × Nat))) (h n : Nat) : Option (List (Nat × Nat)) :=
  if n == 0 then names else
  match names with
  | none => none
  | some nm => if nameLookup n nm == some h then some (nameErase n nm) else some nm

theorem closeNames_eq_none (names : Option (List (Nat × Nat))) (h n : Nat) :
    closeNames names h n = none ↔ names = none := by
  unfold closeNames
  split
  · rfl
  · split
    · simp only [*]
    · split <;> simp [*]

theorem lookup_closeNames {names : Option (List (Nat × Nat))} {h n : Nat} {nm' : List (Nat × Nat)}
    (hc : closeNames names h n = some nm') :
    ∃ nm, names = some nm ∧ ∀ k, k ≠ 0 →
      nameLookup k nm' = if nameLookup k nm = some h ∧ k = n then none else nameLookup k nm := by
  unfold closeNames at hc
  split at hc
  · rename_i hn
    exact ⟨nm', hc, fun k hk => (if_neg fun e => hk (e.2.trans (beq_iff_eq.mp hn))).symm⟩
  · split at hc
    · cases hc
    · rename_i nm
      refine ⟨nm, rfl, fun k _ => ?_⟩
      split at hc <;> cases hc
      · rename_i hl
        by_cases e : k = n
        · rw [e, nameLookup_erase_self, if_pos ⟨beq_iff_eq.mp hl, rfl⟩]
        · rw [nameLookup_erase_ne k n e, if_neg fun hc => e hc.2]
      · rename_i hl
        exact (if_neg fun ⟨h1, h2⟩ => hl (beq_iff_eq.mpr (h2 ▸ h1))).symm

theorem deleteModule_repaired {s : Impl} {h : Nat} {i : Inst} (hget : s.get h = some i) :
    deleteModule Cfg.repaired s h =
      { s with list := s.list.filter (· != h), names := closeNames s.names h i.name } := by
  rw [deleteModule, hget]; rfl

theorem stepOp_cFail (cfg : Cfg) (s : Impl) (op : Op) :
    stepOp cfg s op .cFail = if s.rtClosed.isSome then (s, .done .errClosed) else (s, .cTypes) := rfl
theorem stepOp_cTypes (cfg : Cfg) (s : Impl) (op : Op) : stepOp cfg s op .cTypes = (s, typesSection cfg s op) := rfl
theorem stepOp_hFail (cfg : Cfg) (s : Impl) (op : Op) (f : Bool) :
    stepOp cfg s op (.hFail f) =
      if s.rtClosed.isSome then (s, .done .errClosed) else (s, if f then .hTypes else afterCompile op) := rfl
theorem stepOp_hTypes (cfg : Cfg) (s : Impl) (op : Op) : stepOp cfg s op .hTypes = (s, typesSection cfg s op) := rfl
theorem stepOp_iFail (cfg : Cfg) (s : Impl) (op : Op) :
    stepOp cfg s op .iFail = if s.rtClosed.isSome then (s, .done .errClosed) else (s, .iReg) := rfl

theorem typesSection_repaired (s : Impl) (op : Op) :
    typesSection Cfg.repaired s op = if s.names = none then .done .errClosed else afterCompile op := by
  unfold typesSection; split <;> simp [*, Cfg.repaired]

/-- Where a request goes from a read before registration (`failIfClosed`, the type section) that lets it pass. -/
def nextRead (op : Op) : Pc → Option Pc
  | .cFail => some .cTypes
  | .hFail true => some .hTypes
  | .iFail => some .iReg
  | .cTypes | .hTypes | .hFail false => some (afterCompile op)
  | _ => none

/-- Before registration every action of a request only reads; the store is closed exactly when the runtime is
(`hrt`), so they all answer alike. -/
theorem stepOp_read {s : Impl} (hrt : s.names = none ↔ s.rtClosed.isSome = true) (op : Op) {pc nxt : Pc}
    (h : nextRead op pc = some nxt) :
    stepOp Cfg.repaired s op pc = (s, if s.rtClosed.isSome then .done .errClosed else nxt) := by
  have hT : typesSection Cfg.repaired s op = if s.rtClosed.isSome then .done .errClosed else afterCompile op := by
    rw [typesSection_repaired]; exact ite_congr (propext hrt) (fun _ => rfl) (fun _ => rfl)
  cases pc with
  | cFail => cases h; rw [stepOp_cFail]; cases s.rtClosed.isSome <;> rfl
  | iFail => cases h; rw [stepOp_iFail]; cases s.rtClosed.isSome <;> rfl
  | hFail f => cases f <;> cases h <;> rw [stepOp_hFail] <;> cases s.rtClosed.isSome <;> rfl
  | cTypes => cases h; rw [stepOp_cTypes, hT]
  | hTypes => cases h; rw [stepOp_hTypes, hT]
  | _ => cases h

theorem stepOp_iReg (cfg : Cfg) (s : Impl) (h name : Nat) (p : Pre) :
    stepOp cfg s (.instantiate h name p) .iReg =
      if s.has h then (s, .done .bad) else
      match s.names with
      | none => ({ s with insts := freshI h name :: s.insts }, .fCas .errClosed)
      | some nm =>
        if name != 0 && (nameLookup name nm).isSome then
          ({ s with insts := freshI h name :: s.insts }, .fCas .errDup)
        else
          ({ s with insts := (if cfg.notifierAtRegister then { freshI h name with notifier := true } else freshI h name)
                      :: s.insts,
                    list := h :: s.list, names := some (if name != 0 then (name, h) :: nm else nm) },
           if cfg.notifierAtRegister then .done .ok else .iNote) := rfl

theorem stepOp_mCas (cfg : Cfg) (s : Impl) (h code : Nat) :
    stepOp cfg s (.closeModule h code) .mCas =
      match s.get h with
      | none => (s, .done .bad)
      | some i =>
        if i.closed.isSome then (s, .done .ok) else
        let s1 := { s with insts := updInst h (fun i => { i with closed := some code }) s.insts }
        if cfg.atomicClose then (deleteModule cfg s1 h, .mRes) else (s1, .mDel) := rfl

theorem stepOp_iReg_has {s : Impl} {h : Nat} (cfg : Cfg) (n : Nat) (p : Pre) (hh : s.has h = true) :
    stepOp cfg s (.instantiate h n p) .iReg = (s, .done .bad) := by
  rw [stepOp_iReg, if_pos hh]

theorem stepOp_iReg_refused {s : Impl} {h : Nat} (cfg : Cfg) (n : Nat) (p : Pre) (hh : s.has h = false)
    (hnm : s.names = none) :
    stepOp cfg s (.instantiate h n p) .iReg = ({ s with insts := freshI h n :: s.insts }, .fCas .errClosed) := by
  rw [stepOp_iReg, hh, hnm]; rfl

theorem stepOp_iReg_dup {s : Impl} {h n : Nat} {nm : List (Nat × Nat)} (cfg : Cfg) (p : Pre) (hh : s.has h = false)
    (hnm : s.names = some nm) (hdup : (n != 0 && (nameLookup n nm).isSome) = true) :
    stepOp cfg s (.instantiate h n p) .iReg = ({ s with insts := freshI h n :: s.insts }, .fCas .errDup) := by
  rw [stepOp_iReg, hh, hnm]; dsimp only; rw [if_neg nofun, if_pos hdup]

theorem stepOp_iReg_ok {s : Impl} {h n : Nat} {nm : List (Nat × Nat)} (p : Pre) (hh : s.has h = false)
    (hnm : s.names = some nm) (hfree : (n != 0 && (nameLookup n nm).isSome) = false) :
    stepOp Cfg.repaired s (.instantiate h n p) .iReg =
      (⟨{ freshI h n with notifier := true } :: s.insts, h :: s.list,
        some (if n != 0 then (n, h) :: nm else nm), s.rtClosed⟩, .done .ok) := by
  rw [stepOp_iReg, hh, hnm]; dsimp only; rw [if_neg nofun, if_neg (Bool.not_eq_true _ ▸ hfree)]; rfl

theorem stepOp_fCas (cfg : Cfg) (s : Impl) (h n : Nat) (p : Pre) (e : Res) :
    stepOp cfg s (.instantiate h n p) (.fCas e) =
      ({ s with insts := updInst h (fun i => { i with closed := some 0 }) s.insts }, .fDel e) := rfl
theorem stepOp_fDel (cfg : Cfg) (s : Impl) (h n : Nat) (p : Pre) (e : Res) :
    stepOp cfg s (.instantiate h n p) (.fDel e) = (deleteModule cfg s h, .fRes e) := rfl
theorem stepOp_fRes (cfg : Cfg) (s : Impl) (h n : Nat) (p : Pre) (e : Res) :
    stepOp cfg s (.instantiate h n p) (.fRes e) = ({ s with insts := updInst h ensureRes s.insts }, .done e) := rfl

theorem stepOp_mCas_none {s : Impl} {h : Nat} (cfg : Cfg) (c : Nat) (hget : s.get h = none) :
    stepOp cfg s (.closeModule h c) .mCas = (s, .done .bad) := by
  rw [stepOp_mCas, hget]

theorem stepOp_mCas_closed {s : Impl} {h : Nat} {i : Inst} (cfg : Cfg) (c : Nat) (hget : s.get h = some i)
    (hcl : i.closed.isSome = true) : stepOp cfg s (.closeModule h c) .mCas = (s, .done .ok) := by
  rw [stepOp_mCas, hget]; exact if_pos hcl

/-- The winner of the CAS on `Closed`, repaired variant: the instance is closed and unregistered in one action. -/
theorem stepOp_mCas_open {s : Impl} {h : Nat} {i : Inst} (c : Nat) (hget : s.get h = some i) (hcl : i.closed = none) :
    stepOp Cfg.repaired s (.closeModule h c) .mCas =
      (⟨updInst h (fun i => { i with closed := some c }) s.insts, s.list.filter (· != h), closeNames s.names h i.name,
        s.rtClosed⟩, .mRes) := by
  have hget' : Impl.get { s with insts := updInst h (fun i => { i with closed := some c }) s.insts } h
      = some { i with closed := some c } := by
    have := find_updInst h (fun i => { i with closed := some c }) (fun _ => rfl) s.insts
    rwa [show s.insts.find? _ = some i from hget] at this
  rw [stepOp_mCas, hget]; dsimp only
  rw [hcl, if_neg nofun]
  show (deleteModule Cfg.repaired _ h, Pc.mRes) = _
  rw [deleteModule_repaired hget']

theorem stepOp_mRes (cfg : Cfg) (s : Impl) (h c : Nat) :
    stepOp cfg s (.closeModule h c) .mRes = ({ s with insts := updInst h ensureRes s.insts }, .done .ok) := rfl

theorem stepOp_rCas (cfg : Cfg) (s : Impl) (c : Nat) :
    stepOp cfg s (.closeRuntime c) .rCas =
      if s.rtClosed.isSome then (s, .done .ok) else
      if cfg.atomicRtClose then (storeClose { s with rtClosed := some c } c, .done .ok)
      else ({ s with rtClosed := some c }, .rStore) := rfl

theorem stepOp_look (cfg : Cfg) (s : Impl) (n : Nat) :
    stepOp cfg s (.lookup n) .look =
      if n == 0 then (s, .done .notFound) else
      match s.names with
      | none => (s, .done .notFound)
      | some nm =>
        match nameLookup n nm with
        | some h => (s, .done (.found h))
        | none => (s, .done .notFound) := rfl

theorem stepOp_isCl (cfg : Cfg) (s : Impl) (h : Nat) :
    stepOp cfg s (.isClosed h) .isCl =
      match s.get h with
      | none => (s, .done .bad)
      | some i => (s, .done (.closedIs i.closed.isSome)) := rfl

theorem runOpFuel_done (cfg : Cfg) (op : Op) (n : Nat) (s : Impl) (r : Res) :
    runOpFuel cfg op (n + 1) s (.done r) = (s, r) := rfl

theorem runOpFuel_step (cfg : Cfg) (op : Op) (n : Nat) (s : Impl) {pc : Pc} (hnd : ∀ r, pc ≠ .done r) :
    runOpFuel cfg op (n + 1) s pc = runOpFuel cfg op n (stepOp cfg s op pc).1 (stepOp cfg s op pc).2 := by
  cases pc <;> first | rfl | exact absurd rfl (hnd _)

theorem runOpFuel_read {s : Impl} (hrt : s.names = none ↔ s.rtClosed.isSome = true) {op : Op} {pc nxt : Pc}
    (h : nextRead op pc = some nxt) (n : Nat) :
    runOpFuel Cfg.repaired op (n + 2) s pc =
      if s.rtClosed.isSome then (s, .errClosed) else runOpFuel Cfg.repaired op (n + 1) s nxt := by
  rw [runOpFuel_step _ _ _ _ (fun r e => by rw [e] at h; cases h), stepOp_read hrt op h]
  cases s.rtClosed.isSome <;> rfl

theorem runOp_one {cfg : Cfg} {s s1 : Impl} {op : Op} {r : Res} (hnd : ∀ r, startPc cfg op ≠ .done r)
    (h : stepOp cfg s op (startPc cfg op) = (s1, .done r)) : s.runOp cfg op = (s1, r) := by
  rw [Impl.runOp, runOpFuel_step _ _ _ _ hnd, h]; rfl

/-- On an open runtime an instantiate request arrives at `registerModule` with the state unchanged; `k + 5` leaves fuel for
the at most five actions from there on. -/
theorem runOp_instantiate_reads {s : Impl} {nm : List (Nat × Nat)} (hrt : s.rtClosed = none) (hnm : s.names = some nm)
    (h n : Nat) (p : Pre) :
    ∃ k, s.runOp Cfg.repaired (.instantiate h n p) = runOpFuel Cfg.repaired (.instantiate h n p) (k + 5) s .iReg := by
  have hiff : s.names = none ↔ s.rtClosed.isSome = true := by rw [hrt, hnm]; exact ⟨nofun, nofun⟩
  have hread : ∀ {pc nxt : Pc}, nextRead (.instantiate h n p) pc = some nxt → ∀ k,
      runOpFuel Cfg.repaired (.instantiate h n p) (k + 2) s pc = runOpFuel Cfg.repaired (.instantiate h n p) (k + 1) s nxt :=
    fun e k => by rw [runOpFuel_read hiff e, hrt]; rfl
  cases p
  · exact ⟨4, hread (pc := .iFail) rfl 8⟩
  · exact ⟨2, (hread (pc := .cFail) rfl 8).trans ((hread (pc := .cTypes) rfl 7).trans (hread (pc := .iFail) rfl 6))⟩
  · exact ⟨2, (hread (pc := .hFail true) rfl 8).trans ((hread (pc := .hTypes) rfl 7).trans (hread (pc := .iFail) rfl 6))⟩


/-- After the winning CAS of `closeModule` what is left is `ensureResourcesClosed`. -/
theorem runOp_close {cfg : Cfg} {s s1 : Impl} {h c : Nat} (hst : stepOp cfg s (.closeModule h c) .mCas = (s1, .mRes)) :
    s.runOp cfg (.closeModule h c) = ({ s1 with insts := updInst h ensureRes s1.insts }, .ok) := by
  show runOpFuel _ _ 10 s .mCas = _
  rw [runOpFuel_step (pc := .mCas) _ _ _ _ nofun, hst]
  rfl

theorem runOp_inst_closed (s : Impl) (h n c : Nat) (p : Pre) (hrt : s.rtClosed = some c) :
    s.runOp Cfg.repaired (.instantiate h n p) = (s, .errClosed) := by
  cases p
  · exact runOp_one nofun (show stepOp _ s _ .iFail = _ by rw [stepOp_iFail, hrt]; rfl)
  · exact runOp_one nofun (show stepOp _ s _ .cFail = _ by rw [stepOp_cFail, hrt]; rfl)
  · exact runOp_one nofun (show stepOp _ s _ (.hFail true) = _ by rw [stepOp_hFail, hrt]; rfl)

theorem runOp_inst_has (s : Impl) (h n : Nat) (p : Pre) (nm : List (Nat × Nat)) (hrt : s.rtClosed = none)
    (hnm : s.names = some nm) (hh : s.has h = true) :
    s.runOp Cfg.repaired (.instantiate h n p) = (s, .bad) := by
  obtain ⟨k, hrun⟩ := runOp_instantiate_reads hrt hnm h n p
  rw [hrun, runOpFuel_step (pc := .iReg) _ _ _ _ nofun, stepOp_iReg_has _ n p hh]; rfl

theorem runOp_inst_ok (s : Impl) (h n : Nat) (p : Pre) (nm : List (Nat × Nat)) (hrt : s.rtClosed = none)
    (hnm : s.names = some nm) (hh : s.has h = false) (hfree : (n != 0 && (nameLookup n nm).isSome) = false) :
    s.runOp Cfg.repaired (.instantiate h n p) =
      (⟨{ freshI h n with notifier := true } :: s.insts, h :: s.list,
        some (if n != 0 then (n, h) :: nm else nm), s.rtClosed⟩, .ok) := by
  obtain ⟨k, hrun⟩ := runOp_instantiate_reads hrt hnm h n p
  rw [hrun, runOpFuel_step (pc := .iReg) _ _ _ _ nofun, stepOp_iReg_ok p hh hnm hfree]; rfl

theorem runOp_inst_dup (s : Impl) (h n : Nat) (p : Pre) (nm : List (Nat × Nat)) (hrt : s.rtClosed = none)
    (hnm : s.names = some nm) (hh : s.has h = false) (hdup : (n != 0 && (nameLookup n nm).isSome) = true)
    (hother : nameLookup n nm ≠ some h) :
    s.runOp Cfg.repaired (.instantiate h n p) =
      (⟨ensureRes { freshI h n with closed := some 0 } :: s.insts, s.list.filter (· != h),
        some nm, s.rtClosed⟩, .errDup) := by
  obtain ⟨k, hrun⟩ := runOp_instantiate_reads hrt hnm h n p
  have hu : ∀ f, updInst h f s.insts = s.insts := fun f => updInst_not_mem h f s.insts ((has_false_iff s h).mp hh)
  have hn0 : (n == 0) = false := Bool.eq_false_iff.mpr fun e0 => by rw [beq_iff_eq.mp e0] at hdup; cases hdup
  rw [hrun, runOpFuel_step (pc := .iReg) _ _ _ _ nofun, stepOp_iReg_dup _ p hh hnm hdup]
  -- `fCas`, `fDel`, `fRes` by computation. The one step with content is `deleteModule`: with `fixF8` it erases the name
  -- only if the entry is `h`, and the entry is the owner's (`hother`); as on the pinned tree it erases it (F8).
  simp only [runOpFuel, stepOp_fCas, stepOp_fDel, stepOp_fRes, updInst, beq_self_eq_true, if_true, hu,
    deleteModule, Impl.get, List.find?_cons, freshI, hn0, Bool.false_eq_true, if_false, hnm, Cfg.repaired,
    beq_eq_false_iff_ne.mpr hother]

theorem getElem?_updThread_self (t : Nat) (f : Thread → Thread) (l : List Thread) (th : Thread)
    (h : l[t]? = some th) : (updThread t f l)[t]? = some (f th) := by
  induction l generalizing t with
  | nil => cases h
  | cons a l ih =>
    cases t with
    | zero => cases h; rfl
    | succ t => exact ih t h

theorem getElem?_updThread_ne (t u : Nat) (f : Thread → Thread) (l : List Thread) (hne : u ≠ t) :
    (updThread t f l)[u]? = l[u]? := by
  induction l generalizing t u with
  | nil => rw [updThread]
  | cons a l ih =>
    cases t with
    | zero =>
      cases u with
      | zero => exact absurd rfl hne
      | succ u => rfl
    | succ t =>
      cases u with
      | zero => rfl
      | succ u => exact ih t u (fun e => hne (congrArg _ e))

theorem updThread_same (t : Nat) (l : List Thread) (th : Thread) (h : l[t]? = some th) :
    updThread t (fun _ => th) l = l := by
  induction l generalizing t with
  | nil => rw [updThread]
  | cons a l ih =>
    cases t with
    | zero => cases h; rfl
    | succ t => exact congrArg _ (ih t h)

theorem conc_step_some (cfg : Cfg) (c : Conc) (t : Nat) (th : Thread) (h : c.threads[t]? = some th) :
    c.step cfg t = { shared := (stepThread cfg c.shared th).1,
                     threads := updThread t (fun _ => (stepThread cfg c.shared th).2) c.threads } := by
  rw [Conc.step, h]

theorem conc_step_none (cfg : Cfg) (c : Conc) (t : Nat) (h : c.threads[t]? = none) : c.step cfg t = c := by
  rw [Conc.step, h]

theorem stepThread_idle (cfg : Cfg) (s : Impl) (th : Thread) (h1 : th.cur = none) (h2 : th.todo = []) :
    stepThread cfg s th = (s, th) := by
  rw [stepThread, h1, h2]

theorem stepThread_invoke (cfg : Cfg) (s : Impl) (th : Thread) (op : Op) (rest : List Op) (h1 : th.cur = none)
    (h2 : th.todo = op :: rest) :
    stepThread cfg s th = (s, { th with cur := some (op, startPc cfg op), todo := rest }) := by
  rw [stepThread, h1, h2]

theorem stepThread_ret (cfg : Cfg) (s : Impl) (th : Thread) (op : Op) (r : Res) (h1 : th.cur = some (op, .done r)) :
    stepThread cfg s th = (s, { th with cur := none, results := th.results ++ [(op, r)] }) := by
  rw [stepThread, h1]

theorem stepThread_act (cfg : Cfg) (s : Impl) (th : Thread) (op : Op) (pc : Pc) (h1 : th.cur = some (op, pc))
    (hnd : ∀ r, pc ≠ .done r) :
    stepThread cfg s th = ((stepOp cfg s op pc).1, { th with cur := some (op, (stepOp cfg s op pc).2) }) := by
  rw [stepThread, h1]
  cases pc <;> first | rfl | exact absurd rfl (hnd _)

end Wz.C10

namespace Wz.C10.Refine
open Wz.Model.Registry

def AllInst (P : Inst → Prop) (s : Impl) : Prop := ∀ i ∈ s.insts, P i

structure Stable (P : Inst → Prop) : Prop where
  fresh : ∀ h n b, P { freshI h n with notifier := b }
  setClosed : ∀ i c, P i → P { i with closed := some c }
  ens : ∀ i, P i → P (ensureRes i)

theorem all_updInst {P : Inst → Prop} (h : Nat) (f : Inst → Inst) (hf : ∀ i, P i → P (f i)) (l : List Inst)
    (hl : ∀ i ∈ l, P i) : ∀ i ∈ updInst h f l, P i := by
  rw [updInst_eq_map, List.forall_mem_map]
  intro j hj
  split
  · exact hf j (hl j hj)
  · exact hl j hj

theorem all_closeListed {P : Inst → Prop} (hP : Stable P) (code : Nat) (list : List Nat) (l : List Inst)
    (hl : ∀ i ∈ l, P i) : ∀ i ∈ closeListed code list l, P i := by
  rw [closeListed_eq_map, List.forall_mem_map]
  intro j hj
  split
  · unfold closeFromStore
    split
    · exact hl j hj
    · exact hP.ens _ (hP.setClosed j code (hl j hj))
  · exact hl j hj

theorem deleteModule_insts (cfg : Cfg) (s : Impl) (h : Nat) : (deleteModule cfg s h).insts = s.insts := by
  unfold deleteModule; split <;> rfl

theorem step_all {P : Inst → Prop} (hP : Stable P) (cfg : Cfg) (s : Impl) (op : Op) (pc : Pc)
    (hnote : pc ≠ .iNote ∨ ∀ i, P i → P { i with notifier := true }) (hs : AllInst P s) :
    AllInst P (stepOp cfg s op pc).1 := by
  have hcons : ∀ {i : Inst}, P i → ∀ j ∈ i :: s.insts, P j := fun hi j hj =>
    (List.mem_cons.mp hj).elim (fun e => e ▸ hi) (hs j)
  have hclose : ∀ h c, ∀ j ∈ updInst h (fun i => { i with closed := some c }) s.insts, P j :=
    fun h c => all_updInst _ _ (fun i hi => hP.setClosed i c hi) _ hs
  have hdel : ∀ (s' : Impl) h, (∀ j ∈ s'.insts, P j) → AllInst P (deleteModule cfg s' h) := fun s' h hs' => by
    unfold AllInst; rw [deleteModule_insts]; exact hs'
  -- by the arms of `stepOp`, numbered as they stand in its definition, every test inside an arm counted
  fun_cases stepOp cfg s op pc
  -- `iReg`: refused by the closed store, the name taken; registered
  case case11 | case12 => exact hcons (hP.fresh _ _ _)
  case case13 => exact hcons (show P (ite _ _ _) by split <;> exact hP.fresh _ _ _)
  -- `fCas`
  case case14 => exact hclose _ 0
  -- `fDel`, `mDel`
  case case15 | case22 => exact hdel s _ hs
  -- `fRes`, `mRes`
  case case16 | case23 => exact all_updInst _ _ hP.ens _ hs
  -- `iNote`
  case case17 => exact all_updInst _ _ (hnote.resolve_left (fun hn => hn rfl)) _ hs
  -- `mCas` won: with `deleteModule` in the same action, without
  case case20 => exact hdel _ _ (hclose _ _)
  case case21 => exact hclose _ _
  -- `rCas` won with `Store.CloseWithExitCode` in the same action; `rStore`
  case case25 | case27 => exact all_closeListed hP _ _ _ hs
  -- the other arms leave the records alone
  all_goals exact hs

theorem stepThread_all {P : Inst → Prop} (hP : Stable P) (hn : ∀ i, P i → P { i with notifier := true })
    (cfg : Cfg) (s : Impl) (th : Thread) (hs : AllInst P s) : AllInst P (stepThread cfg s th).1 := by
  unfold stepThread
  split
  · split <;> exact hs
  · exact hs
  · exact step_all hP cfg _ _ _ (Or.inr hn) hs

theorem conc_step_all {P : Inst → Prop} (hP : Stable P) (hn : ∀ i, P i → P { i with notifier := true })
    (cfg : Cfg) (c : Conc) (t : Nat) (hs : AllInst P c.shared) : AllInst P (c.step cfg t).shared := by
  unfold Conc.step
  split
  · exact hs
  · exact stepThread_all hP hn cfg _ _ hs

theorem exec_all {P : Inst → Prop} (hP : Stable P) (hn : ∀ i, P i → P { i with notifier := true })
    (cfg : Cfg) (sched : List Nat) (c : Conc) (hs : AllInst P c.shared) : AllInst P (c.exec cfg sched).shared := by
  induction sched generalizing c with
  | nil => exact hs
  | cons t sched ih => exact ih _ (conc_step_all hP hn cfg c t hs)

def ResOnce (i : Inst) : Prop := i.fsCloses ≤ 1 ∧ (i.sys = true → i.fsCloses = 0)

theorem resOnce_stable : Stable ResOnce := by
  refine ⟨fun _ _ _ => ⟨Nat.zero_le 1, fun _ => rfl⟩, fun i c h => h, ?_⟩
  intro i h
  unfold ensureRes
  obtain ⟨h1, h2⟩ := h
  cases hn : i.notifier <;> cases hsys : i.sys <;> simp [ResOnce, hsys] <;> simp_all

def NoteOnce (i : Inst) : Prop := i.notified.length + (if i.notifier then 1 else 0) ≤ 1

theorem noteOnce_stable : Stable NoteOnce := by
  refine ⟨fun _ _ b => by cases b <;> simp [NoteOnce, freshI], fun i c h => h, ?_⟩
  intro i h
  unfold ensureRes
  unfold NoteOnce at *
  cases hn : i.notifier <;> cases hsys : i.sys <;> simp_all

end Wz.C10.Refine
