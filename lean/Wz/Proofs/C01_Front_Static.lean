/-
C01 (front end): what the translation of one instruction guarantees statically.  `SInv` keeps the list `D` of the values
declared so far with their types: their ids are `0, 1, …, next - 1` in order, and the translator's stack and locals hold
declared values only.  `static_step`: a well-typed instruction emits instructions whose operands are declared (`Scoped`,
the hypothesis of `wellFormed_sb` in `C01_Front_WF`), and declares exactly the next ids.
-/
import Wz.Proofs.C01_Front_WF
import Wz.Proofs.C01_Front_Typing

namespace Wz.Proofs.Front
open Wz.Model.SsaPass Wz.Model.FrontendSL

structure SInv (lt : List Ty) (D : List (Val × Ty)) (s : LS) (tys : List Ty) : Prop where
  dom : D.map (·.1) = List.range s.next
  stk : ∀ p ∈ s.stack, p ∈ D
  loc : ∀ p ∈ s.locals, p ∈ D
  stkTy : s.stack.map (·.2) = tys
  locTy : s.locals.map (·.2) = lt

variable {lt : List Ty} {D : List (Val × Ty)} {s : LS} {tys tys' : List Ty}

theorem SInv.lt_next (h : SInv lt D s tys) {p : Val × Ty} (hp : p ∈ D) : p.1 < s.next := by
  have : p.1 ∈ D.map (·.1) := List.mem_map.mpr ⟨p, hp, rfl⟩
  rw [h.dom] at this
  exact List.mem_range.mp this

theorem SInv.uncons {t : Ty} (h : SInv lt D s (t :: tys)) :
    ∃ v srest, s.stack = (v, t) :: srest ∧ (v, t) ∈ D ∧ SInv lt D { s with stack := srest } tys := by
  obtain ⟨v, srest, hs, hty⟩ := stack_uncons h.stkTy
  have hstk := h.stk
  rw [hs] at hstk
  exact ⟨v, srest, hs, hstk _ (List.mem_cons_self ..),
    h.dom, fun p hp => hstk p (List.mem_cons_of_mem _ hp), h.loc, hty, h.locTy⟩

theorem SInv.pop {t : Ty} (h : SInv lt D s (t :: tys)) :
    ∃ v s', s = s'.push (v, t) ∧ (v, t) ∈ D ∧ SInv lt D s' tys := by
  obtain ⟨v, srest, hs, rest⟩ := h.uncons
  obtain ⟨next, _, locs⟩ := s
  cases hs
  exact ⟨v, ⟨next, srest, locs⟩, rfl, rest⟩

theorem SInv.fresh (h : SInv lt D s tys) (t : Ty) :
    SInv lt (D ++ [(s.next, t)]) { s with next := s.next + 1 } tys where
  dom := by rw [List.map_append, h.dom, List.range_succ]; rfl
  stk p hp := List.mem_append_left _ (h.stk p hp)
  loc p hp := List.mem_append_left _ (h.loc p hp)
  stkTy := h.stkTy
  locTy := h.locTy

theorem SInv.pushNew (h : SInv lt D s tys) (t : Ty) :
    SInv lt (D ++ [(s.next, t)]) { s with next := s.next + 1, stack := (s.next, t) :: s.stack } (t :: tys) :=
  { h.fresh t with
    stk := List.forall_mem_cons.mpr ⟨List.mem_append_right _ (List.mem_singleton.mpr rfl), (h.fresh t).stk⟩
    stkTy := congrArg _ h.stkTy }

theorem SInv.setLocal (h : SInv lt D s tys) {i : Nat} {p : TV} (hi : lt[i]? = some p.2) (hp : p ∈ D) :
    SInv lt D { s with locals := s.locals.set i p } tys :=
  { h with
    loc := fun q hq => (List.mem_or_eq_of_mem_set hq).elim (h.loc q) (· ▸ hp)
    locTy := locals_set h.locTy hi }

theorem SInv.local (h : SInv lt D s tys) {i : Nat} {t : Ty} (hi : lt[i]? = some t) :
    ∃ v, s.locals[i]? = some (v, t) ∧ (v, t) ∈ D := by
  obtain ⟨v, hp⟩ := locals_get h.locTy hi
  exact ⟨v, hp, h.loc _ (List.mem_of_getElem? hp)⟩

def StaticOK (lt : List Ty) (D : List (Val × Ty)) (i : SI) (s : LS) (tys' : List Ty) : Prop :=
  Scoped D (lowerI i s).1 ∧ SInv lt (D ++ (lowerI i s).1.flatMap (·.typedResults)) (lowerI i s).2 tys'

theorem StaticOK.silent {i : SI} (hlow : (lowerI i s).1 = []) (h : SInv lt D (lowerI i s).2 tys') :
    StaticOK lt D i s tys' := by
  refine ⟨?_, ?_⟩ <;> rw [hlow]
  · trivial
  · rwa [List.flatMap_nil, List.append_nil]

theorem StaticOK.emit {i : SI} {s0 : LS} {j : Instr} {t : Ty} {tys0 : List Ty}
    (hlow : lowerI i s = ([j], s0.pushNew t)) (hres : j.typedResults = [(s0.next, t)])
    (hops : ∀ o ∈ j.operands, o ∈ D.map (·.1)) (hshift : ShiftTyped D j) (h0 : SInv lt D s0 tys0) : StaticOK lt D i s (t :: tys0) := by
  refine ⟨?_, ?_⟩ <;> rw [hlow]
  · exact ⟨hops, hshift, trivial⟩
  · rw [List.flatMap_singleton, hres]; exact h0.pushNew t

theorem static_localGet {i : Nat} {t : Ty} (hi : lt[i]? = some t) (h : SInv lt D s tys) :
    StaticOK lt D (.localGet i) s (t :: tys) := by
  obtain ⟨v, hp, hpD⟩ := h.local hi
  refine .silent rfl ?_
  rw [show (lowerI (.localGet i) s).2 = s.push (v, t) by simp only [lowerI, List.getD, hp, Option.getD_some]]
  exact { h with stk := List.forall_mem_cons.mpr ⟨hpD, h.stk⟩, stkTy := congrArg _ h.stkTy }

theorem static_localSet {i : Nat} {a : Ty} (hi : lt[i]? = some a) (h : SInv lt D s (a :: tys)) :
    StaticOK lt D (.localSet i) s tys := by
  obtain ⟨v, s0, rfl, hvD, h0⟩ := h.pop
  exact .silent rfl (h0.setLocal (p := (v, a)) hi hvD)

theorem static_localTee {i : Nat} {a : Ty} (hi : lt[i]? = some a) (h : SInv lt D s (a :: tys)) :
    StaticOK lt D (.localTee i) s (a :: tys) := by
  obtain ⟨v, s0, rfl, hvD, -⟩ := h.pop
  exact .silent rfl (h.setLocal (p := (v, a)) hi hvD)

theorem static_drop {a : Ty} (h : SInv lt D s (a :: tys)) : StaticOK lt D .drop s tys := by
  obtain ⟨v, s0, rfl, -, h0⟩ := h.pop
  exact .silent rfl h0

theorem static_select {a : Ty} (h : SInv lt D s (.i32 :: a :: a :: tys)) : StaticOK lt D .select s (a :: tys) := by
  obtain ⟨vc, _, rfl, hcD, h1⟩ := h.pop
  obtain ⟨v2, _, rfl, h2D, h2⟩ := h1.pop
  obtain ⟨v1, s0, rfl, h1D, h0⟩ := h2.pop
  exact .emit (s0 := s0) (j := .select s0.next a vc v1 v2) rfl rfl
    (List.forall_mem_cons.mpr ⟨List.mem_map_of_mem hcD, List.forall_mem_cons.mpr ⟨List.mem_map_of_mem h1D,
      List.forall_mem_singleton.mpr (List.mem_map_of_mem h2D)⟩⟩) trivial h0

theorem static_bin (t : Ty) (op : IBin) (h : SInv lt D s (t :: t :: tys)) :
    StaticOK lt D (.bin t op) s (t :: tys) := by
  obtain ⟨vy, _, rfl, hyD, h1⟩ := h.pop
  obtain ⟨vx, s0, rfl, hxD, h0⟩ := h1.pop
  exact .emit (s0 := s0) (j := .bin op.toSsa s0.next t vx vy) rfl rfl
    (List.forall_mem_cons.mpr ⟨List.mem_map_of_mem hxD, List.forall_mem_singleton.mpr (List.mem_map_of_mem hyD)⟩)
    (fun _ => hxD) h0

theorem static_rel (t : Ty) (op : IRel) (h : SInv lt D s (t :: t :: tys)) :
    StaticOK lt D (.rel t op) s (.i32 :: tys) := by
  obtain ⟨vy, _, rfl, hyD, h1⟩ := h.pop
  obtain ⟨vx, s0, rfl, hxD, h0⟩ := h1.pop
  exact .emit (s0 := s0) (j := .icmp s0.next t op.toSsa vx vy) rfl rfl
    (List.forall_mem_cons.mpr ⟨List.mem_map_of_mem hxD, List.forall_mem_singleton.mpr (List.mem_map_of_mem hyD)⟩)
    trivial h0

/-- the execution context, a further operand of the divisions, is value 0: a block parameter -/
theorem static_div (t : Ty) (op : IDiv) (h : SInv lt D s (t :: t :: tys)) :
    StaticOK lt D (.div t op) s (t :: tys) := by
  obtain ⟨vy, _, rfl, hyD, h1⟩ := h.pop
  obtain ⟨vx, s0, rfl, hxD, h0⟩ := h1.pop
  have hctx : execCtx ∈ D.map (·.1) := by
    rw [h0.dom]; exact List.mem_range.mpr (Nat.lt_of_le_of_lt (Nat.zero_le _) (h0.lt_next hxD))
  exact .emit (s0 := s0) (j := .div op.toSsa s0.next t vx vy execCtx) rfl rfl
    (List.forall_mem_cons.mpr ⟨List.mem_map_of_mem hxD, List.forall_mem_cons.mpr ⟨List.mem_map_of_mem hyD,
      List.forall_mem_singleton.mpr hctx⟩⟩) trivial h0

theorem static_un1 {i : SI} (uop : UnOp) (a rt : Ty)
    (hL : ∀ (s0 : LS) (vx : Val), lowerI i (s0.push (vx, a)) = ([.un uop s0.next rt vx], s0.pushNew rt))
    (h : SInv lt D s (a :: tys)) : StaticOK lt D i s (rt :: tys) := by
  obtain ⟨vx, s0, rfl, hxD, h0⟩ := h.pop
  exact .emit (s0 := s0) (hL ..) rfl (List.forall_mem_singleton.mpr (List.mem_map_of_mem hxD)) trivial h0

theorem static_eqz (t : Ty) (h : SInv lt D s (t :: tys)) : StaticOK lt D (.eqz t) s (.i32 :: tys) := by
  obtain ⟨vx, s0, rfl, hxD, h0⟩ := h.pop
  have h2 := (h0.fresh t).pushNew .i32
  refine ⟨⟨nofun, trivial, ?_, trivial, trivial⟩, ?_⟩
  · exact List.forall_mem_cons.mpr ⟨List.mem_map_of_mem (List.mem_append_left _ hxD),
      List.forall_mem_singleton.mpr (List.mem_map_of_mem (List.mem_append_right _ (List.mem_singleton.mpr rfl)))⟩
  · rw [List.append_assoc] at h2; exact h2

theorem static_step (i : SI) (h : SInv lt D s tys) (htc : tcStep lt i tys = some tys') :
    StaticOK lt D i s tys' := by
  cases StepTy.of_tcStep htc with
  | const t v => exact .emit (j := .iconst s.next t (v % 2 ^ t.bits)) rfl rfl nofun trivial h
  | localGet hi => exact static_localGet hi h
  | localSet hi => exact static_localSet hi h
  | localTee hi => exact static_localTee hi h
  | drop => exact static_drop h
  | select => exact static_select h
  | bin t op => exact static_bin t op h
  | rel t op => exact static_rel t op h
  | eqz t => exact static_eqz t h
  | cnt t op => exact static_un1 op.toSsa t t (fun _ _ => rfl) h
  | wrap => exact static_un1 .ireduce .i64 .i32 (fun _ _ => rfl) h
  | extendS => exact static_un1 .sextend .i32 .i64 (fun _ _ => rfl) h
  | extendU => exact static_un1 .uextend .i32 .i64 (fun _ _ => rfl) h
  | extend32S => exact static_un1 .sextend .i64 .i64 (fun _ _ => rfl) h
  | div t op => exact static_div t op h

end Wz.Proofs.Front
