/-
C20 helper lemmas: a listener subset sees the projection of the all-listeners stream, and the failure a run ends in
does not depend on the listeners.
-/
import Wz.Proofs.C20_Run

namespace Wz.C20
open Wz.Model.Listener

def project (S : Nat → Bool) (r : List Event × Option Fail) : List Event × Option Fail :=
  (r.1.filter (fun e => S e.fn), r.2)

theorem aborts_project (E : Engine) (host S : Nat → Bool) (fl : Fail) :
    aborts E ⟨host, S⟩ fl = (aborts E ⟨host, fun _ => true⟩ fl).filter (fun e => S e.fn) := by
  unfold aborts
  split
  · simp only [List.filter_map, List.filter_filter, Function.comp_def, Event.fn, Bool.and_true]
  · rfl

theorem told_project (host S : Nat → Bool) (f : Nat) (c : Bool) (e : Event) (he : e.fn = f) :
    told ⟨host, S⟩ f c e = (told ⟨host, fun _ => true⟩ f c e).filter (fun e => S e.fn) := by
  subst he
  cases h : S e.fn <;> cases c <;> simp [told, h]

theorem node_project (S : Nat → Bool) {host : Bool} {frames : List Nat} {b b' : List Event}
    {a a' : List Nat → List Event} {out : Outcome} {rb : List Event × Option Fail}
    (hb : b' = b.filter (fun e => S e.fn)) (ha : ∀ vals, a' vals = (a vals).filter (fun e => S e.fn)) :
    node host frames b' a' out (project S rb) = project S (node host frames b a out rb) := by
  subst hb
  rcases rb with ⟨evs, _ | fl⟩ <;> cases out <;> simp only [node, project, List.filter_append, ha]

theorem thenNext_project (E : Engine) (host S : Nat → Bool) (api : Bool) (nd rest : List Event × Option Fail) :
    thenNext E ⟨host, S⟩ api (project S nd) (project S rest) =
      project S (thenNext E ⟨host, fun _ => true⟩ api nd rest) := by
  rcases nd with ⟨evs, _ | fl⟩ <;> cases api <;>
    simp only [thenNext, project, List.filter_append, aborts_project E host S, if_true, Bool.false_eq_true, if_false]

/-- `inPlace`, the frames and the failures of `run` do not mention the listeners: both runs take the same branch at
every call, and each piece of the stream is filtered separately. -/
theorem run_project (E : Engine) (host S : Nat → Bool) (fr : Forest) :
    ∀ api st, run E ⟨host, S⟩ api st fr = project S (run E ⟨host, fun _ => true⟩ api st fr) := by
  induction fr with
  | done => intro api st; rfl
  | call tail f args body out next ihb ihn =>
    intro api st
    cases h : inPlace E ⟨host, S⟩ api tail f with
    | true =>
      rw [run_call_inPlace rfl h, run_call_inPlace rfl (C := ⟨host, fun _ => true⟩) h, ihb, ihn,
        node_project S List.filter_nil.symm (fun _ => List.filter_nil.symm), thenNext_project]
    | false =>
      by_cases hov : out = .fail .overflow
      · subst hov
        rw [run_call_overflow rfl h rfl, run_call_overflow rfl (C := ⟨host, fun _ => true⟩) h rfl, ihn,
          told_project host S f _ (.before f args _) rfl]
        exact thenNext_project E host S api (_, _) _
      · rw [run_call_ordinary rfl h hov rfl, run_call_ordinary rfl (C := ⟨host, fun _ => true⟩) h hov rfl, ihb, ihn,
          node_project S (told_project host S f _ (.before f args _) rfl)
            (fun vals => told_project host S f _ (.after f vals) rfl),
          thenNext_project]

end Wz.C20
