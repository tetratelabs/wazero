import Wz.Proofs.C01_SsaPass_Basic

/-! Environments within their declared types (`Typed`): kept by `bindVals` and hence by one instruction (`exec_typed`);
a shift by a multiple of the width. -/
namespace Wz.Model.SsaPass

def Typed (cty : Val → Ty) (env : Val → Nat) : Prop := ∀ v, env v < 2 ^ (cty v).bits

theorem typed_upd {cty : Val → Ty} {env : Val → Nat} (h : Typed cty env) (r : Val) (x : Nat)
    (hx : x < 2 ^ (cty r).bits) : Typed cty (upd env r x) := by
  intro v; unfold upd; split
  · rename_i hv; subst hv; exact hx
  · exact h v

theorem typed_bindVals {cty : Val → Ty} (rs : List (Val × Ty)) (vs : List Nat) {env : Val → Nat}
    (h : Typed cty env) (hty : ∀ p ∈ rs, cty p.1 = p.2) : Typed cty (bindVals env rs vs) := by
  induction rs generalizing env vs with
  | nil => exact h
  | cons p rs ih =>
    obtain ⟨r, ty⟩ := p
    simp only [bindVals]
    have hr : cty r = ty := hty (r, ty) (List.mem_cons_self ..)
    exact ih _ (typed_upd h _ _ (hr ▸ norm_lt _ _)) (fun q hq => hty q (List.mem_cons_of_mem _ hq))

theorem amount_zero (cty ty : Ty) (k : Nat) (h : k % 2 ^ 64 % ty.bits = 0) : norm cty k % ty.bits = 0 := by
  have h64 : ty.bits ∣ 2 ^ 64 := by cases ty <;> decide
  have hc : ty.bits ∣ 2 ^ cty.bits := by cases ty <;> cases cty <;> decide
  rw [Nat.mod_mod_of_dvd _ h64] at h
  unfold norm
  rw [Nat.mod_mod_of_dvd _ hc]
  exact h

theorem evalBin_shift_zero {op : BinOp} (hs : isShift op) (ty : Ty) {a s : Nat} (ha : a < 2 ^ ty.bits)
    (hs0 : s % ty.bits = 0) : evalBin op ty a s = a := by
  have hto : (BitVec.ofNat ty.bits a).toNat = a := by rw [BitVec.toNat_ofNat]; exact Nat.mod_eq_of_lt ha
  rcases hs with h | h | h <;> subst h <;> simp only [evalBin, hs0]
  · rw [BitVec.shiftLeft_zero]; exact hto
  · rw [BitVec.sshiftRight_zero]; exact hto
  · rw [BitVec.ushiftRight_zero]; exact hto

theorem exec_typed (w : World) (ρ : Val → Nat) (i : Instr) (st : St) {cty : Val → Ty}
    (h : Typed cty st.env) (hty : ∀ p ∈ i.typedResults, cty p.1 = p.2) :
    Typed cty (execInstr w ρ i st).st.env := by
  cases execInstr_step w ρ i st with
  | next outs m tr _ hk => rw [hk st.env]; exact typed_bindVals _ _ h hty
  | _ => rename_i hk; rw [hk st.env]; exact h

end Wz.Model.SsaPass
