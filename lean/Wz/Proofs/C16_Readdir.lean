/-
C16 — lemmas about the fd_readdir model (`DirentCache.Read`, `maxDirents`, `writeDirents`) and the client
protocol.
-/
import Wz.Model.Readdir

namespace Wz.Proofs.C16Readdir
open Wz.Model.Readdir Wz.Gen.WasiFs

/-- entries `l` numbered as the guest sees them: the entry at absolute index `start + i` carries
`d_next = start + i + 1` -/
def numbered (l : List Dirent) (start : Nat) : List (Nat × Dirent) :=
  l.zipIdx.map (fun p => (start + 1 + p.2, p.1))

/-- Invariant of a `DirentCache` over its (fixed) listing: the window is a contiguous slice of
`full = dot ++ listing` ending at `countRead`, the underlying stream is positioned right after it. -/
def Inv (c : Cache) : Prop :=
  c.dot.length = 2 ∧
  match c.dirents with
  | none => c.countRead = 0 ∧ c.f.pos = 0
  | some w =>
    2 ≤ c.countRead ∧ c.countRead ≤ c.full.length ∧ w.length ≤ c.countRead ∧
    w = (c.full.take c.countRead).drop (c.countRead - w.length) ∧
    c.f.pos = c.countRead - 2 ∧ (c.eof = true → c.countRead = c.full.length)

/-- cookies a client may present: 0 (rewind), or anything inside the current window (including its end) -/
def Reach (c : Cache) (cookie : Nat) : Prop :=
  cookie = 0 ∨ ∃ w, c.dirents = some w ∧ c.countRead - w.length ≤ cookie ∧ cookie ≤ c.countRead

theorem listing_drop {α} (dot listing : List α) (cr : Nat) (hd : dot.length = 2) (h2 : 2 ≤ cr) :
    listing.drop (cr - 2) = (dot ++ listing).drop cr := by
  rw [List.drop_append, List.drop_of_length_le (by omega : dot.length ≤ cr), hd]; rfl

theorem slice_append {α} (l : List α) (s e m : Nat) (hs : s ≤ e) (he : e ≤ l.length) :
    (l.take e).drop s ++ (l.drop e).take m = (l.take (e + m)).drop s := by
  rw [List.take_add, List.drop_append_of_le_length (by rw [List.length_take]; omega)]

theorem slice_take {α} (l : List α) (p e n : Nat) (he : p + n ≤ e ∨ l.length ≤ e) :
    ((l.take e).drop p).take n = (l.drop p).take n := by
  rcases he with he | he
  · rw [List.drop_take, List.take_take, Nat.min_eq_left (by omega)]
  · rw [List.take_of_length_le he]

/-- `Inv` of a cache whose window is the slice `[s, countRead)` of `full` -/
structure Win (c : Cache) (s : Nat) : Prop where
  dot : c.dot.length = 2
  two_le : 2 ≤ c.countRead
  le_full : c.countRead ≤ c.full.length
  start_le : s ≤ c.countRead
  window : c.dirents = some ((c.full.take c.countRead).drop s)
  stream : c.f.pos = c.countRead - 2
  eof : c.eof = true → c.countRead = c.full.length

theorem Win.length {c : Cache} {s : Nat} (h : Win c s) :
    ((c.full.take c.countRead).drop s).length = c.countRead - s := by
  rw [List.length_drop, List.length_take, Nat.min_eq_left h.le_full]

theorem Win.inv {c : Cache} {s : Nat} (h : Win c s) : Inv c := by
  refine ⟨h.dot, ?_⟩
  rw [h.window]
  have := h.start_le
  refine ⟨h.two_le, h.le_full, by rw [h.length]; omega, ?_, h.stream, h.eof⟩
  rw [h.length]; congr 1; omega

theorem Inv.win {c : Cache} {w : List Dirent} (h : Inv c) (hw : c.dirents = some w) :
    Win c (c.countRead - w.length) := by
  obtain ⟨hd, h⟩ := h
  rw [hw] at h
  obtain ⟨h2, hle, _, hwe, hp, he⟩ := h
  exact ⟨hd, h2, hle, Nat.sub_le _ _, by rw [hw, ← hwe], hp, he⟩

theorem Win.reach {c : Cache} {s : Nat} (h : Win c s) (j : Nat) (h1 : s ≤ j) (h2 : j ≤ c.countRead) : Reach c j :=
  Or.inr ⟨_, h.window, by rw [h.length]; omega, h2⟩

theorem fresh_inv (listing : List Dirent) (dotIno : Nat) : Inv (Cache.fresh listing dotIno) := ⟨rfl, rfl, rfl⟩

/-- the tail both branches of `Cache.read` share: `cnt` more entries are read behind the window of `d` -/
def fill (d : Cache) (cnt : Nat) : Cache :=
  let r := d.f.readdir cnt
  let d2 := { d with f := r.2 }
  if r.1.length > 0
  then { d2 with eof := r.1.length < cnt, dirents := some (d.dirents.getD [] ++ r.1),
                 countRead := d2.countRead + r.1.length }
  else d2

def rewound (d0 : Cache) (pos : Nat) : Cache :=
  if pos == 0 && d0.dirents.isSome
  then { d0 with f := d0.f.rewind, dirents := none, countRead := 0 } else d0

theorem fill_win (d : Cache) (s cnt : Nat) (h : Win d s) :
    Win (fill d cnt) s ∧ (fill d cnt).full = d.full ∧
    (fill d cnt).countRead = d.countRead + min cnt (d.full.length - d.countRead) := by
  have hsl := h.start_le
  have hle := h.le_full
  have h2 := h.two_le
  unfold fill
  simp only [DirFile.readdir, h.window, Option.getD_some, h.stream]
  rw [listing_drop d.dot d.f.listing d.countRead h.dot h.two_le]
  generalize hds : ((d.dot ++ d.f.listing).drop d.countRead).take cnt = ds
  have hlen : ds.length = min cnt (d.full.length - d.countRead) := by
    rw [← hds, List.length_take, List.length_drop]; rfl
  rw [← hlen]
  have hfit : d.countRead + ds.length ≤ d.full.length := by omega
  have hend : ds.length < cnt → d.countRead + ds.length = d.full.length := by omega
  have hself : ((d.dot ++ d.f.listing).drop d.countRead).take ds.length = ds := by
    rw [← hds]; exact List.take_eq_take_iff.2 (by rw [List.length_take]; omega)
  clear hlen hds
  split
  · refine ⟨⟨h.dot, Nat.le_add_right_of_le h2, hfit, Nat.le_add_right_of_le hsl, ?_, (Nat.sub_add_comm h2).symm,
      fun hlt => hend (of_decide_eq_true hlt)⟩, rfl, rfl⟩
    show some ((d.full.take d.countRead).drop s ++ ds) = some ((d.full.take (d.countRead + ds.length)).drop s)
    rw [← slice_append d.full s d.countRead ds.length hsl hle]
    exact congrArg _ (congrArg _ hself.symm)
  · have h0 : ds.length = 0 := by omega
    rw [h0]
    exact ⟨⟨h.dot, h2, hle, hsl, rfl, rfl, h.eof⟩, rfl, rfl⟩

/-- What reading `cnt` entries behind a window starting at `s` leaves, `c'`: still a window of the same enumeration;
and if window and `cnt` together make `n` entries, or the directory had ended, its first `n` entries are the `n`
entries from `s` on (all that are left, if fewer), and every cookie up to their end is inside it.  (`c'` comes with
an equation so that an arm of `read_spec` can pass the name its cache has there.) -/
theorem fill_spec {d : Cache} {s : Nat} (h : Win d s) {full : List Dirent} (hfull : d.full = full) (cnt n : Nat)
    {c' : Cache} (hc' : c' = fill d cnt) :
    Inv c' ∧ c'.full = full ∧
    (n ≤ (d.dirents.getD []).length + cnt ∨ d.eof = true →
      cached (c'.dirents.getD []) n = (full.drop s).take n ∧
      ∀ j, j ≤ ((full.drop s).take n).length → Reach c' (s + j)) := by
  subst hfull hc'
  obtain ⟨hw, hf, hc⟩ := fill_win d s cnt h
  refine ⟨hw.inv, hf, fun he => ?_⟩
  rw [h.window, Option.getD_some, h.length] at he
  have hs := h.start_le
  have hfar : s + n ≤ (fill d cnt).countRead ∨ d.full.length ≤ (fill d cnt).countRead := by
    rw [hc]
    rcases Nat.le_total cnt (d.full.length - d.countRead) with hm | hm
    · rw [Nat.min_eq_left hm]
      exact he.imp (by omega) fun he => by rw [h.eof he]; exact Nat.le_add_right _ _
    · rw [Nat.min_eq_right hm, Nat.add_sub_cancel' h.le_full]
      exact Or.inr (Nat.le_refl _)
  refine ⟨?_, fun j hj => hw.reach _ (Nat.le_add_right _ _) ?_⟩
  · rw [hw.window, hf]
    exact slice_take _ _ _ _ hfar
  · rw [List.length_take, List.length_drop] at hj
    rw [hc] at hfar ⊢
    omega

/-- the window after the first read: the two dot entries (nothing has been read, so the cookie `pos` is 0) -/
theorem Win.first {d : Cache} {pos : Nat} (h : Inv d) (hn : d.dirents = none) (hp : pos ≤ d.countRead) :
    Win { d with dirents := some d.dot, countRead := 2, eof := false } pos := by
  obtain ⟨hd, hi⟩ := h
  rw [hn] at hi
  obtain rfl : pos = 0 := by have := hi.1; omega
  exact ⟨hd, Nat.le_refl 2, by show 2 ≤ (d.dot ++ d.f.listing).length; rw [List.length_append]; omega,
    Nat.zero_le _, by show some d.dot = some (((d.dot ++ d.f.listing).take 2).drop 0); rw [← hd]; simp, hi.2,
    fun h => Bool.noConfusion h⟩

/-- the window cut down to start at the cookie -/
theorem Win.drop {d : Cache} {w : List Dirent} {pos : Nat} (h : Inv d) (hw : d.dirents = some w)
    (hlo : ¬ pos < d.countRead - w.length) (hp : pos ≤ d.countRead) :
    Win { d with dirents := some (w.drop (pos - (d.countRead - w.length))) } pos := by
  have hw' := Inv.win h hw
  generalize d.countRead - w.length = s at hw' hlo
  refine ⟨hw'.dot, hw'.two_le, hw'.le_full, hp, ?_, hw'.stream, hw'.eof⟩
  show some (w.drop (pos - s)) = some ((d.full.take d.countRead).drop pos)
  rw [Option.some.inj (hw.symm.trans hw'.window), List.drop_drop]
  congr 3; omega

/-- `d`, the cache after the rewind that cookie 0 asks for -/
theorem rewound_spec (c : Cache) (pos : Nat) (h : Inv c) (hp : ¬ pos > c.countRead) (d : Cache)
    (hd : d = rewound c pos) :
    Inv d ∧ d.full = c.full ∧ pos ≤ d.countRead ∧
    (pos = 0 → d.dirents = none) ∧ (Reach c pos → Reach d pos) := by
  subst hd
  unfold rewound
  split
  · rename_i hc
    have h0 : pos = 0 := beq_iff_eq.1 (Bool.and_eq_true_iff.1 hc).1
    exact ⟨⟨h.1, rfl, rfl⟩, rfl, by omega, fun _ => rfl, fun _ => Or.inl h0⟩
  · rename_i hc
    refine ⟨h, rfl, Nat.le_of_not_gt hp, fun h0 => ?_, id⟩
    cases hd : c.dirents with
    | none => rfl
    | some w => simp [h0, hd] at hc

theorem pow32 : (2:Nat)^32 = 4294967296 := by decide

/-- `countToRead := int(n - 2)` for the counts fd_readdir uses -/
theorem count_wrap {n : Nat} : 3 ≤ n → n < 2^32 → (n + 2^32 - 2) % 2^32 = n - 2 := by
  omega

/-- `Read` never changes the listing and keeps the invariant — for ANY position and count (stale cookies and errors
included).  For a reachable cookie and the counts fd_readdir uses (3 ≤ n < 2^32) it returns exactly the next `n`
entries of the full enumeration starting at the cookie, and the window then starts at the cookie. -/
theorem read_spec (c : Cache) (pos n : Nat) (h : Inv c) :
    Inv (c.read pos n).1 ∧ (c.read pos n).1.full = c.full ∧
    (Reach c pos → 3 ≤ n → n < 2^32 →
      (c.read pos n).2 = .ok ((c.full.drop pos).take n) ∧
      ∀ j, j ≤ ((c.full.drop pos).take n).length → Reach (c.read pos n).1 (pos + j)) := by
  -- One arm per way out of `Read`; in all but the first, `d` is the cache after the rewind.  `dsimp only` projects the
  -- pairs away, so that the facts below fit the goals as written: the unifier, asked to see through `(d3, _).2`,
  -- evaluates the let-bound `d3` and with it `(n + 2^32 - 2) % 2^32`, in unary.
  fun_cases Cache.read c pos n <;> dsimp only
  -- a cookie beyond what has been read: refused
  case case1 hgt =>
    exact ⟨h, rfl, fun hr _ _ => by rcases hr with hr | ⟨w, _, _, hr⟩ <;> omega⟩
  -- a count of 0: nothing
  case case2 hle d hn =>
    obtain ⟨hi, hf, -⟩ := rewound_spec c pos h hle d rfl
    exact ⟨hi, hf, fun _ h3 _ => by simp at hn; omega⟩
  -- nothing read yet, a count of 2: nil, although the dot entries are now cached
  case case3 hle d _ hdn _ cnt hc =>
    obtain ⟨hi, hf, hp, -⟩ := rewound_spec c pos h hle d rfl
    exact ⟨(Win.first hi hdn hp).inv, hf, fun _ h3 h32 => by have := beq_iff_eq.1 hc; have := count_wrap h3 h32; omega⟩
  -- nothing read yet: the dot entries, then `n - 2` entries of the listing
  case case4 hle d _ hdn d1 cnt _ _ _ d3 =>
    obtain ⟨hi, hf, hp, -⟩ := rewound_spec c pos h hle d rfl
    obtain ⟨hi', hf', hs'⟩ := fill_spec (Win.first hi hdn hp) hf cnt n (rfl : d3 = fill d1 cnt)
    refine ⟨hi', hf', fun _ h3 h32 => (hs' (Or.inl ?_)).imp (congrArg Except.ok) id⟩
    show n ≤ d.dot.length + cnt
    rw [hi.1, show cnt = n - 2 from count_wrap h3 h32]; omega
  -- a cookie before the window: refused
  case case5 hle d _ w hdn s hlt =>
    obtain ⟨hi, hf, _, h0, hr⟩ := rewound_spec c pos h hle d rfl
    refine ⟨hi, hf, fun hrc _ _ => ?_⟩
    rcases hr hrc with hr | ⟨w', hw', hlo, _⟩
    · rw [h0 hr] at hdn; cases hdn
    · rw [hdn] at hw'; cases hw'; omega
  -- the window is cut down to start at the cookie, and what it lacks is read
  case case6 hle d _ w hdn s hlt w1 d1 hc cnt _ _ d3 =>
    obtain ⟨hi, hf, hp, -⟩ := rewound_spec c pos h hle d rfl
    obtain ⟨hi', hf', hs'⟩ := fill_spec (Win.drop hi hdn hlt hp) hf cnt n (rfl : d3 = fill d1 cnt)
    exact ⟨hi', hf', fun _ _ _ => (hs' (Or.inl (by show n ≤ w1.length + (n - w1.length); omega))).imp (congrArg Except.ok) id⟩
  -- the window holds `n` entries from the cookie on, or the directory has ended: nothing is read
  case case7 hle d _ w hdn s hlt w1 d1 hc =>
    obtain ⟨hi, hf, hp, -⟩ := rewound_spec c pos h hle d rfl
    obtain ⟨hi', hf', hs'⟩ := fill_spec (Win.drop hi hdn hlt hp) hf 0 n (rfl : d1 = fill d1 0)
    refine ⟨hi', hf', fun _ _ _ => (hs' ?_).imp (congrArg Except.ok) id⟩
    show n ≤ w1.length + 0 ∨ d.eof = true
    cases he : d.eof
    · exact Or.inl (by simp [d1, he] at hc; omega)
    · exact Or.inr rfl

theorem reach_le (c : Cache) (cookie : Nat) (h : Inv c) (hr : Reach c cookie) : cookie ≤ c.full.length := by
  rcases hr with rfl | ⟨w, hw, _, h2⟩
  · omega
  · unfold Inv at h; rw [hw] at h; simp only at h; omega

def sizeOf (l : List Dirent) : Nat := (l.map (fun d => DirentSize + d.name.length)).sum

@[simp] theorem sizeOf_nil : sizeOf [] = 0 := rfl
@[simp] theorem sizeOf_cons (d : Dirent) (l : List Dirent) :
    sizeOf (d :: l) = DirentSize + d.name.length + sizeOf l := by simp [sizeOf]

theorem sizeOf_ge (l : List Dirent) : DirentSize * l.length ≤ sizeOf l := by
  induction l with
  | nil => simp
  | cons d l ih => simp only [sizeOf_cons, List.length_cons, DirentSize] at *; omega

/-- The loop of `maxDirents` with `rem` bytes left: `k` more entries are complete, the longest prefix that fits. -/
theorem maxDirentsGo_spec (ds : List Dirent) (rem btw cnt : Nat) :
    ∃ k, k ≤ ds.length ∧ sizeOf (ds.take k) ≤ rem ∧
      let r := maxDirentsGo ds rem btw cnt
      -- either everything fit (or the buffer is exactly full): no truncation
      ((k = ds.length ∨ sizeOf (ds.take k) = rem) ∧ r = (btw + sizeOf (ds.take k), cnt + k, 0)
       ∨
       -- or entry k does not fit in the positive remainder: truncated
       (k < ds.length ∧ sizeOf (ds.take k) < rem ∧ rem < sizeOf (ds.take (k + 1)) ∧
        r = (btw + sizeOf (ds.take k) + min DirentSize (rem - sizeOf (ds.take k)), cnt + k + 1,
             min DirentSize (rem - sizeOf (ds.take k))))) := by
  induction ds generalizing rem btw cnt with
  | nil => exact ⟨0, Nat.le_refl _, Nat.zero_le _, Or.inl ⟨Or.inl rfl, rfl⟩⟩
  | cons d ds ih =>
    unfold maxDirentsGo
    split
    · -- nothing left in the buffer
      rename_i h0
      have h0 : rem = 0 := by simpa using h0
      exact ⟨0, Nat.zero_le _, Nat.zero_le _, Or.inl ⟨Or.inr h0.symm, rfl⟩⟩
    · rename_i h0
      have h0 : rem ≠ 0 := by simpa using h0
      simp only []
      split
      · -- the entry does not fit: truncated
        rename_i hgt
        refine ⟨0, Nat.zero_le _, Nat.zero_le _, Or.inr ⟨Nat.zero_lt_succ _, Nat.pos_of_ne_zero h0, ?_, ?_⟩⟩
        · simpa using hgt
        · have : (if rem ≥ DirentSize then DirentSize else rem) = min DirentSize rem := by split <;> omega
          rw [this]; rfl
      · -- the entry fits: one more complete entry, then as for the rest
        rename_i hgt
        obtain ⟨k, hk, hs, hcase⟩ := ih (rem - (DirentSize + d.name.length)) (btw + (DirentSize + d.name.length)) (cnt + 1)
        refine ⟨k + 1, Nat.succ_le_succ hk, by rw [List.take_succ_cons, sizeOf_cons]; omega, ?_⟩
        simp only [List.take_succ_cons, sizeOf_cons, List.length_cons] at hcase ⊢
        rcases hcase with ⟨hl, hr⟩ | ⟨h1, h2, h3, hr⟩
        · exact Or.inl ⟨by omega, by rw [hr]; simp only [Prod.mk.injEq, and_true]; omega⟩
        · refine Or.inr ⟨by omega, by omega, by omega, ?_⟩
          rw [hr, Nat.sub_sub]
          simp only [Prod.mk.injEq, and_true]; omega

theorem writeGo_eq (ds : List Dirent) (base i cnt : Nat) (skip : Option Nat) :
    writeGo ds (base + i) i cnt skip =
      ((ds.take (cnt - i)).zipIdx i).flatMap fun p =>
        header (base + p.2) p.1 ++ if skip == some p.2 then [] else p.1.name := by
  induction ds generalizing i with
  | nil => simp [writeGo]
  | cons d ds ih =>
    unfold writeGo
    by_cases hi : i < cnt
    · have hm : cnt - i = (cnt - (i + 1)) + 1 := by omega
      rw [if_pos hi, hm, List.take_succ_cons, List.zipIdx_cons, List.flatMap_cons, Nat.add_assoc base i 1, ih (i + 1)]
    · rw [if_neg hi, Nat.sub_eq_zero_of_le (Nat.le_of_not_lt hi)]
      rfl

def mkCore (ds : List Dirent) (bufLen : Nat) : Core :=
  { ds := ds, bufToWrite := (maxDirents ds bufLen).1, direntCount := (maxDirents ds bufLen).2.1,
    truncatedLen := (maxDirents ds bufLen).2.2 }

theorem core_facts (ds : List Dirent) (bufLen : Nat) (hb : DirentSize ≤ bufLen) :
    (mkCore ds bufLen).nComplete ≤ ds.length ∧
    (mkCore ds bufLen).bufused bufLen ≤ bufLen ∧
    ((mkCore ds bufLen).bufused bufLen < bufLen →
        (mkCore ds bufLen).nComplete = ds.length ∧ sizeOf ds < bufLen) ∧
    (ds = [] → (mkCore ds bufLen).bufused bufLen = 0) ∧
    ((mkCore ds bufLen).nComplete = 0 → ds ≠ [] →
        (mkCore ds bufLen).bufused bufLen = bufLen ∧ (mkCore ds bufLen).truncatedHeader = ds[0]?) ∧
    (∀ d, ds[0]? = some d → DirentSize + d.name.length ≤ bufLen → 1 ≤ (mkCore ds bufLen).nComplete) := by
  have h24 : DirentSize = 24 := rfl
  obtain ⟨k, hk, hs, hcase⟩ := maxDirentsGo_spec ds bufLen 0 0
  simp only [Nat.zero_add] at hcase
  unfold Core.nComplete Core.bufused Core.truncatedHeader mkCore maxDirents
  simp only []
  rcases hcase with ⟨hl, hr⟩ | ⟨h1, h2, h3, hr⟩
  · rw [hr]
    simp only [Nat.lt_irrefl, gt_iff_lt, if_false]
    -- no complete entry and no truncated one: there was no entry
    have hk0 : k = 0 → ds = [] := fun h0 => by
      subst h0
      rw [List.take_zero, sizeOf_nil] at hl
      exact List.eq_nil_of_length_eq_zero (hl.resolve_right (by omega)).symm
    refine ⟨hk, hs, fun hlt => ?_, fun h => (by rw [h, List.take_nil]; rfl), fun h0 hne => absurd (hk0 h0) hne, fun d hd _ =>
      Nat.pos_of_ne_zero fun h0 => by rw [hk0 h0] at hd; cases hd⟩
    have : k = ds.length := hl.resolve_right (by omega)
    rw [this, List.take_length] at hlt
    exact ⟨this, hlt⟩
  · rw [hr]
    have hm : min DirentSize (bufLen - sizeOf (ds.take k)) > 0 := by omega
    simp only [hm, if_true, Nat.add_sub_cancel]
    refine ⟨hk, Nat.le_refl _, fun h => absurd h (Nat.lt_irrefl _), fun h => (by rw [h] at h1; cases h1),
      fun h0 _ => ?_, fun d hd hfit => Nat.pos_of_ne_zero fun h0 => ?_⟩
    · subst h0
      rw [if_pos (by rw [List.take_zero, sizeOf_nil]; omega)]
      exact ⟨trivial, rfl⟩
    · -- the first entry would have fitted
      subst h0
      cases ds with
      | nil => cases hd
      | cons a l =>
        cases hd
        rw [List.take_succ_cons, sizeOf_cons, List.take_zero, sizeOf_nil] at h3
        omega

theorem core_eq (c : Cache) (bufLen cookie : Nat) (hb : DirentSize ≤ bufLen) :
    fdReaddirCore c bufLen cookie =
      ((c.read cookie (bufLen / DirentSize + 1 + 1)).1,
       (c.read cookie (bufLen / DirentSize + 1 + 1)).2.map (mkCore · bufLen)) := by
  unfold fdReaddirCore
  rw [if_neg (by omega)]
  simp only []
  rcases c.read cookie (bufLen / DirentSize + 1 + 1) with ⟨c', _ | ds⟩ <;> rfl

/-- the count fd_readdir asks `Read` for: at least 3, a u32, and more than any number of entries that fit the buffer -/
theorem count_spec (bufLen : Nat) (hb : DirentSize ≤ bufLen) (hb32 : bufLen < 2^32) :
    3 ≤ bufLen / DirentSize + 1 + 1 ∧ bufLen / DirentSize + 1 + 1 < 2^32 ∧
    ∀ m, DirentSize * m < bufLen → m < bufLen / DirentSize + 1 + 1 := by
  rw [pow32] at *
  simp only [DirentSize] at *
  exact ⟨by omega, by omega, fun m hm => by omega⟩

/-- What a call at `cookie` with a buffer of `bufLen` bytes has done when it returns: `c'` is the cache afterwards,
`core` what went into the buffer, `k` the number of complete entries in it, `full` the enumeration. -/
structure CallSpec (full : List Dirent) (bufLen cookie : Nat) (c' : Cache) (core : Core) (k : Nat) : Prop where
  inv : Inv c'
  full_eq : c'.full = full
  complete : core.complete cookie = numbered ((full.drop cookie).take k) cookie
  le_full : cookie + k ≤ full.length
  reach : ∀ j, j ≤ k → Reach c' (cookie + j)
  short_is_end : core.bufused bufLen < bufLen → cookie + k = full.length
  bufused_le : core.bufused bufLen ≤ bufLen
  /-- no complete entry although one is left: the buffer is reported full and holds that entry's header, with its
  true name length -/
  none_is_truncated : k = 0 → cookie < full.length →
    core.bufused bufLen = bufLen ∧ core.truncatedHeader = full[cookie]?
  fitting_delivered : ∀ d, full[cookie]? = some d → DirentSize + d.name.length ≤ bufLen → 1 ≤ k
  end_is_empty : cookie = full.length → core.bufused bufLen = 0

theorem call_spec (c : Cache) (bufLen cookie : Nat) (h : Inv c) (hr : Reach c cookie)
    (hb : DirentSize ≤ bufLen) (hb32 : bufLen < 2^32) :
    ∃ core k, (fdReaddirCore c bufLen cookie).2 = .ok core ∧
      CallSpec c.full bufLen cookie (fdReaddirCore c bufLen cookie).1 core k := by
  have hcl := reach_le c cookie h hr
  obtain ⟨hn3, hn32, hnfit⟩ := count_spec bufLen hb hb32
  obtain ⟨hi, hf, hrs⟩ := read_spec c cookie (bufLen / DirentSize + 1 + 1) h
  obtain ⟨hres, hreach⟩ := hrs hr hn3 hn32
  rw [core_eq c bufLen cookie hb, hres]
  generalize bufLen / DirentSize + 1 + 1 = n at hreach hi hf hn3 hnfit
  generalize hds : (c.full.drop cookie).take n = ds at hreach
  obtain ⟨f1, f2, f3, f4, f5, f6⟩ := core_facts ds bufLen hb
  generalize hk : (mkCore ds bufLen).nComplete = k at f1 f3 f5 f6
  have hle : cookie + ds.length ≤ c.full.length := by
    rw [← hds, List.length_take, List.length_drop]; omega
  have hshort : ds.length < n → cookie + ds.length = c.full.length := by
    rw [← hds, List.length_take, List.length_drop]; omega
  have hd0 : ds[0]? = c.full[cookie]? := by
    rw [← hds, List.getElem?_take, if_pos (by omega), List.getElem?_drop]; rfl
  refine ⟨mkCore ds bufLen, k, rfl, {
    inv := hi, full_eq := hf, complete := ?_, le_full := by omega, reach := fun j hj => hreach j (by omega),
    short_is_end := fun hlt => ?_, bufused_le := f2, none_is_truncated := fun h0 hlt => ?_,
    fitting_delivered := fun d hd hfit => f6 d (hd0.trans hd) hfit,
    end_is_empty := fun he => f4 (List.eq_nil_of_length_eq_zero (by omega)) }⟩
  · unfold Core.complete numbered
    rw [hk]
    show (List.take k ds).zipIdx.map _ = _
    rw [← hds, List.take_take, Nat.min_eq_left (Nat.le_trans f1 (hds ▸ List.length_take_le _ _))]
  · -- the buffer is not full: all of `ds` fitted, so `Read` had returned fewer than it was asked for
    obtain ⟨e1, e2⟩ := f3 hlt
    have := hshort (hnfit ds.length (Nat.lt_of_le_of_lt (sizeOf_ge ds) e2))
    omega
  · obtain ⟨e1, e2⟩ := f5 h0 fun he => by
      subst he
      have := hshort (by show 0 < n; omega)
      rw [List.length_nil] at this; omega
    exact ⟨e1, e2.trans hd0⟩

structure ClientInv (full : List Dirent) (cl : Client) : Prop where
  inv : Inv cl.cache
  full_eq : cl.cache.full = full
  ok : cl.failed = none
  /-- the entries received are a prefix of the enumeration, and the cookie is their number -/
  acc : cl.acc = full.take cl.cookie
  cookie_le : cl.cookie ≤ full.length
  reach : Reach cl.cache cl.cookie
  all_of_done : cl.done = true → cl.acc = full

theorem numbered_map_snd (l : List Dirent) (c : Nat) : (numbered l c).map (·.2) = l := by
  unfold numbered
  rw [List.map_map]
  exact List.zipIdx_map_fst 0 l

theorem numbered_last (l : List Dirent) (c : Nat) :
    ((numbered l c).getLast?.map (·.1)).getD c = c + l.length := by
  unfold numbered
  rw [List.getLast?_map, List.getLast?_zipIdx]
  cases l with
  | nil => rfl
  | cons a l =>
    rw [List.getLast?_cons]
    show c + 1 + (0 + (l.length + 1) - 1) = c + (l.length + 1)
    omega

theorem step_done (cl : Client) (b : Nat) (h : cl.done = true) : cl.step b = cl := by
  unfold Client.step; rw [h]; rfl

theorem step_ok (cl : Client) (b : Nat) (h1 : cl.done = false) (h2 : cl.failed = none) (c' : Cache) (k : Core)
    (h : fdReaddirCore cl.cache b cl.cookie = (c', .ok k)) :
    cl.step b = Client.mk c' (((k.complete cl.cookie).getLast?.map (·.1)).getD cl.cookie)
      (cl.acc ++ (k.complete cl.cookie).map (·.2)) (decide (k.bufused b < b)) cl.failed := by
  unfold Client.step
  rw [h1, h2]
  simp only [h]
  rfl

theorem client_start_inv (c : Cache) (h : Inv c) : ClientInv c.full (Client.start c) := by
  exact {
    inv := h, full_eq := rfl, ok := rfl, acc := by simp [Client.start], cookie_le := Nat.zero_le _,
    reach := Or.inl rfl, all_of_done := fun hd => by simp [Client.start] at hd }

theorem step_facts (full : List Dirent) (cl : Client) (b : Nat) (h : ClientInv full cl)
    (hb : DirentSize ≤ b) (hb32 : b < 2^32) (hnd : cl.done = false) :
    ∃ k, ClientInv full (cl.step b) ∧ (cl.step b).cookie = cl.cookie + k ∧
      (cl.cookie = full.length → (cl.step b).done = true) ∧
      (∀ d, full[cl.cookie]? = some d → DirentSize + d.name.length ≤ b → 1 ≤ k) := by
  obtain ⟨core, k, hok, cs⟩ := call_spec cl.cache b cl.cookie h.inv h.reach hb hb32
  rw [h.full_eq] at cs
  have hcall : fdReaddirCore cl.cache b cl.cookie = ((fdReaddirCore cl.cache b cl.cookie).1, .ok core) :=
    Prod.ext rfl hok
  have hstep := step_ok cl b hnd h.ok _ core hcall
  have hlen : ((full.drop cl.cookie).take k).length = k := by
    rw [List.length_take, List.length_drop]; have := cs.le_full; omega
  rw [cs.complete, numbered_last, numbered_map_snd, hlen] at hstep
  rw [hstep]
  refine ⟨k, {
    inv := cs.inv, full_eq := cs.full_eq, ok := h.ok, acc := ?_, cookie_le := cs.le_full,
    reach := cs.reach k (Nat.le_refl _), all_of_done := ?_ }, rfl, ?_, cs.fitting_delivered⟩
  · show cl.acc ++ (full.drop cl.cookie).take k = full.take (cl.cookie + k)
    rw [h.acc, List.take_add]
  · intro hd
    show cl.acc ++ (full.drop cl.cookie).take k = full
    rw [h.acc, ← List.take_add, cs.short_is_end (of_decide_eq_true hd), List.take_length]
  · intro he
    show decide (core.bufused b < b) = true
    rw [cs.end_is_empty he]
    simp only [DirentSize] at hb
    exact decide_eq_true (by omega)

theorem client_step_inv (full : List Dirent) (cl : Client) (b : Nat) (h : ClientInv full cl)
    (hb : DirentSize ≤ b) (hb32 : b < 2^32) : ClientInv full (cl.step b) := by
  cases hd : cl.done with
  | true => rw [step_done cl b hd]; exact h
  | false =>
    obtain ⟨k, hk, _⟩ := step_facts full cl b h hb hb32 hd
    exact hk

theorem client_run_inv (full : List Dirent) (cl : Client) (bs : List Nat) (h : ClientInv full cl)
    (hb : ∀ b ∈ bs, DirentSize ≤ b ∧ b < 2^32) : ClientInv full (cl.run bs) := by
  induction bs generalizing cl with
  | nil => exact h
  | cons b bs ih =>
    have hb0 := hb b (List.mem_cons_self ..)
    exact ih (cl.step b) (client_step_inv full cl b h hb0.1 hb0.2)
      (fun b' hb' => hb b' (List.mem_cons_of_mem _ hb'))

/-- progress: a round whose buffer can hold the next entry delivers it or finishes;
with `m` = the longest name, `full.length + 1` rounds with buffers ≥ 24 + m always finish. -/
theorem client_step_progress (full : List Dirent) (cl : Client) (b : Nat) (h : ClientInv full cl)
    (hb : DirentSize ≤ b) (hb32 : b < 2^32) (hnd : cl.done = false)
    (hfit : ∀ d ∈ full, DirentSize + d.name.length ≤ b) :
    (cl.step b).done = true ∨ cl.cookie < (cl.step b).cookie := by
  obtain ⟨k, _, hck, hend, hk⟩ := step_facts full cl b h hb hb32 hnd
  have hcl := h.cookie_le
  by_cases he : cl.cookie = full.length
  · exact Or.inl (hend he)
  · right
    have hlt : cl.cookie < full.length := by omega
    have hget : full[cl.cookie]? = some full[cl.cookie] := List.getElem?_eq_getElem hlt
    have := hk _ hget (hfit _ (List.getElem_mem hlt))
    omega

theorem run_done (cl : Client) (bs : List Nat) (h : cl.done = true) : (cl.run bs).done = true := by
  induction bs generalizing cl with
  | nil => exact h
  | cons b bs ih => unfold Client.run; rw [step_done cl b h]; exact ih cl h

theorem client_terminates (full : List Dirent) (cl : Client) (bs : List Nat) (h : ClientInv full cl)
    (hb : ∀ b ∈ bs, b < 2^32 ∧ ∀ d ∈ full, DirentSize + d.name.length ≤ b)
    (hlen : full.length + 1 ≤ cl.cookie + bs.length) : (cl.run bs).done = true := by
  induction bs generalizing cl with
  | nil =>
    have := h.cookie_le
    simp at hlen; omega
  | cons b bs ih =>
    cases hd : cl.done with
    | true => exact run_done cl _ hd
    | false =>
      obtain ⟨hb32, hfit⟩ := hb b (List.mem_cons_self ..)
      have hb24 : DirentSize ≤ b := by
        have h2 : full.length ≥ 2 := by
          have := h.inv.1
          rw [← h.full_eq, Cache.full, List.length_append]; omega
        have := hfit _ (List.getElem_mem (by omega : 0 < full.length))
        omega
      have hinv := client_step_inv full cl b h hb24 hb32
      show ((cl.step b).run bs).done = true
      rcases client_step_progress full cl b h hb24 hb32 hd hfit with hdn | hlt
      · exact run_done _ _ hdn
      · apply ih _ hinv (fun b' hb' => hb b' (List.mem_cons_of_mem _ hb'))
        simp at hlen; omega

end Wz.Proofs.C16Readdir
