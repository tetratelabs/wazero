/-
C01 (front end, with `extend8_s` / `extend16_s`): the simulation for the wrapped SSA of `Wz.Model.FrontendSLX`.
A `base` instruction is executed by `SsaPass.execInstr` on both sides, so the one-instruction lemmas of
`C01_Front_Sim`, which say how a list of base instructions runs (`Runs`, `Traps`), carry over (`Runs.bodyX`);
only `SExtend x, 8/16->32/64` is new.  `lowerX_refines_full`: whole functions (`invoke` / `runX`).
-/
import Wz.Proofs.C01_Front_Entry
import Wz.Model.FrontendSLX

namespace Wz.Proofs.Front
open Wz.Spec Wz.Model.SsaPass Wz.Model.FrontendSL Wz.Model.FrontendSLX Wz.Proofs.NumNames Wz.Proofs.SplitOn

theorem execBodyX_pre (w : World) : ∀ (out : List Instr) (rest : List XInstr) (st : St),
    execBodyX w (out.map .base ++ rest) st =
      match execPre w out st with
      | .inr st' => execBodyX w rest st'
      | .inl c => some c := by
  intro out
  induction out with
  | nil => intro rest st; rfl
  | cons i is ih =>
    intro rest st
    simp only [List.map_cons, List.cons_append, execBodyX, execPre]
    cases h : execInstr w st.env i st <;> simp only [ih]

theorem Runs.bodyX {w : World} {out : List Instr} {env env' : Val → Nat} (h : Runs w out env env')
    (rest : List XInstr) : execBodyX w (out.map .base ++ rest) (mk env) = execBodyX w rest (mk env') := by
  rw [execBodyX_pre, h (mk env) rfl]; rfl

theorem Traps.bodyX {w : World} {out : List Instr} {env : Val → Nat} {code : Nat} (h : Traps w out env code)
    (rest : List XInstr) : execBodyX w (out.map .base ++ rest) (mk env) = some (.trap code (mk env)) := by
  rw [execBodyX_pre, h (mk env) rfl]

def extStr : ExtW → String | .w8 => "extend8_s" | .w16 => "extend16_s"

theorem split_ext (t : Ty) (w : ExtW) : (extName t w).splitOn "." = [tyStr t, extStr w] := by
  cases t <;> cases w <;> exact splitOn_singleton '.' _

theorem setWidth_ofNat (n k x : Nat) (h : k ≤ n) : (BitVec.ofNat n x).setWidth k = BitVec.ofNat k x :=
  BitVec.setWidth_ofNat_of_le h x

theorem iun_ext (n : Nat) (w : ExtW) (a : Nat) :
    Num.iun n (extStr w) a = some (.val (Int.iextendS w.bits (Num.bv n a)).toNat) :=
  match w with
  | .w8 => rfl
  | .w16 => rfl

/-- the specification truncates the operand to the source width and sign-extends; the SSA `SExtend` reads the low
bits directly -/
theorem scalar_ext (t : Ty) (w : ExtW) (a : Nat) :
    Num.scalar (extName t w) [a] = some (.val (evalSext w.bits t a)) := by
  have hn : extName t w ∈ iunNames := by
    cases t <;> cases w <;> simp only [extName, iunNames, List.mem_cons, true_or, or_true]
  have hw : w.bits ≤ t.bits := by cases t <;> cases w <;> decide
  rw [scalar_iun (split_ext t w) (intPfx_tyStr t) (conv_none hn a), iun_ext, Int.iextendS, Num.bv, setWidth_ofNat _ _ _ hw]
  rfl

theorem evalSext_lt (frm : Nat) (t : Ty) (x : Nat) : evalSext frm t x < 2 ^ t.bits := BitVec.isLt _

/-- `StepOK` for the extended fragment.  `sext` is not an instruction of `SsaPass`, so what is emitted is not a list that
`Runs` / `Traps` speak of; the step says instead how the emitted instructions run in front of any rest of a body (for
the base instructions this is `Runs.bodyX` / `Traps.bodyX`). -/
def StepOKX (w : World) (m : Wasm.Module) (lt : List Ty) (i : SIX) (s : LS) (tys' : List Ty)
    (stack : List Nat) (locals : Array Nat) (env : Val → Nat) (st : Wasm.Store) (n : Nat) : Prop :=
  (∃ stack' locals' env',
      Wasm.execInstr m (n + 1) i.toInstr ⟨stack, locals⟩ st = (.next, ⟨stack', locals'⟩, st) ∧
      (∀ rest, execBodyX w ((lowerXI i s).1 ++ rest) (mk env) = execBodyX w rest (mk env')) ∧
      Inv lt (lowerXI i s).2 tys' stack' locals' env') ∨
  (∃ code fr', Wasm.execInstr m (n + 1) i.toInstr ⟨stack, locals⟩ st = (.trap (trapKind code), fr', st) ∧
      (∀ rest, execBodyX w ((lowerXI i s).1 ++ rest) (mk env) = some (.trap code (mk env))) ∧
      (code = codeDivByZero ∨ code = codeOverflow))

variable {w : World} {m : Wasm.Module} {lt : List Ty} {s : LS} {tys tys' : List Ty} {stack : List Nat}
  {locals : Array Nat} {env : Val → Nat}

theorem stepX_base (i : SI) (st : Wasm.Store) (n : Nat)
    (hinv : Inv lt s tys stack locals env) (htc : tcStep lt i tys = some tys') :
    StepOKX w m lt (.base i) s tys' stack locals env st n := by
  rcases sim_step (w := w) (m := m) i st n hinv htc with
    ⟨stack', locals', env', hsp, hrun, hinv'⟩ | ⟨code, fr', hsp, htrap, hcode⟩
  · exact .inl ⟨stack', locals', env', hsp, hrun.bodyX, hinv'⟩
  · exact .inr ⟨code, fr', hsp, htrap.bodyX, hcode⟩

theorem stepX_ext (t : Ty) (ew : ExtW) (st : Wasm.Store) (n : Nat)
    (hinv : Inv lt s tys stack locals env) (htc : tcStepX lt (.ext t ew) tys = some tys') :
    StepOKX w m lt (.ext t ew) s tys' stack locals env st n := by
  match tys, htc with
  | a :: tys, htc =>
    obtain ⟨rfl, rfl⟩ : a = t ∧ t :: tys = tys' := by simpa only [tcStepX, Option.ite_none_right_eq_some,
      Option.some.injEq] using htc
    obtain ⟨vx, x, _, s0, rfl, rfl, hx, -, -, inv0⟩ := hinv.pop
    refine .inl ⟨evalSext ew.bits a x :: _, locals, upd env s0.next (evalSext ew.bits a x),
      wasm_num1 _ (scalar_ext a ew x), fun rest => ?_, inv0.pushNew a _ (evalSext_lt ..)⟩
    show execBodyX w (.sext s0.next ew.bits a vx :: rest) (mk env) = _
    rw [execBodyX, show (mk env).env vx = x from hx, mk_set]

theorem sim_stepX (i : SIX) (st : Wasm.Store) (n : Nat)
    (hinv : Inv lt s tys stack locals env) (htc : tcStepX lt i tys = some tys') :
    StepOKX w m lt i s tys' stack locals env st n := by
  cases i with
  | base j => exact stepX_base j st n hinv htc
  | ext t ew => exact stepX_ext t ew st n hinv htc

/-- the two runs of a body agree: the SSA run returns the top `nres` values of the final Wasm stack, or both trap, the
kind being that of the exit code -/
def BodyRel (nres : Nat) (r : Wasm.Ctl × Wasm.Frame × Wasm.Store) (o : Option Ctl) : Prop :=
  match r.1 with
  | .next | .ret => ∃ env', o = some (.ret ((r.2.1.stack.take nres).reverse) (mk env'))
  | .trap k => ∃ code env', o = some (.trap code (mk env')) ∧ trapKind code = k ∧
      (code = codeDivByZero ∨ code = codeOverflow)
  | _ => False

def BodyRelX (nres : Nat) (r : Wasm.Ctl × Wasm.Frame × Wasm.Store) (o : Option Ctl) : Prop := BodyRel nres r o

theorem tcBodyX_cons_eq {res : List Ty} {i : SIX} (is : List SIX) (tys : List Ty) (hi : i ≠ .base .ret) :
    tcBodyX lt res (i :: is) tys =
      match tcStepX lt i tys with | some s' => tcBodyX lt res is s' | none => false := by
  rcases i with j | _
  · cases j <;> first | rfl | exact absurd rfl hi
  · rfl

theorem tcBodyX_cons {res : List Ty} {i : SIX} {is : List SIX} (hi : i ≠ .base .ret)
    (h : tcBodyX lt res (i :: is) tys = true) :
    ∃ tys', tcStepX lt i tys = some tys' ∧ tcBodyX lt res is tys' = true := by
  rw [tcBodyX_cons_eq is tys hi] at h
  split at h
  · exact ⟨_, ‹_›, h⟩
  · cases h

theorem lowerBodyX_cons (nres : Nat) {i : SIX} (is : List SIX) (s : LS) (hi : i ≠ .base .ret) :
    lowerBodyX nres (i :: is) s = (lowerXI i s).1 ++ lowerBodyX nres is (lowerXI i s).2 := by
  rcases i with j | _
  · cases j <;> first | rfl | exact absurd rfl hi
  · rfl

theorem sim_bodyX (res : List Ty) (nres : Nat) : ∀ (body : List SIX) (s : LS) (tys : List Ty) (stack : List Nat)
    (locals : Array Nat) (env : Val → Nat) (st : Wasm.Store) (n : Nat),
    Inv lt s tys stack locals env → tcBodyX lt res body tys = true → body.length + 1 ≤ n →
    BodyRel nres (Wasm.execSeq m n (body.map SIX.toInstr) ⟨stack, locals⟩ st)
      (execBodyX w (lowerBodyX nres body s) (mk env)) := by
  intro body
  induction body with
  | nil =>
    intro s tys stack locals env st n hinv _ hn
    obtain ⟨n, rfl⟩ : ∃ k, n = k + 1 := ⟨n - 1, by omega⟩
    exact ⟨env, congrArg (fun vs => some (Ctl.ret vs (mk env))) (peekN_env hinv nres)⟩
  | cons i is ih =>
    intro s tys stack locals env st n hinv htc hn
    obtain ⟨n, rfl⟩ : ∃ k, n = k + 2 := ⟨n - 2, by simp only [List.length_cons] at hn; omega⟩
    by_cases hi : i = .base .ret
    · subst hi
      exact ⟨env, congrArg (fun vs => some (Ctl.ret vs (mk env))) (peekN_env hinv nres)⟩
    · obtain ⟨tys', hstep, hrest⟩ := tcBodyX_cons hi htc
      rw [lowerBodyX_cons nres is s hi]
      show BodyRel nres (match Wasm.execInstr m (n + 1) i.toInstr ⟨stack, locals⟩ st with
        | (.next, fr', st') => Wasm.execSeq m (n + 1) (is.map SIX.toInstr) fr' st'
        | r => r) _
      rcases sim_stepX (w := w) (m := m) i st n hinv hstep with
        ⟨stack', locals', env', hsp, hss, hinv'⟩ | ⟨code, fr', hsp, hss, hcode⟩
      · rw [hsp, hss]
        exact ih _ _ _ _ _ st (n + 1) hinv' hrest (by simp only [List.length_cons] at hn; omega)
      · rw [hsp, hss]
        exact ⟨code, env, rfl, rfl, hcode⟩

theorem declLocals_execX (w : World) (ls : List Ty) (n : Nat) (z : Zeros) (e : Val → Nat) (rest : List XInstr)
    (he : ∀ v, n ≤ v → e v = 0) :
    execBodyX w ((declLocals ls n z).1.map .base ++ rest) (mk e) = execBodyX w rest (mk e) :=
  (declLocals_exec w ls n z e he).bodyX rest

theorem lowerX_refines_full (f : FnX) (hwt : wellTypedX f = true) (args : List Nat) (hargs : ArgsOK f.sig args)
    (w : World) (ec mc : Nat) (n : Nat) (hn : f.body.length + 3 ≤ n) :
    runX w (lowerX f) (ec :: mc :: args) = ofSpec (runSpecX f args n) ∧
    ofSsa (runX w (lowerX f) (ec :: mc :: args)) = runSpecX f args n ∧
    runSpecX f args n ≠ .exhausted := by
  obtain ⟨henv1_hi, hinv⟩ := entry_inv f.sig args hargs ec mc
  have hlen : args.length = f.params.length := hargs.1
  -- the SSA side: the parameters are bound, the zero constants of the locals change nothing
  have hssa : runX w (lowerX f) (ec :: mc :: args) =
      match execBodyX w (lowerBodyX f.results.length f.body (initLS f.sig).2) (mk (entryEnv f.sig ec mc args)) with
      | some (.ret vs st') => .values vs st'.mem st'.trace
      | some (.trap c st') => .trap c st'.mem st'.trace
      | _ => .error := by
    rw [← declLocals_execX w f.locals (f.params.length + 2) {} _ _ henv1_hi]
    have hlen' : ¬ (entryParams f.sig).length ≠ (ec :: mc :: args).length := by
      simp [entryParams, hlen, show f.sig.params = f.params from rfl]
    simp only [runX, lowerX, hlen', if_false]
    rfl
  obtain ⟨k, rfl⟩ : ∃ k, n = k + 1 := ⟨n - 1, by omega⟩
  have hrel := sim_bodyX (w := w) (m := f.toModule) f.results f.results.length f.body (initLS f.sig).2 [] []
    (args ++ f.locals.map (fun _ => 0)).toArray (entryEnv f.sig ec mc args) { ({} : Wasm.Store) with log := [] } k
    hinv hwt (by omega)
  have hspec := Wasm.invoke_single_map (M := f.toModule) rfl rfl rfl args hlen k {}
  rw [hssa, runSpecX, hspec]
  generalize Wasm.execSeq _ k _ _ _ = r at hrel ⊢
  obtain ⟨ctl, fr', st'⟩ := r
  cases ctl with
  | next | ret =>
    obtain ⟨env', ho⟩ := hrel
    rw [ho]
    exact ⟨rfl, rfl, nofun⟩
  | br l | exhausted => exact hrel.elim
  | trap kd =>
    obtain ⟨code, env', ho, rfl, hcode⟩ := hrel
    have : trapCode (trapKind code) = code := by
      rcases hcode with rfl | rfl <;> decide
    rw [ho]
    exact ⟨congrArg (Outcome.trap · [] []) this.symm, rfl, nofun⟩

end Wz.Proofs.Front
