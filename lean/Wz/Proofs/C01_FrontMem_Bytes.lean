/-
C01 / C02 (front end with memory accesses): byte-level facts relating the reference semantics' `ByteArray` memory
(`readLE`, `writeLE`) to the SSA model's write log (`memLoad`, `memStore`, `memRead`).
-/
import Wz.Model.FrontendMem

namespace Wz.Proofs.FrontMem
open Wz.Spec Wz.Spec.Wasm Wz.Model.SsaPass Wz.Model.FrontendSL Wz.Model.FrontendMem

theorem ba_get_set (m : ByteArray) (i j : Nat) (b : UInt8) :
    (m.set! i b).get! j = if i = j ∧ i < m.size then b else m.get! j := by
  cases m with | mk bs =>
  simp only [ByteArray.set!, ByteArray.get!, ByteArray.size, Array.set!]
  by_cases h : i = j
  · subst h
    by_cases h2 : i < bs.size <;> simp [h2]
  · simp [h, getElem!_def]

theorem readLE_zero (m : ByteArray) (a : Nat) : readLE m a 0 = 0 := rfl

theorem readLE_succ (m : ByteArray) (a n : Nat) :
    readLE m a (n + 1) = (m.get! a).toNat + 256 * readLE m (a + 1) n := by
  unfold readLE
  rw [List.range_succ_eq_map, List.foldr_cons, List.foldr_map]
  simp only [Nat.add_zero]
  have : (fun (i : Nat) (acc : Nat) => acc * 256 + (m.get! (a + (i + 1))).toNat) =
      (fun i acc => acc * 256 + (m.get! (a + 1 + i)).toNat) := by
    funext i acc
    rw [show a + (i + 1) = a + 1 + i by omega]
  rw [this]
  omega

theorem readLE_lt (m : ByteArray) : ∀ (n a : Nat), readLE m a n < 256 ^ n := by
  intro n
  induction n with
  | zero => intro a; simp [readLE_zero]
  | succ n ih =>
    intro a
    rw [readLE_succ, Nat.pow_succ]
    have h1 := ih (a + 1)
    have h2 : (m.get! a).toNat < 256 := UInt8.toNat_lt _
    omega

theorem writeLE_zero (m : ByteArray) (a v : Nat) : writeLE m a 0 v = m := rfl

theorem writeLE_succ (m : ByteArray) (a n v : Nat) :
    writeLE m a (n + 1) v = (writeLE m a n v).set! (a + n) (UInt8.ofNat (v / 256 ^ n % 256)) := by
  unfold writeLE
  rw [List.range_succ, List.foldl_append]
  rfl

theorem writeLE_size (m : ByteArray) (a v : Nat) : ∀ n, (writeLE m a n v).size = m.size := by
  intro n
  induction n with
  | zero => rfl
  | succ n ih => rw [writeLE_succ, ByteArray.size_set!, ih]

theorem writeLE_get (m : ByteArray) (a v : Nat) : ∀ n, a + n ≤ m.size → ∀ j,
    (writeLE m a n v).get! j =
      if a ≤ j ∧ j < a + n then UInt8.ofNat (v / 256 ^ (j - a) % 256) else m.get! j := by
  intro n
  induction n with
  | zero => intro _ j; simp [writeLE_zero]; omega
  | succ n ih =>
    intro h j
    rw [writeLE_succ, ba_get_set, writeLE_size, ih (by omega)]
    by_cases hj : a + n = j
    · subst hj
      have : a + n < m.size := by omega
      simp [this]
    · have h1 : ¬ (a + n = j ∧ a + n < m.size) := fun h => hj h.1
      rw [if_neg h1]
      by_cases h2 : a ≤ j ∧ j < a + n
      · rw [if_pos h2, if_pos (by omega)]
      · rw [if_neg h2, if_neg (by omega)]

theorem memRead_memStore : ∀ (n : Nat) (m : Mem) (A v x : Nat),
    memRead (memStore m A v n) x = if A ≤ x ∧ x < A + n then v / 256 ^ (x - A) % 256 else memRead m x := by
  intro n
  induction n with
  | zero => intro m A v x; simp [memStore]; omega
  | succ n ih =>
    intro m A v x
    rw [memStore, ih]
    by_cases h1 : A + 1 ≤ x ∧ x < A + 1 + n
    · rw [if_pos h1, if_pos (by omega)]
      have : x - A = (x - (A + 1)) + 1 := by omega
      rw [this, Nat.pow_succ, Nat.mul_comm, ← Nat.div_div_eq_div_mul]
    · rw [if_neg h1]
      simp only [memRead]
      by_cases h2 : A = x
      · subst h2
        simp
      · rw [if_neg h2, if_neg (by omega)]

theorem memStore_prefix : ∀ (n : Nat) (m : Mem) (A v : Nat),
    ∃ W, memStore m A v n = W ++ m ∧ ∀ p ∈ W, A ≤ p.1 ∧ p.1 < A + n := by
  intro n
  induction n with
  | zero => intro m A v; exact ⟨[], rfl, fun p hp => by cases hp⟩
  | succ n ih =>
    intro m A v
    obtain ⟨W, hW, hin⟩ := ih ((A, v % 256) :: m) (A + 1) (v / 256)
    refine ⟨W ++ [(A, v % 256)], by simp only [memStore, hW, List.append_assoc, List.singleton_append], ?_⟩
    intro p hp
    rcases List.mem_append.mp hp with hp | hp
    · have := hin p hp; omega
    · simp only [List.mem_singleton] at hp; subst hp; simp only; omega

theorem memLoad_eq_readLE (m : Mem) (b : ByteArray) : ∀ (n A a : Nat),
    (∀ i, i < n → memRead m (A + i) = (b.get! (a + i)).toNat) → memLoad m A n = readLE b a n := by
  intro n
  induction n with
  | zero => intro A a _; rfl
  | succ n ih =>
    intro A a h
    rw [memLoad, readLE_succ, ih (A + 1) (a + 1)]
    · have := h 0 (by omega)
      simp only [Nat.add_zero] at this
      rw [this]
    · intro i hi
      have := h (i + 1) (by omega)
      rw [show A + 1 + i = A + (i + 1) by omega, show a + 1 + i = a + (i + 1) by omega]
      exact this

theorem memLoad_bytesAt (m : Mem) : ∀ (n A v : Nat), BytesAt m A v n → memLoad m A n = v % 256 ^ n := by
  intro n
  induction n with
  | zero => intro A v _; simp [memLoad, Nat.mod_one]
  | succ n ih =>
    intro A v h
    rw [memLoad, ih (A + 1) (v / 256)]
    · have := h 0 (by omega)
      simp only [Nat.add_zero, Nat.pow_zero, Nat.div_one] at this
      rw [this, Nat.pow_succ, Nat.mul_comm (256 ^ n) 256, Nat.mod_mul]
    · intro i hi
      have := h (i + 1) (by omega)
      rw [show A + 1 + i = A + (i + 1) by omega, this, Nat.pow_succ, Nat.mul_comm, Nat.div_div_eq_div_mul]

theorem pow256 (n : Nat) : 256 ^ n = 2 ^ (8 * n) := by rw [Nat.pow_mul]

theorem byte_mod (v n i : Nat) (h : i < n) : v % 2 ^ (8 * n) / 256 ^ i % 256 = v / 256 ^ i % 256 := by
  have e2 : (256 : Nat) = 2 ^ 8 := rfl
  rw [pow256, e2, ← Nat.shiftRight_eq_div_pow, ← Nat.shiftRight_eq_div_pow]
  apply Nat.eq_of_testBit_eq
  intro k
  simp only [Nat.testBit_mod_two_pow, Nat.testBit_shiftRight]
  by_cases hk : k < 8
  · have : 8 * i + k < 8 * n := by omega
    simp [hk, this]
  · simp [hk]

end Wz.Proofs.FrontMem
