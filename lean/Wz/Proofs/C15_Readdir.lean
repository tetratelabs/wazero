/- Lemmas for C15: fd_readdir — `maxDirents` and `writeDirents` agree: the writer never leaves the `bufToWrite`
bytes that `maxDirents` computed, for every listing and every buffer length. Core Lean only. -/
import Wz.Model.WasiFs2

namespace Wz.C15
open Wz.Model Wz.Model.Wasi Wz.Gen.Wasi

theorem wdl_zero (len : Nat) (skip : Option Nat) (names : List Nat) (i pos : Nat) :
    writeDirentsLoop len skip names 0 i pos = some pos := by
  cases names <;> rfl

theorem wdl_fit (len : Nat) (skip : Option Nat) (n : Nat) (rest : List Nat) (k i pos : Nat) (h32 : len < 4294967296)
    (hfit : pos + (24 + n) ≤ len) (hskip : skip ≠ some i) :
    writeDirentsLoop len skip (n :: rest) (k + 1) i pos = writeDirentsLoop len skip rest k (i + 1) (pos + (24 + n)) := by
  conv => lhs; unfold writeDirentsLoop
  have hw2 : w32 (pos + 24) = pos + 24 := by unfold w32; omega
  have hw3 : w32 (pos + 24 + w32 n) = pos + (24 + n) := by unfold w32; omega
  rw [if_neg (by omega : ¬ pos > len), if_neg (by omega : ¬ len - pos < 24), hw2, if_neg hskip,
    if_neg (by omega : ¬ pos + 24 > len), hw3]

theorem wdl_skip (len : Nat) (n : Nat) (rest : List Nat) (k i pos : Nat) (h32 : len < 4294967296)
    (hfit : pos + 24 ≤ len) :
    writeDirentsLoop len (some i) (n :: rest) (k + 1) i pos = writeDirentsLoop len (some i) rest k (i + 1) (pos + 24) := by
  conv => lhs; unfold writeDirentsLoop
  have hw2 : w32 (pos + 24) = pos + 24 := by unfold w32; omega
  rw [if_neg (by omega : ¬ pos > len), if_neg (by omega : ¬ len - pos < 24), hw2, if_pos rfl]

/-- `maxDirentsLoop`, started with `rem` bytes left, `btw` bytes accounted for and `cnt` entries counted, has answered
`(B, C, T)`: where the answer lies, and that each of the three ways in which `writeDirents` runs the writer succeeds
on a view of `B` bytes from the same state (`btw` = position of the writer, `cnt` = index of the next entry). -/
structure LockStep (names : List Nat) (rem btw cnt B C T : Nat) : Prop where
  le_B : btw ≤ B
  B_le : B ≤ btw + rem
  le_C : cnt ≤ C
  counted : 0 < T → cnt + 1 ≤ C
  whole : T = 0 → (writeDirentsLoop B none names (C - cnt) cnt btw).isSome = true
  /-- too little left for a header: the truncated entry is not written -/
  noHeader : 0 < T → T < 24 → (writeDirentsLoop B none names (C - cnt - 1) cnt btw).isSome = true
  /-- a header fits: the truncated entry is written without its name -/
  bareHeader : 24 ≤ T → (writeDirentsLoop B (some (C - 1)) names (C - cnt) cnt btw).isSome = true

/-- `maxDirents` and `writeDirents` in lock step, from any loop state.  With host names shorter than 4 GiB - 48
`maxDirents` does not hit "invalid filename: too large". -/
theorem dirents_ok : ∀ (names : List Nat) (rem btw cnt : Nat),
    (∀ n ∈ names, n < 4294967248) → btw + rem < 4294967296 →
    ∃ B C T, maxDirentsLoop names rem btw cnt = some (B, C, T) ∧ LockStep names rem btw cnt B C T := by
  intro names
  have stop : ∀ names rem btw cnt, LockStep names rem btw cnt btw cnt 0 := fun names rem btw cnt =>
    ⟨Nat.le_refl _, Nat.le_add_right _ _, Nat.le_refl _, nofun, fun _ => by rw [Nat.sub_self, wdl_zero]; rfl, nofun, nofun⟩
  induction names with
  | nil =>
    intro rem btw cnt _ _
    exact ⟨btw, cnt, 0, rfl, stop _ _ _ _⟩
  | cons n rest ih =>
    intro rem btw cnt hn hlt
    have hn0 : n < 4294967248 := hn n List.mem_cons_self
    unfold maxDirentsLoop
    by_cases hrem : rem = 0
    · rw [if_pos hrem]
      exact ⟨btw, cnt, 0, rfl, stop _ _ _ _⟩
    rw [if_neg hrem, if_neg (by unfold largestDirent; omega)]
    dsimp only
    by_cases hfit : 24 + n > rem
    · -- the entry does not fit: truncated, the last one
      rw [if_pos hfit]
      refine ⟨_, _, _, rfl, ?_⟩
      by_cases h24 : rem ≥ 24
      · rw [if_pos h24, show w32 (btw + 24) = btw + 24 by unfold w32; omega]
        refine ⟨by omega, by omega, by omega, fun _ => by omega, fun h => by omega, fun _ h => by omega, fun _ => ?_⟩
        rw [show cnt + 1 - cnt = 0 + 1 by omega, Nat.add_sub_cancel, wdl_skip _ _ _ _ _ _ (by omega) (Nat.le_refl _),
          wdl_zero]
        rfl
      · rw [if_neg h24, show w32 (btw + rem) = btw + rem by unfold w32; omega]
        refine ⟨by omega, by omega, by omega, fun _ => by omega, fun h => by omega, fun _ _ => ?_, fun h => by omega⟩
        rw [show cnt + 1 - cnt - 1 = 0 by omega, wdl_zero]
        rfl
    · -- the entry fits
      rw [if_neg hfit, show w32 (btw + (24 + n)) = btw + (24 + n) by unfold w32; omega]
      obtain ⟨B, C, T, h, k⟩ := ih (rem - (24 + n)) (btw + (24 + n)) (cnt + 1)
        (fun x hx => hn x (List.mem_cons_of_mem _ hx)) (by omega)
      have hB := k.le_B
      have hB' := k.B_le
      have hC := k.le_C
      refine ⟨B, C, T, h, by omega, by omega, by omega, fun h => by have := k.counted h; omega,
        fun hT => ?_, fun hT hT2 => ?_, fun hT => ?_⟩
      · rw [show C - cnt = (C - (cnt + 1)) + 1 by omega, wdl_fit B none n rest _ cnt btw (by omega) hB nofun]
        exact k.whole hT
      · have := k.counted hT
        rw [show C - cnt - 1 = (C - (cnt + 1) - 1) + 1 by omega, wdl_fit B none n rest _ cnt btw (by omega) hB nofun]
        exact k.noHeader hT hT2
      · have := k.counted (by omega)
        rw [show C - cnt = (C - (cnt + 1)) + 1 by omega,
          wdl_fit B _ n rest _ cnt btw (by omega) hB (fun h => by have := Option.some.inj h; omega)]
        exact k.bareHeader hT

/-- the writer stays inside the `bufToWrite` bytes that `maxDirents` computed -/
theorem writeDirents_ok (names : List Nat) (bufLen : Nat) (hn : ∀ n ∈ names, n < 4294967248)
    (hb : bufLen < 4294967296) :
    ∃ B C T, maxDirents names bufLen = some (B, C, T) ∧ (writeDirents B names C T).isSome = true ∧ B ≤ bufLen := by
  obtain ⟨B, C, T, h, k⟩ := dirents_ok names bufLen 0 0 hn (by omega)
  refine ⟨B, C, T, h, ?_, by have := k.B_le; omega⟩
  unfold writeDirents
  split
  · rename_i hT
    split
    · rename_i hT2
      exact k.noHeader hT hT2
    · exact k.bareHeader (by omega)
  · exact k.whole (by omega)

end Wz.C15
