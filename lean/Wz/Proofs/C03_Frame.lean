/- C03 — lemmas about the section-framing / pre-allocation model (core Lean only). -/
import Wz.Model.Frame
import Wz.Proofs.C03_Leb
namespace Wz.C03.Frame
open Wz.Model.Leb128 Wz.Model.Frame Wz.C03.Leb

theorem reserve_capped_le (n r : Nat) : reserve .capped n r ≤ r ∧ reserve .capped n r ≤ n :=
  ⟨Nat.min_le_right n r, Nat.min_le_left n r⟩

theorem u32_len {bs : List Byte} {v n : Nat} (h : decodeUint32 bs = .ok (v, n)) : 1 ≤ n ∧ n ≤ bs.length :=
  have := unsigned_bounds ((decodeUint32_eq bs).symm.trans h)
  ⟨this.1, this.2.2.1⟩

/-- budget of a step result: what was reserved so far plus one unit per byte still to be walked -/
def _root_.Wz.Model.Frame.Step.budget : Step → Nat
  | .stop o => o.alloc
  | .next r o => o.alloc + r.length

theorem budget_ite {c : Prop} [Decidable c] {s t : Step} {x : Nat} (hs : c → s.budget ≤ x) (ht : ¬ c → t.budget ≤ x) :
    (if c then s else t).budget ≤ x := by
  split
  · exact hs ‹_›
  · exact ht ‹_›

/-- `h1` pays for what has been reserved if the walk goes on, `h2` if it stops here. -/
theorem past_budget {id size : Nat} {body : List Byte} {o : Out} {A : Nat}
    (h1 : o.alloc ≤ A + size) (h2 : o.alloc ≤ A + body.length) :
    (past id size body o).budget ≤ A + body.length :=
  budget_ite (fun _ => h2) fun _ => by simp only [Step.budget, List.length_drop]; omega

/-- One section under the repaired decoder: what it reserves is paid for by the bytes it consumes
(id byte, size field, declared size) or, where the walk stops, by the bytes that are left. -/
theorem step_budget_capped (idb : Byte) (rest : List Byte) (o : Out) :
    (step .capped idb rest o).budget ≤ o.alloc + (rest.length + 1) := by
  unfold step
  cases h1 : decodeUint32 rest with
  | error e => exact Nat.le_add_right _ _
  | ok p =>
    obtain ⟨size, n⟩ := p
    have l1 := u32_len h1
    have hbody : (rest.drop n).length + n = rest.length := by rw [List.length_drop]; omega
    simp only []
    generalize rest.drop n = body at hbody ⊢
    refine Nat.le_trans (m := o.alloc + body.length) ?_ (by omega)
    -- The tests of `step` in their order (`budget_ite` for each: `split` on a goal of this size is slow); left
    -- are the sections that read a count: vectors, custom, memory. A reservation is bounded by the bytes of the body
    -- and by the count, hence by the declared size wherever the walk goes on.
    refine budget_ite (fun _ => Nat.le_add_right _ _) fun _ => budget_ite (fun _ => ?_) fun _ =>
      budget_ite (fun _ => ?_) fun _ => budget_ite (fun _ => ?_) fun _ =>
        past_budget (Nat.le_add_right _ _) (Nat.le_add_right _ _)
    · cases h2 : decodeUint32 body with
      | error e => exact Nat.le_add_right _ _
      | ok q =>
        obtain ⟨cnt, cn⟩ := q
        simp only []
        generalize hr : reserve .capped cnt (body.length - cn) = r
        have hr1 : r ≤ body.length := hr ▸ Nat.le_trans (reserve_capped_le _ _).1 (Nat.sub_le _ _)
        have hr2 : r ≤ cnt := hr ▸ (reserve_capped_le _ _).2
        exact budget_ite (fun _ => by simp only [Step.budget]; omega) fun _ =>
          past_budget (by simp only []; omega) (by simp only []; omega)
    · cases h2 : decodeUint32 body with
      | error e => exact Nat.le_add_right _ _
      | ok q =>
        obtain ⟨nlen, cn⟩ := q
        simp only []
        generalize hal : body.length - cn = al
        have hal' : al ≤ body.length := hal ▸ Nat.sub_le _ _
        generalize hr : reserve .capped nlen al = r
        have hr1 : r ≤ al := hr ▸ (reserve_capped_le _ _).1
        have hr2 : r ≤ nlen := hr ▸ (reserve_capped_le _ _).2
        refine budget_ite (fun _ => by simp only [Step.budget]; omega) fun hn =>
          budget_ite (fun _ => by simp only [Step.budget]; omega) fun _ => ?_
        generalize hp : (if ((body.drop cn).take nlen == nameBytes) = true then 0
          else reserve .capped (size - (nlen + cn)) (al - nlen)) = p
        have hp1 : p ≤ reserve .capped (size - (nlen + cn)) (al - nlen) := by
          rw [← hp]; split
          · exact Nat.zero_le _
          · exact Nat.le_refl _
        have hp2 : p ≤ size - (nlen + cn) := Nat.le_trans hp1 (reserve_capped_le _ _).2
        -- the name (`r ≤ nlen ≤ al` here) and the payload share the bytes after the length field
        have hp3 : p ≤ al - nlen := Nat.le_trans hp1 (reserve_capped_le _ _).1
        clear hp1 hp hal hr
        exact past_budget (by simp only []; omega) (by simp only []; omega)
    · cases h2 : decodeUint32 body with
      | error e => exact Nat.le_add_right _ _
      | ok q =>
        exact budget_ite (fun _ => Nat.le_add_right _ _) fun _ =>
          past_budget (Nat.le_add_right _ _) (Nat.le_add_right _ _)

theorem sections_alloc_capped : ∀ (f : Nat) (bs : List Byte) (o : Out),
    (sections .capped f bs o).alloc ≤ o.alloc + bs.length := by
  intro f
  induction f with
  | zero => intro bs o; simp [sections]
  | succ f ih =>
    intro bs o
    cases bs with
    | nil => simp [sections]
    | cons idb rest =>
      have hs := step_budget_capped idb rest o
      simp only [sections]
      split
      · rename_i o' heq
        rw [heq] at hs
        simp only [Step.budget, List.length_cons] at hs ⊢
        omega
      · rename_i r o' heq
        rw [heq] at hs
        simp only [Step.budget, List.length_cons] at hs ⊢
        have := ih r o'
        omega

theorem frame_alloc_capped (bs : List Byte) : allocUnits .capped bs ≤ bs.length := by
  unfold allocUnits frame
  split
  · simp
  · split
    · simp
    · have := sections_alloc_capped (bs.length + 1) (bs.drop 8) {}
      simp only [List.length_drop] at this
      omega

end Wz.C03.Frame
