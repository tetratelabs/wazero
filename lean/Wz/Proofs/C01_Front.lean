/-
C01 (front end): the translation of straight-line integer code to SSA preserves the semantics.
The base fragment sits inside the extended one of `Wz.Model.FrontendSLX` (`toX`), and there the extension changes
nothing, for any `f`, well typed or not: the type check (`tcBodyX_base`), the translation (`lowerX_toX`), the reference
semantics (`runSpecX_toX`) and — the emitted code having no branch, and `lowerSL f` being the one-block function `sb` of
`C01_Front_WF` (`lowerSL_eq_sb`) — the wrapped SSA semantics (`runX_toX`) are those of the base fragment.  So
`lower_refines_full` is `lowerX_refines_full` of `C01_FrontX` at `toX f`; `lower_refines` is its first part.
-/
import Wz.Proofs.C01_FrontX
import Wz.Proofs.C01_Front_WF

namespace Wz.Proofs.Front
open Wz.Spec Wz.Model.SsaPass Wz.Model.FrontendSL Wz.Model.FrontendSLX

theorem tcBodyX_base (lt res : List Ty) : ∀ (body : List SI) (tys : List Ty),
    tcBodyX lt res (body.map .base) tys = tcBody lt res body tys
  | [], _ => rfl
  | i :: is, tys => by
    by_cases hi : i = .ret
    · subst hi; rfl
    · rw [tcBody_cons_eq is tys hi, List.map_cons, tcBodyX_cons_eq _ tys (fun h => hi (SIX.base.inj h))]
      show (match tcStep lt i tys with | some s' => tcBodyX lt res (is.map .base) s' | none => false) = _
      cases tcStep lt i tys with
      | some s' => exact tcBodyX_base lt res is s'
      | none => rfl

theorem lowerBodyX_base (nres : Nat) : ∀ (body : List SI) (s : LS),
    lowerBodyX nres (body.map .base) s = (lowerBody nres body s).map .base
  | [], _ => rfl
  | i :: is, s => by
    by_cases hi : i = .ret
    · subst hi; rfl
    · rw [lowerBody_cons nres is s hi, List.map_append, ← lowerBodyX_base nres is]
      exact lowerBodyX_cons nres _ s (fun h => hi (SIX.base.inj h))

theorem lowerX_toX (f : Fn) : lowerX (toX f) = ⟨entryParams f, (entryInstrs f).map .base⟩ := by
  show XFunc.mk _ ((initLS f).1.map .base ++ lowerBodyX f.results.length (f.body.map .base) (initLS f).2) = _
  rw [lowerBodyX_base, ← List.map_append]
  rfl

theorem runSpecX_toX (f : Fn) (args : List Nat) (n : Nat) : runSpecX (toX f) args n = runSpec f args n := by
  have : (toX f).toModule = f.toModule := by
    simp only [FnX.toModule, Fn.toModule, toX, List.map_map]
    rfl
  simp only [runSpecX, runSpec, this]

theorem execBodyX_base (w : World) (is : List Instr) (st : St) :
    execBodyX w (is.map .base) st = execBody w [] is st := by
  have h1 := execBodyX_pre w is [] st
  have h2 := execBody_pre w is [] st
  rw [List.append_nil] at h1 h2
  rw [h1, h2]
  cases execPre w is st <;> rfl

/-- with a branch `run` would go on in the target block, where `runX` has nowhere to go: hence `hbr` -/
theorem runX_base (w : World) (ps : List (Val × Ty)) (is : List Instr) (hbr : ∀ i ∈ is, i.branch? = none)
    (args : List Nat) (fuel : Nat) :
    runX w ⟨ps, is.map .base⟩ args = run w (sb ps is) args (fuel + 1) := by
  have hent : (sb ps is).entry = 0 := rfl
  have hal : (sb ps is).alias = [] := rfl
  simp only [runX, run, runFrom, hent, hal, findBlock_sb, execBodyX_base]
  split
  · rfl
  · cases ho : execBody w [] is _ with
    | none => rfl
    | some c =>
      cases c with
      | goto b as st' =>
        obtain ⟨i, hi, hb⟩ := List.mem_filterMap.mp (execBody_goto_succ w [] is _ b as st' ho)
        rw [hbr i hi] at hb
        cases hb
      | _ => rfl

theorem lowerSL_eq_sb (f : Fn) : lowerSL f = sb (entryParams f) (entryInstrs f) := rfl

theorem runX_toX (w : World) (f : Fn) (args : List Nat) (fuel : Nat) :
    runX w (lowerX (toX f)) args = run w (lowerSL f) args (fuel + 1) := by
  rw [lowerX_toX, lowerSL_eq_sb]
  exact runX_base w _ _ (entryInstrs_noBranch f) args fuel

theorem lower_refines_full (f : Fn) (hwt : wellTyped f = true) (args : List Nat) (hargs : ArgsOK f args)
    (w : World) (ec mc : Nat) (fuel n : Nat) (hn : f.body.length + 3 ≤ n) :
    run w (lowerSL f) (ec :: mc :: args) (fuel + 1) = ofSpec (runSpec f args n) ∧
    ofSsa (run w (lowerSL f) (ec :: mc :: args) (fuel + 1)) = runSpec f args n ∧
    runSpec f args n ≠ .exhausted := by
  have h := lowerX_refines_full (toX f) ((tcBodyX_base ..).trans hwt) args hargs w ec mc n
    (by rw [show (toX f).body.length = f.body.length from List.length_map _]; exact hn)
  rwa [runX_toX w f _ fuel, runSpecX_toX] at h

theorem lower_refines (f : Fn) (hwt : wellTyped f = true) (args : List Nat) (hargs : ArgsOK f args)
    (w : World) (ec mc : Nat) (fuel n : Nat) (hn : f.body.length + 3 ≤ n) :
    run w (lowerSL f) (ec :: mc :: args) (fuel + 1) = ofSpec (runSpec f args n) :=
  (lower_refines_full f hwt args hargs w ec mc fuel n hn).1

end Wz.Proofs.Front
