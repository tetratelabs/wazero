import Wz.Proofs.C01_SsaPass_Basic

/-! Dead-block elimination (`deadBlockElim`) preserves the semantics (`deadBlockElim_sound`) and the list of block ids
(`deadBlockElim_ids`). -/
namespace Wz.Model.SsaPass

theorem mem_insertBy (key : BlockId → Nat) (x y : BlockId) (l : List BlockId) :
    y ∈ insertBy key x l ↔ y = x ∨ y ∈ l := by
  induction l with
  | nil => simp [insertBy]
  | cons z zs ih =>
    simp only [insertBy]
    split
    · simp
    · simp only [List.mem_cons, ih, or_left_comm]

theorem mem_foldl_insertBy (key : BlockId → Nat) (l acc : List BlockId) (y : BlockId) :
    y ∈ l.foldl (fun acc x => insertBy key x acc) acc ↔ y ∈ l ∨ y ∈ acc := by
  induction l generalizing acc with
  | nil => simp
  | cons x xs ih => simp only [List.foldl_cons, ih, mem_insertBy, List.mem_cons, or_left_comm, or_assoc]

theorem mem_sortedSuccs (f : Func) (B : Block) (s : BlockId) : s ∈ f.sortedSuccs B ↔ s ∈ B.succs := by
  simp [Func.sortedSuccs, mem_foldl_insertBy]

def succsOf (f : Func) (b : BlockId) : List BlockId :=
  match f.blockAny b with
  | some B => B.succs
  | none => []

structure ReachInv (f : Func) (stk vis : List BlockId) : Prop where
  closed : ∀ b ∈ vis, ∀ s ∈ succsOf f b, s ∈ vis ∨ s ∈ stk

theorem reachLoop_inv (f : Func) (n : Nat) (stk vis R : List BlockId) :
    ReachInv f stk vis → reachLoop f n stk vis = some R →
      ReachInv f [] R ∧ (∀ b ∈ vis, b ∈ R) ∧ (∀ b ∈ stk, b ∈ R) := by
  fun_induction reachLoop f n stk vis with
  | case1 => nofun
  | case2 n vis => rintro hinv ⟨⟩; exact ⟨hinv, fun _ hb => hb, nofun⟩
  | case3 n b stk vis vis' ss ih =>
    intro hinv h
    -- the visited set after `b` was popped
    have hvis : ∀ x, x ∈ vis' ↔ x = b ∨ x ∈ vis := by
      intro x; simp only [vis']; split
      · exact ⟨Or.inr, fun h => h.elim (fun h => h ▸ ‹b ∈ vis›) id⟩
      · exact List.mem_cons
    obtain ⟨h1, h2, h3⟩ := ih (by
      constructor
      intro x hx s hs
      rcases (hvis x).mp hx with rfl | hxv
      · -- the successors of `b` that are not visited were pushed
        by_cases hsv : s ∈ vis'
        · exact Or.inl hsv
        · refine Or.inr (List.mem_append_left _ (List.mem_reverse.mpr ?_))
          simp only [succsOf] at hs
          simp only [ss]
          cases hB : f.blockAny x with
          | none => simp [hB] at hs
          | some B =>
            simp only [hB] at hs
            exact List.mem_filter.mpr ⟨(mem_sortedSuccs f B s).mpr hs, by simpa using hsv⟩
      · rcases hinv.closed x hxv s hs with h | h
        · exact Or.inl ((hvis s).mpr (Or.inr h))
        · rcases List.mem_cons.mp h with rfl | h
          · exact Or.inl ((hvis s).mpr (Or.inl rfl))
          · exact Or.inr (List.mem_append_right _ h)) h
    refine ⟨h1, fun x hx => h2 x ((hvis x).mpr (Or.inr hx)), fun x hx => ?_⟩
    rcases List.mem_cons.mp hx with rfl | hx
    · exact h2 _ ((hvis x).mpr (Or.inl rfl))
    · exact h3 x (List.mem_append_right _ hx)
theorem reachable_closed {f : Func} {R : List BlockId} (h : reachable f = some R) :
    f.entry ∈ R ∧ ∀ b ∈ R, ∀ s ∈ succsOf f b, s ∈ R := by
  obtain ⟨h1, _, h3⟩ := reachLoop_inv f _ _ _ R ⟨fun _ hb => by cases hb⟩ h
  refine ⟨h3 _ (List.mem_cons_self ..), fun b hb s hs => ?_⟩
  cases h1.closed b hb s hs with
  | inl h => exact h
  | inr h => cases h

theorem blockAny_of_mem {f : Func} (hu : UniqueIds f) {B : Block} (hB : B ∈ f.blocks) :
    f.blockAny B.id = some B := find_of_nodup_ids f.blocks hu hB

theorem findBlock_deadBlock (f : Func) {R : List BlockId} {b : BlockId} (hb : b ∈ R) :
    ({ f with blocks := f.blocks.map (fun B => if B.id ∈ R then B else { B with invalid := true }) } : Func).findBlock b =
    f.findBlock b := by
  simp only [Func.findBlock]
  induction f.blocks with
  | nil => rfl
  | cons C Cs ih =>
    simp only [List.map_cons, List.find?_cons, ih]
    by_cases hid : C.id = b
    · simp [hid, hb]
    · by_cases hC : C.id ∈ R <;> simp [hid, hC]

/-- **Dead-block elimination is sound**: a run from a block of the visited set stays in it, where both functions
have the same blocks.  `hu`: the pass looks a block up by its id among all blocks (`blockAny`), the run among the valid
ones (`findBlock`); with distinct ids both find the same block. -/
theorem deadBlockElim_sound (w : World) (f : Func) (hu : UniqueIds f) (args : List Nat) (fuel : Nat) :
    run w (deadBlockElim f) args fuel = run w f args fuel := by
  unfold deadBlockElim
  cases hR : reachable f with
  | none => rfl
  | some R =>
    obtain ⟨hentry, hclosed⟩ := reachable_closed hR
    simp only [run]
    rw [entry_map f _ (fun B => by split <;> rfl)]
    refine (run_sim_driver w f _ id (fun b as as' st st' => b ∈ R ∧ as' = as ∧ st' = st) ?_ ?_
      fuel _ args args _ _ ⟨hentry, rfl, rfl⟩).symm
    · intro b as as' st st' her
      rw [findBlock_deadBlock f her.1]; exact Option.map_id'.symm
    · rintro b as _ st _ B ⟨hb, rfl, rfl⟩ hfb
      refine ⟨Iff.rfl, fun _ => BodyOut.refl _ (fun b' as' st' hex => ⟨?_, rfl, rfl⟩)⟩
      obtain ⟨hBm, rfl, _⟩ := findBlock_mem hfb
      apply hclosed _ hb
      simp only [succsOf, blockAny_of_mem hu hBm]
      exact execBody_goto_succ w _ _ _ _ _ _ hex

theorem deadBlockElim_ids (f : Func) : (deadBlockElim f).blocks.map (·.id) = f.blocks.map (·.id) := by
  unfold deadBlockElim
  cases reachable f with
  | none => rfl
  | some vis =>
    simp only [List.map_map]
    apply List.map_congr_left
    intro B _
    simp only [Function.comp_apply]
    split <;> rfl

theorem uniqueIds_of_deadBlockElim {f : Func} (h : UniqueIds (deadBlockElim f)) : UniqueIds f := by
  rwa [UniqueIds, deadBlockElim_ids] at h

end Wz.Model.SsaPass
