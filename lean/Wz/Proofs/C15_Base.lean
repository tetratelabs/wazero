/- Lemmas for C15: the memory guard, writes that are in place (`Placed`), answers that are in order (`Safe`, `Fine`),
the regions named by an iovec array and the walk of `writev` over it. Core Lean only. -/
import Wz.Model.WasiFs2

namespace Wz.C15
open Wz.Model Wz.Model.Wasi Wz.Model.DescTable Wz.Gen.Wasi

/-- `iteInduction` with the motive in front (unification cannot find it).  Unlike `split` it does not touch the two
branches, which matters for the deeply nested tests of the models. -/
theorem ifElim {α : Sort _} (Q : α → Prop) {c : Prop} [Decidable c] {a b : α} (ha : c → Q a) (hb : ¬ c → Q b) :
    Q (if c then a else b) :=
  iteInduction ha hb

theorem has_iff (m : Mem) (off cnt : Nat) (ho : off < 4294967296) (hc : cnt < 4294967296)
    (hs : m.size < 9223372036854775808) : m.has off cnt = true ↔ off + cnt ≤ m.size := by
  unfold Mem.has Wz.Gen.Memory.hasSize
  simp only [BitVec.ule, decide_eq_true_eq, BitVec.toNat_add, BitVec.toNat_setWidth, BitVec.toNat_ofNat]
  omega

theorem has_le (m : Mem) (off cnt : Nat) (ho : off < 4294967296) (hc : cnt < 4294967296)
    (hs : m.size < 9223372036854775808) (h : m.has off cnt = true) : off + cnt ≤ m.size :=
  (has_iff m off cnt ho hc hs).1 h

theorem has_of_not {m : Mem} {off cnt : Nat} (h : ¬ (!m.has off cnt) = true) : m.has off cnt = true := by
  simpa using h

theorem has_congr {m m' : Mem} (h : m'.size = m.size) (off cnt : Nat) : m'.has off cnt = m.has off cnt := by
  unfold Mem.has
  rw [h]

theorem w32_lt (x : Nat) : w32 x < 4294967296 := by unfold w32; omega

theorem stop8 (cnt : Nat) : w32 (cnt * 8) % 8 = 0 := by unfold w32; omega

theorem bytesLE_length (n v : Nat) : (bytesLE n v).length = n := by simp [bytesLE]

def Bytes (m : Mem) : Prop := ∀ a, m.get a < 256

theorem le32_lt (m : Mem) (hb : Bytes m) (a : Nat) : le32 m a < 4294967296 := by
  unfold le32
  have h0 := hb a
  have h1 := hb (a + 1)
  have h2 := hb (a + 2)
  have h3 := hb (a + 3)
  omega

variable {m : Mem} {d : List (Nat × Nat)}

/-- The write lies inside the regions `d` and inside the memory.  Stated for memories below 2^63 bytes, the only
ones on which the guard is exact (`has_iff`), and the second part for memories that hold bytes, so that a 32-bit
field read from the memory is a 32-bit number (`le32_lt`): only the statements about where a call writes carry
the two conditions. -/
def Placed (m : Mem) (d : List (Nat × Nat)) (w : Wr) : Prop :=
  m.size < 9223372036854775808 → Wr.within w d ∧ (Bytes m → w.len = 0 ∨ w.off + w.len ≤ m.size)

theorem placed_in {w : Wr} {off cnt n : Nat} (hd : (off, n) ∈ d) (hn : cnt ≤ n)
    (hm : m.size < 9223372036854775808 → Bytes m → off + cnt ≤ m.size) (h1 : off ≤ w.off)
    (h2 : w.off + w.len ≤ off + cnt) : Placed m d w :=
  fun hs => ⟨fun a ha1 ha2 => ⟨(off, n), hd, by show off ≤ a; omega, by show a < off + n; omega⟩,
    fun hb => Or.inr (by have := hm hs hb; omega)⟩

theorem placed_has {w : Wr} {off cnt n : Nat} (hh : m.has off cnt = true)
    (ho : off < 4294967296) (hc : cnt < 4294967296) (hd : (off, n) ∈ d) (hn : cnt ≤ n) (h1 : off ≤ w.off)
    (h2 : w.off + w.len ≤ off + cnt) : Placed m d w :=
  placed_in hd hn (fun hs _ => has_le m off cnt ho hc hs hh) h1 h2

theorem placed_iov {w : Wr} {a b n : Nat} (hh : m.has (le32 m a) (le32 m b) = true)
    (hd : (le32 m a, n) ∈ d) (hn : le32 m b ≤ n) (h1 : le32 m a ≤ w.off) (h2 : w.off + w.len ≤ le32 m a + le32 m b) :
    Placed m d w :=
  placed_in hd hn (fun hs hb => has_le m _ _ (le32_lt m hb a) (le32_lt m hb b) hs hh) h1 h2

theorem cell_placed {res : Nat} (v : Nat) (hh : m.has res 4 = true)
    (hr : res < 4294967296) (hd : (res, 4) ∈ d) : Placed m d (Wr.bytes res (bytesLE 4 v)) :=
  placed_has hh hr (by decide) hd (Nat.le_refl _) (Nat.le_refl _)
    (Nat.le_of_eq (congrArg (res + ·) (bytesLE_length 4 v)))

theorem optRegion_placed {off cnt : Nat} (ho : off < 4294967296)
    (hc : cnt < 4294967296) (hd : (off, cnt) ∈ d) : ∀ w ∈ optRegion m off cnt, Placed m d w := by
  unfold optRegion
  split
  · rename_i hh
    exact List.forall_mem_singleton.2 (placed_has hh ho hc hd (Nat.le_refl _) (Nat.le_refl _) (Nat.le_refl _))
  · nofun

theorem optBytes_placed {off n : Nat} {bs : List Nat} (ho : off < 4294967296)
    (hc : bs.length < 4294967296) (hd : (off, n) ∈ d) (hn : bs.length ≤ n) :
    ∀ w ∈ optBytes m off bs, Placed m d w := by
  unfold optBytes
  split
  · rename_i hh
    exact List.forall_mem_singleton.2 (placed_has hh ho hc hd hn (Nat.le_refl _) (Nat.le_refl _))
  · nofun

/-- What C15 asks of one alternative of a call on memory `m`: no host bounds-check failure, every write inside the
memory, a call that does not answer errno 0 leaves the descriptor table alone, and the host allocation caused by
guest numbers is at most one growth step of the descriptor table (512 bytes) — a constant, whatever the arguments. -/
structure Safe (m : Mem) (r : Res) : Prop where
  noPanic : r.err ≠ Err.panic
  inMem : ∀ w ∈ r.writes, w.len = 0 ∨ w.off + w.len ≤ m.size
  table : r.err ≠ Err.errno 0 → r.fds = none
  alloc : r.alloc ≤ 512

/-- `Safe` with "inside the memory" sharpened to `Placed m d`: every write also lies inside the regions `d` (under the
dispatcher: the regions the signature of the call designates). -/
structure Fine (m : Mem) (d : List (Nat × Nat)) (r : Res) : Prop where
  noPanic : r.err ≠ Err.panic
  placed : ∀ w ∈ r.writes, Placed m d w
  table : r.err ≠ Err.errno 0 → r.fds = none
  alloc : r.alloc ≤ 512

theorem Fine.safe {r : Res} (h : Fine m d r) (hb : Bytes m)
    (hs : m.size < 9223372036854775808) : Safe m r :=
  ⟨h.noPanic, fun w hw => (h.placed w hw hs).2 hb, h.table, h.alloc⟩

theorem fine_lit {e : Err} {acc : List (Nat × Nat)} {ws : List Wr}
    (he : e ≠ Err.panic) (hw : ∀ w ∈ ws, Placed m d w) : Fine m d { err := e, acc := acc, writes := ws } :=
  ⟨he, hw, fun _ => rfl, Nat.zero_le _⟩

theorem safe_lit {e : Err} {acc : List (Nat × Nat)} {ws : List Wr} (he : e ≠ Err.panic)
    (hw : ∀ w ∈ ws, w.len = 0 ∨ w.off + w.len ≤ m.size) : Safe m { err := e, acc := acc, writes := ws } :=
  ⟨he, hw, fun _ => rfl, Nat.zero_le _⟩

theorem fine_err {e : Err} (he : e ≠ Err.panic) : Fine m d { err := e } :=
  fine_lit he nofun

/-- the call neither touches the descriptor table nor makes the host allocate by guest numbers -/
def Quiet (r : Res) : Prop := r.fds = none ∧ r.alloc = 0

def AllFine (m : Mem) (d : List (Nat × Nat)) (rs : List Res) : Prop := ∀ r ∈ rs, Fine m d r

/-- `AllFine` in the shape of what holds of sock_recv (safe whatever the variant, `Fine` under a condition `c` on the
variant), so that one statement covers sock_recv and the functions that are `Fine` outright; `c` plays no part here. -/
theorem AllFine.cond {rs : List Res} (h : AllFine m d rs) (hs : m.size < 9223372036854775808) {c : Prop} :
    ∀ r ∈ rs, (Bytes m → Safe m r) ∧ (c → Fine m d r) :=
  fun r hr => ⟨fun hb => (h r hr).safe hb hs, fun _ => h r hr⟩

theorem allFine_rE {e : Err} (he : e ≠ Err.panic) : AllFine m d (rE e) :=
  List.forall_mem_singleton.2 (fine_err he)

theorem iovRegions_elim (m : Mem) (iovs : Nat) : ∀ (cnt j : Nat), ∀ r ∈ iovRegions m iovs cnt j,
    ∃ i, j ≤ i ∧ i < j + cnt ∧ iovs + 8 * i + 8 ≤ m.size ∧ r = (le32 m (iovs + 8 * i), le32 m (iovs + 8 * i + 4)) := by
  intro cnt
  induction cnt with
  | zero => intro j r hr; cases hr
  | succ cnt ih =>
    intro j r hr
    unfold iovRegions at hr
    split at hr
    · rename_i hc
      rcases List.mem_cons.1 hr with rfl | h
      · exact ⟨j, Nat.le_refl _, by omega, hc, rfl⟩
      · obtain ⟨i, h1, h2, h3⟩ := ih _ r h
        exact ⟨i, by omega, by omega, h3⟩
    · cases hr

theorem iovRegions_mem (m : Mem) (iovs : Nat) : ∀ (cnt j i : Nat), j ≤ i → i < j + cnt → iovs + 8 * i + 8 ≤ m.size →
    (le32 m (iovs + 8 * i), le32 m (iovs + 8 * i + 4)) ∈ iovRegions m iovs cnt j := by
  intro cnt
  induction cnt with
  | zero => intro j i h1 h2 _; omega
  | succ cnt ih =>
    intro j i h1 h2 h3
    unfold iovRegions
    have hc : iovs + 8 * j + 8 ≤ m.size := by omega
    rw [if_pos hc]
    by_cases hij : i = j
    · rw [hij]; exact List.mem_cons_self
    · exact List.mem_cons_of_mem _ (ih (j + 1) i (by omega) (by omega) h3)

theorem iovWritable_placed (m : Mem) (iovs cnt : Nat) (rest : List (Nat × Nat)) :
    ∀ w ∈ iovWritable m iovs (w32 (cnt * 8)), Placed m (iovRegions m iovs cnt 0 ++ rest) w := by
  intro w hw
  unfold iovWritable at hw
  simp only [List.mem_map, List.mem_filter] at hw
  obtain ⟨r, ⟨hr, hh⟩, rfl⟩ := hw
  obtain ⟨i, _, hi, hsz, rfl⟩ := iovRegions_elim m iovs _ 0 r hr
  have hk : i < 0 + cnt := by unfold w32 at hi; omega
  exact placed_iov hh (List.mem_append_left _ (iovRegions_mem m iovs cnt 0 i (Nat.zero_le _) hk hsz))
    (Nat.le_refl _) (Nat.le_refl _) (Nat.le_refl _)

/-- `writev`: on an iovec array whose byte length is a multiple of 8 the reads of the entries never fail their
length checks, whatever the entries say (for `readv` see `readvLoop_inv`) -/
theorem writevLoop_ne_panic (w : Writer) (m : Mem) (iovs stop : Nat) (h8 : stop % 8 = 0) (hs : stop < 4294967296) :
    ∀ (fuel pos : Nat) (acc : List (Nat × Nat)) (nw : Nat), pos % 8 = 0 →
      (writevLoop w m iovs stop fuel pos acc nw).2.2 ≠ some Err.panic := by
  intro fuel
  induction fuel with
  | zero => intro pos acc nw _; nofun
  | succ fuel ih =>
    intro pos acc nw hp
    have hn : w32 (pos + 8) % 8 = 0 := by unfold w32; omega
    let Q : List (Nat × Nat) × Nat × Option Err → Prop := fun r => r.2.2 ≠ some Err.panic
    show Q _
    unfold writevLoop
    refine ifElim Q (fun _ => nofun) (fun _ => ?_)
    rw [if_neg (by omega : ¬ pos + 4 > stop)]
    dsimp only
    rw [if_neg (by unfold w32; omega : ¬ (w32 (pos + 4) > stop ∨ w32 (pos + 4) + 4 > stop))]
    refine ifElim Q (fun _ => nofun) (fun _ => ?_)
    cases w with
    | enosysNE =>
      exact ifElim Q (fun _ => ih _ _ _ hn) (fun _ => nofun)
    | accept => exact ih _ _ _ hn
    | enosys => nofun
    | unknown => nofun

end Wz.C15
