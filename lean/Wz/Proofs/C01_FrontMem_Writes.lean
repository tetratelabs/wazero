/-
C02 (front end with memory accesses): `finalMem`, the memory in which an outcome of the SSA semantics ends (a run that
returns or traps), in which `Wz.C01.frontmem_writes_confined` is stated.
-/
import Wz.Model.SsaPass

namespace Wz.Proofs.FrontMem
open Wz.Model.SsaPass

def finalMem : Outcome → Option Mem
  | .values _ m _ => some m
  | .trap _ m _ => some m
  | _ => none

end Wz.Proofs.FrontMem
