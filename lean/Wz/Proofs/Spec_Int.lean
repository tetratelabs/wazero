/-
Facts about the specification's integer operations (`Wz.Spec.Int`) alone: division and remainder are `BitVec`'s behind
the test of the divisor, and counting never goes beyond the number of bits looked at.
-/
import Wz.Spec.Int

namespace Wz.Proofs.SpecInt
open Wz.Spec

theorem toNat_eq_zero {n : Nat} (b : BitVec n) : b.toNat = 0 ↔ b = 0#n := BitVec.toNat_inj (y := 0#n)

theorem toInt_eq_zero {n : Nat} (b : BitVec n) : b.toInt = 0 ↔ b = 0#n := by
  rw [← BitVec.toInt_zero, BitVec.toInt_inj]

theorem idivU_eq {n : Nat} (a b : BitVec n) : Int.idivU a b = if b == 0#n then none else some (a / b) := by
  simp only [Int.idivU, toNat_eq_zero, ← BitVec.udiv_def, beq_iff_eq]

theorem iremU_eq {n : Nat} (a b : BitVec n) : Int.iremU a b = if b == 0#n then none else some (a % b) := by
  simp only [Int.iremU, toNat_eq_zero, ← BitVec.umod_def, beq_iff_eq]

theorem iremS_eq {n : Nat} (a b : BitVec n) : Int.iremS a b = if b == 0#n then none else some (a.srem b) := by
  simp only [Int.iremS, toInt_eq_zero, ← BitVec.toInt_srem, BitVec.ofInt_toInt, beq_iff_eq]

/-- the quotient is unrepresentable in exactly one case; in every other `BitVec.sdiv` is the truncated quotient -/
theorem idivS_eq {n : Nat} (a b : BitVec n) : Int.idivS a b =
    if b == 0#n then none else if a == BitVec.intMin n && b == -1#n then none else some (a.sdiv b) := by
  simp only [Int.idivS, toInt_eq_zero, beq_iff_eq, Bool.and_eq_true]
  refine ite_congr rfl (fun _ => rfl) (fun hb => ?_)
  have hn : 0 < n := Nat.pos_of_ne_zero fun h => hb (by subst h; exact BitVec.eq_nil b)
  by_cases h : a = BitVec.intMin n ∧ b = -1#n
  · obtain ⟨rfl, rfl⟩ := h
    have h1 : (BitVec.intMin n).toInt = -2 ^ (n - 1) := BitVec.toInt_intMin_of_pos hn
    have h2 : (-1#n).toInt = -1 := by
      rw [BitVec.neg_one_eq_allOnes, BitVec.toInt_allOnes]; simp [hn]
    simp [h1, h2]
  · have hs := BitVec.toInt_sdiv_of_ne_or_ne a b (by
      by_cases ha : a = BitVec.intMin n
      · exact .inr fun hb1 => h ⟨ha, hb1⟩
      · exact .inl ha)
    have hlt := @BitVec.toInt_lt n (a.sdiv b)
    rw [← hs, if_neg h, if_neg (by omega), BitVec.ofInt_toInt]

theorem ieqz_eq {n : Nat} (a : BitVec n) : Int.ieqz a = Int.b2i (a == 0#n) :=
  congrArg Int.b2i (decide_eq_decide.mpr (toNat_eq_zero a))

theorem clzAux_le {n} (a : BitVec n) (k : Nat) : Int.clzAux a k ≤ k := by
  induction k with
  | zero => simp [Int.clzAux]
  | succ k ih => simp only [Int.clzAux]; split <;> omega

theorem ctzAux_le {n} (a : BitVec n) (i k : Nat) : Int.ctzAux a i k ≤ k := by
  induction k generalizing i with
  | zero => simp [Int.ctzAux]
  | succ k ih =>
    simp only [Int.ctzAux]
    have := ih (i + 1)
    split <;> omega

theorem popAux_le {n} (a : BitVec n) (k : Nat) : Int.popAux a k ≤ k := by
  induction k with
  | zero => simp [Int.popAux]
  | succ k ih => simp only [Int.popAux]; split <;> omega

end Wz.Proofs.SpecInt
