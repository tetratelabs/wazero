import Wz.Proofs.C01_SsaPass_Inv

/-! `nopElim` (passNopInstElimination) preserves the semantics of well-formed functions, and well-formedness. -/
namespace Wz.Model.SsaPass

theorem nopRule_spec {f : Func} {i : Instr} {r x : Val} : nopRule f i = some (r, x) →
    ∃ op ty y cty k, i = .bin op r ty x y ∧ isShift op ∧ Instr.iconst y cty k ∈ f.allInstrs ∧
      k % 2 ^ 64 % ty.bits = 0 := by
  fun_cases nopRule f i <;> intro h <;> try (cases h; done)
  -- the rule fires: the amount `y` is the result of the constant that `defInstr` finds
  next op r' ty x' y hop r0 cty k hdef hk =>
    cases h
    obtain rfl : y = r0 := by simpa [Instr.results] using List.find?_some hdef
    exact ⟨op, ty, y, cty, k, rfl, hop, List.mem_of_find?_eq_some hdef, hk⟩

/-- the rule fires on the shift `.bin op r ty x y` by the constant `k` (the value of `y`); it gives the alias `r ↦ x` -/
structure NopStep (c : Cert) (f : Func) (B0 : Block) (op : BinOp) (r : Val) (ty : Ty) (x y : Val) (cty : Ty)
    (k : Nat) : Prop where
  wf : WF c f
  block : B0 ∈ f.blocks
  valid : B0.invalid = false
  instr : .bin op r ty x y ∈ B0.instrs
  shift : isShift op
  const : .iconst y cty k ∈ f.allInstrs
  amount : k % 2 ^ 64 % ty.bits = 0
  key : aliasGet f.alias r = none

section step
variable {c : Cert} {f : Func} {B0 : Block} {op : BinOp} {r : Val} {ty : Ty} {x y : Val} {cty : Ty} {k : Nat}
  (h : NopStep c f B0 op r ty x y cty k)
include h

theorem NopStep.mem : .bin op r ty x y ∈ f.allInstrs := mem_allInstrs.mpr ⟨B0, h.block, h.instr⟩

/-- the shifted operand resolves like a value available at the shift, so below the result, and has the type of
the shift -/
theorem NopStep.aliasStep : AliasStep c f r x := by
  obtain ⟨V, hok, _⟩ := h.wf.instrOK h.block h.valid h.instr
  obtain ⟨v, hv, hxv⟩ := hok.operands x (by simp [Instr.operands])
  have := (hok.rank r (by simp [Instr.results])).1 v hv
  have := rank_res_le h.wf.alRank v
  refine ⟨h.wf, h.key, by rw [hxv]; omega, ?_, fun ty' k' hc => ?_⟩
  · rw [cty_res h.wf.alTy x, hok.shift h.shift]
    exact hok.typed (r, ty) (List.mem_singleton_self _)
  · -- the instruction that defines `r` is a shift, not a constant
    exact nomatch instr_unique h.wf.uniq hc h.mem (List.mem_singleton_self r) (List.mem_singleton_self r)

theorem NopStep.def_eq {B : Block} (hB : B ∈ f.blocks) {i : Instr} (hi : i ∈ B.instrs) (hr : r ∈ i.results) :
    i = .bin op r ty x y :=
  instr_unique h.wf.uniq (mem_allInstrs.mpr ⟨B, hB, hi⟩) h.mem hr (List.mem_singleton_self r)

theorem NopStep.not_param {T : Block} (hT : T ∈ f.blocks) : r ∉ T.params.map (·.1) :=
  fun hr => param_not_result h.wf.uniq hT hr h.mem (List.mem_singleton_self r)

/-- The shift writes to `r` what `x` resolves to: the amount is available, so it holds its constant, a multiple of
the width; the shifted value is within its type. -/
theorem NopStep.shift_value (w : World) {B : Block} {V : List Val} {st : St}
    (hok : InstrOK c f B V (.bin op r ty x y)) (hinv : Inv c f r x V st) :
    (execInstr w (fun v => st.env (res f.alias v)) (.bin op r ty x y) st).st.env (res f.alias x) =
      (execInstr w (fun v => st.env (res f.alias v)) (.bin op r ty x y) st).st.env r := by
  have hamt : st.env (res f.alias y) = norm cty k := by
    obtain ⟨vy, hvy, hyv⟩ := hok.operands y (by simp [Instr.operands])
    -- a constant has no alias
    have hy : res f.alias y = y := res_of_none (h.wf.constKey _ h.const)
    rw [hy] at hyv ⊢
    exact (hyv ▸ hinv.post vy hvy).2 cty k h.const
  have hlt : st.env (res f.alias x) < 2 ^ ty.bits := by
    have := hinv.ty (res f.alias x)
    rwa [cty_res h.wf.alTy x, hok.shift h.shift] at this
  -- the write to `r` does not reach what `x` resolves to, and what is written is the shifted value itself
  have hne : res f.alias x ≠ r := h.aliasStep.ne
  have hval := evalBin_shift_zero h.shift ty hlt (amount_zero cty ty k h.amount)
  simp only [execInstr, Ctl.st, St.set, upd, if_neg hne, if_pos, hamt, hval]

theorem NopStep.run (w : World) (args : List Nat) (fuel : Nat) :
    run w { f with alias := aliasInsert f.alias r x } args fuel = run w f args fuel :=
  h.aliasStep.run w
    (fun B hB i hiB V st hok hinv hr => by
      obtain rfl := h.def_eq hB hiB hr
      exact h.shift_value w hok hinv)
    (fun _ _ hT hr => absurd hr (h.not_param (findBlock_mem hT).1))
    (fun _ hT => h.not_param (findBlock_mem hT).1) args fuel

theorem NopStep.wf_new : WF c { f with alias := aliasInsert f.alias r x } :=
  h.aliasStep.wf_new (fun _ hT => h.not_param hT) fun B hB i hiB V hok hr => by
    -- the shifted operand is available at the shift
    obtain rfl := h.def_eq hB hiB hr
    exact hok.operands x (by simp [Instr.operands])

end step

theorem nopElim_sound (w : World) {c : Cert} {f : Func} (hwf : WF c f) : Refines w c f (nopElim f) := by
  refine Refines.foldl (fun al => ({ f with alias := al } : Func)) _ _ (fun al i hi hwf => ?_) f.alias hwf
  obtain ⟨B, hBm, hBv, hiB⟩ := (mem_validInstrs (f := f)).mp hi
  show Refines w c _ { f with alias := match nopRule f i with | some (r, x) => aliasInsert al r x | none => al }
  cases hrule : nopRule f i with
  | none => exact .refl hwf
  | some p =>
    obtain ⟨r, x⟩ := p
    rcases aliasInsert_cases al r x with h0 | ⟨_, h2⟩
    · simp only [h0]; exact .refl hwf
    · obtain ⟨op, ty, y, cty, k, rfl, hs, hc, hk⟩ := nopRule_spec hrule
      have hs : NopStep c { f with alias := al } B op r ty x y cty k :=
        ⟨hwf, hBm, hBv, hiB, hs, hc, hk, h2⟩
      exact ⟨hs.run w, hs.wf_new⟩

end Wz.Model.SsaPass
