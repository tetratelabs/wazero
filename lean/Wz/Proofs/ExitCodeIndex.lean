/-
The Go-function index packed into an exit code survives the round trip (shared by C06: error kinds / dispatch,
and C08: the host function that runs is the one the guest called).  About the REGENERATED definitions
`Wz.Gen.CallEngine.*` (wazevoapi/exitcode.go).
-/
import Wz.Gen.CallEngine

namespace Wz.Proofs.ExitCode

/-- `index·256` still fits 32 bits, the shift has made room for the kind byte `c` (so `|||` adds), and the division
drops it again. -/
theorem unpack_pack (c : BitVec 32) (hc : c.toNat < 2 ^ 8) (i : BitVec 64) (h : i.toNat < 2 ^ 24) :
    ((c ||| (i <<< 8).setWidth 32) >>> 8).setWidth 64 = i := by
  apply BitVec.eq_of_toNat_eq
  simp only [BitVec.toNat_setWidth, BitVec.toNat_ushiftRight, BitVec.toNat_or, BitVec.toNat_shiftLeft,
    Nat.shiftRight_eq_div_pow, Nat.shiftLeft_eq]
  have h32 : i.toNat * 2 ^ 8 < 2 ^ 32 := by omega
  rw [Nat.mod_eq_of_lt (Nat.lt_trans h32 (by decide)), Nat.mod_eq_of_lt h32, Nat.mul_comm, Nat.or_comm,
    ← Nat.two_pow_add_eq_or_of_lt hc, Nat.mul_add_div (by decide), Nat.div_eq_of_lt hc, Nat.add_zero,
    Nat.mod_eq_of_lt i.isLt]

theorem roundtrip (i : BitVec 64) (l : Bool) (h : i.toNat < 2 ^ 24) :
    Wz.Gen.CallEngine.GoFunctionIndexFromExitCode (Wz.Gen.CallEngine.ExitCodeCallGoFunctionWithIndex i l) = i ∧
    Wz.Gen.CallEngine.GoFunctionIndexFromExitCode (Wz.Gen.CallEngine.ExitCodeCallGoModuleFunctionWithIndex i l) = i := by
  unfold Wz.Gen.CallEngine.GoFunctionIndexFromExitCode Wz.Gen.CallEngine.ExitCodeCallGoFunctionWithIndex
    Wz.Gen.CallEngine.ExitCodeCallGoModuleFunctionWithIndex
  cases l
  · exact ⟨unpack_pack 6 (by decide) i h, unpack_pack 5 (by decide) i h⟩
  · exact ⟨unpack_pack 17 (by decide) i h, unpack_pack 16 (by decide) i h⟩

end Wz.Proofs.ExitCode
