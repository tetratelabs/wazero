/-
C09 helper lemmas: paths, soundness of the executable reachability, and preservation of the graph
invariant by every primitive.
-/
import Wz.Model.Lifetime

namespace Wz.C09
open Wz.Model.Lifetime

/-- reflexive-transitive closure of an edge list (snoc style: the last edge is exposed) -/
inductive Path (E : List Edge) : Node → Node → Prop
  | refl (a : Node) : Path E a a
  | snoc {a b c : Node} : Path E a b → (b, c) ∈ E → Path E a c

theorem Path.trans {E : List Edge} {a b c : Node} (p : Path E a b) (q : Path E b c) : Path E a c := by
  induction q with
  | refl => exact p
  | snoc _ h ih => exact Path.snoc ih h

theorem Path.mono {E E' : List Edge} (h : ∀ e ∈ E, e ∈ E') {a b : Node} (p : Path E a b) : Path E' a b := by
  induction p with
  | refl => exact Path.refl _
  | snoc _ he ih => exact Path.snoc ih (h _ he)

theorem Path.single {E : List Edge} {a b : Node} (h : (a, b) ∈ E) : Path E a b :=
  Path.snoc (Path.refl a) h

theorem Path.eq_of_no_out {E : List Edge} {a x : Node} (h : ∀ e ∈ E, e.1 ≠ a) (p : Path E a x) : x = a := by
  induction p with
  | refl => rfl
  | snoc _ he ih => subst ih; exact absurd rfl (h _ he)

/-- paths in `(a,b) :: E` either avoid the new edge or end with an old path out of `b` -/
theorem Path.split_new {E : List Edge} {a b e x : Node} (p : Path ((a, b) :: E) e x) :
    Path E e x ∨ (Path ((a, b) :: E) e a ∧ Path E b x) := by
  induction p with
  | refl => exact Or.inl (Path.refl _)
  | @snoc u v q he ih =>
    rcases List.mem_cons.1 he with h | h
    · cases h
      exact Or.inr ⟨q, Path.refl _⟩
    · rcases ih with ih | ⟨ih1, ih2⟩
      · exact Or.inl (Path.snoc ih h)
      · exact Or.inr ⟨ih1, Path.snoc ih2 h⟩

theorem sweep_sound {P : Node → Prop} (L : List Edge) (hL : ∀ e ∈ L, P e.1 → P e.2) (S : List Node)
    (hS : ∀ v ∈ S, P v) : ∀ v ∈ sweep L S, P v := by
  unfold sweep
  refine List.foldlRecOn (motive := fun acc => ∀ v ∈ acc, P v) L _ hS fun acc hacc e he => ?_
  split
  · rename_i hc
    have hsrc : e.1 ∈ acc := List.contains_iff_mem.1 (Bool.and_eq_true_iff.1 hc).1
    exact List.forall_mem_cons.2 ⟨hL e he (hacc _ hsrc), hacc⟩
  · exact hacc

theorem closure_induction {Q : List Node → Prop} {E : List Edge} (hsweep : ∀ S, Q S → Q (sweep E S)) :
    ∀ (n : Nat) (S : List Node), Q S → Q (closure E n S) := by
  intro n
  induction n with
  | zero => exact fun _ hS => hS
  | succ n ih =>
    intro S hS
    unfold closure
    simp only
    split
    · exact hsweep S hS
    · exact ih _ (hsweep S hS)

theorem reachB_sound {E : List Edge} {a b : Node} (h : reachB E a b = true) : Path E a b :=
  closure_induction (Q := fun S => ∀ v ∈ S, Path E a v) (sweep_sound E fun _ he p => p.snoc he) _ [a]
    (fun v hv => by rw [List.mem_singleton.1 hv]; exact Path.refl a) b (List.contains_iff_mem.1 h)

theorem soleOwner_spec {E : List Edge} {x o : Node} (h : soleOwner E x = some o) :
    ∀ u, (u, x) ∈ E → u = o := by
  intro u hu
  unfold soleOwner at h
  have hmem : (u, x) ∈ E.filter (fun e => e.2 == x) := by simp [List.mem_filter, hu]
  split at h
  · rename_i heq; rw [heq] at hmem; cases hmem
  · rename_i e rest heq
    rw [heq] at hmem
    split at h
    · rename_i hall
      obtain rfl : e.1 = o := Option.some.inj h
      rcases List.mem_cons.1 hmem with rfl | h1
      · rfl
      · simpa using List.all_eq_true.1 hall _ h1
    · cases h

/-- Graph invariant.
 * `fresh…`  : node ids are never reused
 * `closed`  : what a live object points to (Go pointer) is live — collector soundness
 * `cov`     : as long as every raw edge passed the shadow check when it was stored, the permanent
               closure of every entry object is closed under raw edges. -/
structure Inv (g : G) : Prop where
  freshLive : ∀ n ∈ g.live, n < g.next
  freshEnt  : ∀ n ∈ g.entries, n < g.next
  freshSrc  : ∀ e ∈ g.perm ++ g.reg ++ g.raw, e.1 < g.next
  closed    : ∀ e ∈ g.perm ++ g.reg, e.1 ∈ g.live → e.2 ∈ g.live
  cov       : g.shadowOk = true → ∀ a ∈ g.entries, ∀ x y, Path g.perm a x → (x, y) ∈ g.raw → Path g.perm a y

theorem inv_empty : Inv {} := by
  constructor <;> intros <;> simp_all

/-- the shadow check implies the semantic guard -/
theorem guard_of_guardB {g : G} {x y : Node} (h : guardB g x y = true) :
    ∀ a ∈ g.entries, Path g.perm a x → Path g.perm a y := by
  intro a ha p
  simp only [guardB, Bool.or_eq_true, Bool.and_eq_true, Bool.not_eq_true', List.contains_eq_mem,
    decide_eq_false_iff_not] at h
  rcases h with h1 | ⟨hx, h2⟩
  · exact p.trans (reachB_sound h1)
  · -- `x` is no entry, so the path from the entry `a` ends with an edge into `x`: it comes from `x`'s only holder
    cases hso : soleOwner g.perm x with
    | none => simp [hso] at h2
    | some o =>
      rw [hso] at h2
      cases p with
      | refl => exact absurd ha hx
      | snoc q he =>
        obtain rfl := soleOwner_spec hso _ he
        exact q.trans (reachB_sound h2)

theorem prim_preserves_inv (g : G) (p : Prim) (I : Inv g) : Inv (applyPrim g p) := by
  unfold applyPrim
  split
  case isFalse => exact I
  case isTrue hok =>
  have hsrc := I.freshSrc
  have hcl := I.closed
  simp only [List.forall_mem_append] at hsrc hcl
  cases p with
  | alloc e =>
    have lt : ∀ {n}, n < g.next → n < g.next + 1 := Nat.lt_succ_of_lt
    have ent : ∀ {n}, n ∈ (if e then g.next :: g.entries else g.entries) → n = g.next ∨ n ∈ g.entries := by
      intro n hn
      split at hn
      · exact List.mem_cons.1 hn
      · exact .inr hn
    refine ⟨?_, ?_, fun e' he' => lt (I.freshSrc e' he'), ?_, ?_⟩
    · simp only [List.forall_mem_cons]
      exact ⟨Nat.lt_succ_self _, fun n hn => lt (I.freshLive n hn)⟩
    · intro n hn
      rcases ent hn with rfl | h
      · exact Nat.lt_succ_self _
      · exact lt (I.freshEnt n h)
    · intro e' he' hl
      -- the source of an old edge is not the fresh node
      rcases List.mem_cons.1 hl with h | h
      · exact absurd h (Nat.ne_of_lt (I.freshSrc e' (List.mem_append_left _ he')))
      · exact List.mem_cons_of_mem _ (I.closed e' he' h)
    · intro hs a ha x y pa hr
      rcases ent ha with rfl | h
      · -- the fresh node has no edges at all
        obtain rfl : x = g.next := Path.eq_of_no_out (fun e' he' => Nat.ne_of_lt (hsrc.1.1 e' he')) pa
        exact absurd (hsrc.2 _ hr) (Nat.lt_irrefl _)
      · exact I.cov hs a h x y pa hr
  | perm a b =>
    simp only [primOk, Bool.and_eq_true, Bool.or_eq_true, List.contains_iff_mem] at hok
    obtain ⟨⟨ha, hb⟩, hbe⟩ := hok
    refine ⟨I.freshLive, I.freshEnt, ?_, ?_, ?_⟩
    · simp only [List.forall_mem_append, List.forall_mem_cons]
      exact ⟨⟨⟨I.freshLive _ ha, hsrc.1.1⟩, hsrc.1.2⟩, hsrc.2⟩
    · simp only [List.forall_mem_append, List.forall_mem_cons]
      exact ⟨⟨fun _ => hb, hcl.1⟩, hcl.2⟩
    · intro hs e he x y pe hr
      have mono : ∀ {u v}, Path g.perm u v → Path ((a, b) :: g.perm) u v :=
        fun q => q.mono (fun _ h => List.mem_cons_of_mem _ h)
      rcases Path.split_new pe with h | ⟨h1, h2⟩
      · exact mono (I.cov hs e he x y h hr)
      · -- the path uses the new edge: e ⇝ a → b ⇝ x (old); b's closure is raw-closed
        have hby : Path g.perm b y := by
          rcases hbe with hent | hno
          · exact I.cov hs b hent x y h2 hr
          · simp only [noOut, Bool.and_eq_true, List.all_eq_true, bne_iff_ne] at hno
            obtain rfl : x = b := Path.eq_of_no_out hno.1 h2
            exact absurd rfl (hno.2 _ hr)
        exact (Path.snoc h1 List.mem_cons_self).trans (mono hby)
  | reg a b =>
    simp only [primOk, Bool.and_eq_true, List.contains_iff_mem] at hok
    refine ⟨I.freshLive, I.freshEnt, ?_, ?_, I.cov⟩
    · simp only [List.forall_mem_append, List.forall_mem_cons]
      exact ⟨⟨hsrc.1.1, I.freshLive _ hok.1, hsrc.1.2⟩, hsrc.2⟩
    · simp only [List.forall_mem_append, List.forall_mem_cons]
      exact ⟨hcl.1, fun _ => hok.2, hcl.2⟩
  | unreg a b =>
    have sub : ∀ {Q : Edge → Prop} {f}, (∀ e ∈ g.reg, Q e) → ∀ e ∈ g.reg.filter f, Q e :=
      fun h e he => h e (List.mem_filter.1 he).1
    refine ⟨I.freshLive, I.freshEnt, ?_, ?_, I.cov⟩
    · simp only [List.forall_mem_append]; exact ⟨⟨hsrc.1.1, sub hsrc.1.2⟩, hsrc.2⟩
    · simp only [List.forall_mem_append]; exact ⟨hcl.1, sub hcl.2⟩
  | raw x y =>
    simp only [primOk, List.contains_iff_mem] at hok
    refine ⟨I.freshLive, I.freshEnt, ?_, I.closed, ?_⟩
    · simp only [List.forall_mem_append, List.forall_mem_cons]
      exact ⟨hsrc.1, I.freshLive _ hok, hsrc.2⟩
    · intro hs a ha u v pa hr
      simp only [Bool.and_eq_true] at hs
      rcases List.mem_cons.1 hr with h | h
      · cases h; exact guard_of_guardB hs.2 a ha pa
      · exact I.cov hs.1 a ha u v pa h
  | gc keep =>
    simp only [primOk, validKeep, Bool.and_eq_true, List.all_eq_true, List.contains_iff_mem] at hok
    obtain ⟨⟨_, hsub⟩, hcl'⟩ := hok
    refine ⟨fun n hn => I.freshLive n (hsub n hn), I.freshEnt, I.freshSrc, ?_, I.cov⟩
    intro e he hl
    simpa [hl] using hcl' e he

theorem prims_preserve_inv (ps : List Prim) (g : G) (I : Inv g) : Inv (applyPrims g ps) :=
  List.foldlRecOn ps applyPrim I fun g I p _ => prim_preserves_inv g p I

/-- live objects only reach live objects along Go pointers -/
theorem live_of_path {g : G} (I : Inv g) {a y : Node} (ha : a ∈ g.live) (p : Path g.perm a y) : y ∈ g.live := by
  induction p with
  | refl => exact ha
  | snoc _ he ih => exact I.closed _ (List.mem_append_left _ he) ih

/-- under `cov`, whatever an entry reaches through pointers AND raw addresses it reaches through
pointers alone -/
theorem perm_path_of_mixed {g : G} (I : Inv g) (hs : g.shadowOk = true) {a y : Node} (ha : a ∈ g.entries)
    (p : Path (g.perm ++ g.raw) a y) : Path g.perm a y := by
  induction p with
  | refl => exact Path.refl _
  | snoc _ he ih =>
    rcases List.mem_append.1 he with h | h
    · exact Path.snoc ih h
    · exact I.cov hs a ha _ _ ih h

end Wz.C09
