/-
C06 — lemmas about the reference semantics of calls with failure outcomes (`Wz.Model.Calls`).
-/
import Wz.Model.Calls

namespace Wz.C06.Calls
open Wz.Model.Calls

theorem execBody_append (doCall : Nat → Nat → Nat → State → R) (doHost : HostFn → Nat → State → R)
    (inst x : Nat) (is₁ is₂ : List Instr) (acc : Nat) (σ : State) :
    execBody doCall doHost inst x (is₁ ++ is₂) acc σ =
      match execBody doCall doHost inst x is₁ acc σ with
      | (.ok acc', σ') => execBody doCall doHost inst x is₂ acc' σ'
      | (.error e, σ') => (.error e, σ') := by
  -- every arm is one step of `execBody` on the left and the induction hypothesis
  fun_induction execBody doCall doHost inst x is₁ acc σ <;>
    simp only [List.cons_append, List.nil_append, execBody, *, if_true, Bool.false_eq_true, if_false]

theorem closedCheck_snd (j : Nat) (r : R) : (closedCheck j r).2 = r.2 := by
  fun_cases closedCheck j r <;> rfl

theorem modify_other (σ : State) (i j : Nat) (f : InstState → InstState) (h : i ≠ j) :
    (σ.modify i f)[j]? = σ[j]? := by
  unfold State.modify
  split
  · rfl
  · exact List.getElem?_set_ne h

/-- Instance an operation transfers control to (directly or through a re-entrant host function). -/
def target : Op → Option Nat
  | .call j _ _ => some j
  | .host (.reenter j _ _) _ => some j
  | _ => none

/-- No code outside instance `j` ever calls into `j`. -/
def Isolated (W : World) (j : Nat) : Prop :=
  ∀ i f body, i ≠ j → W.getFunc i f = some body → ∀ ins ∈ body, target ins.2 ≠ some j

theorem execBody_untouched (doCall : Nat → Nat → Nat → State → R) (doHost : HostFn → Nat → State → R)
    (inst x j : Nat) (hne : inst ≠ j) (body : List Instr) (hbody : ∀ ins ∈ body, target ins.2 ≠ some j)
    (hcall : ∀ j' f a s, target (.call j' f a) ≠ some j → (doCall j' f (evalArg a x) s).2[j]? = s[j]?)
    (hhost : ∀ h a s, target (.host h a) ≠ some j → (doHost h (evalArg a x) s).2[j]? = s[j]?)
    (acc : Nat) (σ : State) :
    (execBody doCall doHost inst x body acc σ).2[j]? = σ[j]? := by
  -- along `execBody`: what the rest leaves at `j` is what this instruction leaves there (`ih`), and that is what was
  -- there.  The arms in the order `execBody` lists them: `case1` the empty body, `case2`-`case5` the four writes to the
  -- own instance, `case6` a trap, a call that returns (7) or fails (8), a host function likewise (9, 10), `case11` an
  -- instruction whose guard is false.
  fun_induction execBody doCall doHost inst x body acc σ
  all_goals try obtain ⟨hop, hrest⟩ := List.forall_mem_cons.mp hbody
  case case1 | case6 => rfl
  case case2 ih | case3 ih | case4 ih | case5 ih => exact (ih hrest).trans (modify_other _ _ _ _ hne)
  case case7 σ _ j' f a _ _ hc ih => rw [← hcall j' f a σ hop, hc]; exact ih hrest
  case case8 σ _ j' f a _ _ hc => rw [← hcall j' f a σ hop, hc]
  case case9 σ _ h a _ _ hc ih => rw [← hhost h a σ hop, hc]; exact ih hrest
  case case10 σ _ h a _ _ hc => rw [← hhost h a σ hop, hc]
  case case11 ih => exact ih hrest

theorem hostStep_untouched (api : Nat → Nat → Nat → State → R) (inst j : Nat) (hne : inst ≠ j) (h : HostFn)
    (hapi : ∀ j' g c, h = .reenter j' g c → ∀ a s, (api j' g a s).2[j]? = s[j]?) (a : Nat) (s : State) :
    (hostStep api inst h a s).2[j]? = s[j]? := by
  fun_cases hostStep api inst h a s
  case case1 | case2 => rfl
  case case3 | case4 => exact modify_other _ _ _ _ hne
  -- a re-entrant call: the state is the one the call through the API left
  case case5 hc | case6 hc | case7 hc _ => rw [← hapi _ _ _ rfl a s, hc]

theorem callFn_untouched (W : World) (D j : Nat) (hiso : Isolated W j) (fuel depth i f arg : Nat) (σ : State)
    (hne : i ≠ j) : (callFn W D fuel depth i f arg σ).2[j]? = σ[j]? := by
  fun_induction callFn W D fuel depth i f arg σ
  -- the function's body runs: `ihCall` for the guest calls in it, `ihApi` for the re-entrant ones
  case case4 body hbody ihCall ihApi =>
    apply execBody_untouched _ _ _ _ j hne body (hiso _ _ body hne hbody)
    · exact fun j' f' a s ht => ihCall j' f' _ s fun e => ht (e ▸ rfl)
    · intro h a s ht
      split
      · rfl
      · refine hostStep_untouched _ _ j hne h (fun j' g c e a' s' => ?_) _ s
        rw [closedCheck_snd]
        exact ihApi j' g a' s' fun e' => ht (e ▸ e' ▸ rfl)
  -- out of fuel, stack overflow, no such function
  all_goals rfl

end Wz.C06.Calls
