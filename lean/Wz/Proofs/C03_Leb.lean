/- C03 — lemmas about the LEB128 model (core Lean only).

All five decoders are one reader, `scan`, followed by a judgement of what was read (`uPost`, `sPost`), and each decoder
of the model is shown once to be an instance. `scan` has a specification: it succeeds exactly on input that begins with
groups `Spells pre u t` at which its budget lets it stop (`scan_spells`, `scan_shape`; for a decoder `read_spells`,
`read_ok`). Consumption, suffix independence and the round trips are read off it, with the width a variable. -/
import Wz.Model.Leb128
namespace Wz.C03.Leb
open Wz.Model.Leb128

theorem byte_forall (P : Byte → Prop) (h : ∀ n : Fin 256, P (BitVec.ofFin n)) : ∀ b : Byte, P b :=
  fun b => h b.toFin

theorem mask7f : ∀ b : Byte, (b &&& 0x7f#8).toNat = b.toNat % 128 := by
  apply byte_forall; decide +kernel

theorem mask80 : ∀ b : Byte, (b &&& 0x80#8 = 0#8) ↔ b.toNat < 128 := by
  apply byte_forall; decide +kernel

theorem maskf0 : ∀ b : Byte, (b &&& 0xf0#8 = 0#8) ↔ b.toNat < 16 := by
  apply byte_forall; decide +kernel

theorem mask40 : ∀ b : Byte,
    ((b &&& 0x40#8) ≠ 0#8 ↔ b.toNat / 64 % 2 = 1) ∧ (b &&& 0x40#8 = 0x40#8 ↔ b.toNat / 64 % 2 = 1) := by
  apply byte_forall; decide +kernel

/-- The mask `M` tests only bits that copy the sign when the last group of a number lies in `[-E, E)`. -/
def Above (M : Byte) (E : Nat) : Prop :=
  ∀ t : Byte, (t.toNat < E → t &&& M = 0#8) ∧ (t.toNat < 128 → 128 ≤ t.toNat + E → t &&& M = M)

theorem mask30 : Above 0x30#8 8 := by
  apply byte_forall; decide +kernel

theorem mask3e : Above 0x3e#8 1 := by
  apply byte_forall; decide +kernel

theorem mask20 : Above 0x20#8 16 := by
  apply byte_forall; decide +kernel

theorem ofNat_toNat_lt (n : Nat) (h : n < 256) : (BitVec.ofNat 8 n).toNat = n :=
  Nat.mod_eq_of_lt h

/-- At most `k` bytes are read (the budget), `n` have been, `acc` holds their groups modulo `m` (the width of the Go
accumulator; `m = 0` for none, as `x % 0 = x`). Reading stops after a terminating byte, or after the `k`-th byte whatever
it is: the result is the accumulator, the count and the byte read last. No decoder starts with `k = 0`; the answer there
is that of `u32Loop`. -/
def scan (m : Nat) : Nat → Nat → Nat → List Byte → Except Err (Nat × Nat × Byte)
  | 0, _, _, _ => .error .overflow
  | _ + 1, _, _, [] => .error .eof
  | k + 1, n, acc, b :: rest =>
    let acc := (acc + b.toNat % 128 * 2 ^ (7 * n)) % m
    if b.toNat < 128 ∨ k = 0 then .ok (acc, n + 1, b) else scan m k (n + 1) acc rest

/-- `bs` is continuation bytes and then `t`: one LEB128 number when `t` terminates (`t.toNat < 128`). Its 7-bit groups,
least significant first, make up `u`. -/
inductive Spells : List Byte → Nat → Byte → Prop
  | last {t : Byte} : Spells [t] (t.toNat % 128) t
  | cont {c : Byte} {bs : List Byte} {u : Nat} {t : Byte} :
      128 ≤ c.toNat → Spells bs u t → Spells (c :: bs) (c.toNat % 128 + 128 * u) t

theorem Spells.length_pos {bs : List Byte} {u : Nat} {t : Byte} (h : Spells bs u t) : 0 < bs.length := by
  cases h <;> exact Nat.succ_pos _

/-- Where reading with budget `k` stops: after a terminating byte, or after `k` bytes. -/
def Stops (k : Nat) (pre : List Byte) (t : Byte) : Prop := pre.length ≤ k ∧ (128 ≤ t.toNat → pre.length = k)

/-- What `scan` returns on input that begins with groups at which it stops … -/
theorem scan_spells {m : Nat} {rest pre : List Byte} {u : Nat} {t : Byte} (h : Spells pre u t) :
    ∀ {k n acc : Nat}, Stops k pre t →
    scan m k n acc (pre ++ rest) = .ok ((acc + u * 2 ^ (7 * n)) % m, n + pre.length, t) := by
  induction h with
  | @last t =>
    intro k n acc hk
    simp only [Stops, List.length_cons, List.length_nil] at hk
    obtain ⟨k, rfl⟩ : ∃ j, k = j + 1 := ⟨k - 1, by omega⟩
    have : t.toNat < 128 ∨ k = 0 := by omega
    simp [scan, this]
  | @cont c bs u t hc hg ih =>
    intro k n acc hk
    have := hg.length_pos
    simp only [Stops, List.length_cons] at hk
    obtain ⟨k, rfl⟩ : ∃ j, k = j + 1 := ⟨k - 1, by omega⟩
    have hc' : ¬ (c.toNat < 128 ∨ k = 0) := by omega
    simp only [List.cons_append, scan, hc', if_false]
    rw [ih ⟨by omega, fun ht => by have := hk.2 ht; omega⟩, Nat.mod_add_mod]
    have hp : 2 ^ (7 * (n + 1)) = 128 * 2 ^ (7 * n) := by rw [Nat.mul_succ, Nat.pow_add, Nat.mul_comm]
    rw [hp, Nat.add_mul, Nat.mul_assoc, Nat.mul_left_comm u, Nat.add_assoc acc, List.length_cons, Nat.add_right_comm n]
    rfl

/-- … and it succeeds on no other. -/
theorem scan_shape {m : Nat} : ∀ {k n acc : Nat} {bs : List Byte} {a n' : Nat} {t : Byte},
    scan m k n acc bs = .ok (a, n', t) → ∃ pre rest u, bs = pre ++ rest ∧ Spells pre u t ∧ Stops k pre t := by
  intro k
  induction k with
  | zero => intro n acc bs a n' t h; cases h
  | succ k ih =>
    intro n acc bs a n' t h
    cases bs with
    | nil => cases h
    | cons c rest =>
      simp only [scan] at h
      split at h
      · rename_i hc
        simp only [Except.ok.injEq, Prod.mk.injEq] at h
        obtain ⟨-, -, rfl⟩ := h
        exact ⟨[c], rest, _, rfl, .last, Nat.succ_le_succ (Nat.zero_le k), fun ht => by simp; omega⟩
      · rename_i hc
        obtain ⟨pre, rest', u, rfl, hg, h1, h2⟩ := ih h
        exact ⟨c :: pre, rest', _, rfl, .cont (by omega) hg, Nat.succ_le_succ h1, fun ht => congrArg Nat.succ (h2 ht)⟩

/-- A decoder is `scan` from the start and then a judgement `post` of what was read. It returns what `post` makes of
groups at which `scan` stops … -/
theorem read_spells {α : Type} {m k : Nat} {pre : List Byte} {u : Nat} {t : Byte} {post : Nat × Nat × Byte → R α}
    (h : Spells pre u t) (hk : Stops k pre t) (rest : List Byte) :
    (scan m k 0 0 (pre ++ rest)).bind post = post (u % m, pre.length, t) := by
  rw [scan_spells h hk, Nat.mul_zero, Nat.pow_zero, Nat.mul_one, Nat.zero_add, Nat.zero_add]
  rfl

/-- … and succeeds only so. -/
theorem read_ok {α : Type} {m k : Nat} {bs : List Byte} {post : Nat × Nat × Byte → R α} {r : α × Nat}
    (h : (scan m k 0 0 bs).bind post = .ok r) :
    ∃ pre rest u t, bs = pre ++ rest ∧ Spells pre u t ∧ Stops k pre t ∧ post (u % m, pre.length, t) = .ok r := by
  cases hs : scan m k 0 0 bs with
  | error e => rw [hs] at h; cases h
  | ok x =>
    obtain ⟨pre, rest, u, rfl, hg, hk⟩ := scan_shape (t := x.2.2) hs
    exact ⟨pre, rest, u, _, rfl, hg, hk, (read_spells hg hk rest).symm.trans h⟩

/-- What a decoder returns depends only on the bytes it has read. With a budget `k` above the input length the reading
cannot have stopped for lack of budget, so any budget that covers these bytes will do. -/
theorem read_prefix {α : Type} {m k k' : Nat} {bs : List Byte} {post : Nat × Nat × Byte → R α}
    (hpost : ∀ {a n' b v n}, post (a, n', b) = .ok (v, n) → n = n') {v : α} {n : Nat}
    (h : (scan m k 0 0 bs).bind post = .ok (v, n)) (hk : k' = k ∨ bs.length < k ∧ (bs.take n).length ≤ k')
    (sfx : List Byte) : (scan m k' 0 0 (bs.take n ++ sfx)).bind post = .ok (v, n) := by
  obtain ⟨pre, rest, u, t, rfl, hg, hst, hp⟩ := read_ok h
  cases hpost hp
  rw [List.take_left' rfl] at hk ⊢
  rw [read_spells hg ?_ sfx]
  · exact hp
  · obtain rfl | ⟨h1, h2⟩ := hk
    · exact hst
    · exact ⟨h2, fun ht => absurd (hst.2 ht) (by rw [List.length_append] at h1; omega)⟩

/-- The last byte of a number holds the top group, `t = u / 128 ^ (bs.length - 1)`, said without division or
subtraction. -/
theorem Spells.last_group {bs : List Byte} {u : Nat} {t : Byte} (h : Spells bs u t) (ht : t.toNat < 128) :
    t.toNat * 128 ^ bs.length ≤ 128 * u ∧ 128 * (u + 1) ≤ (t.toNat + 1) * 128 ^ bs.length := by
  induction h with
  | last => simp only [List.length_cons, List.length_nil, Nat.zero_add, Nat.pow_one]; omega
  | @cont c bs u t hc _ ih =>
    rw [List.length_cons, Nat.pow_succ, ← Nat.mul_assoc, ← Nat.mul_assoc]
    have := ih ht
    omega

theorem Spells.unique {bs : List Byte} {u u' : Nat} {t t' : Byte} (h : Spells bs u t) (h' : Spells bs u' t') :
    u = u' ∧ t = t' := by
  induction h generalizing u' with
  | last => cases h' with
    | last => exact ⟨rfl, rfl⟩
    | cont _ h => cases h
  | cont _ h0 ih => cases h' with
    | last => cases h0
    | cont _ h => obtain ⟨rfl, rfl⟩ := ih h; exact ⟨rfl, rfl⟩

theorem encU_small {v : Nat} (h : v < 128) : encU v = [BitVec.ofNat 8 v] := by
  rw [encU]; simp [h]

theorem encU_big {v : Nat} (h : ¬ v < 128) : encU v = BitVec.ofNat 8 (v % 128 + 128) :: encU (v / 128) := by
  rw [encU]; simp [h]

theorem encU_spells (v : Nat) : ∃ t, Spells (encU v) v t ∧ t.toNat < 128 := by
  induction v using Nat.strongRecOn with
  | _ v ih =>
    by_cases h : v < 128
    · have := Spells.last (t := BitVec.ofNat 8 v)
      rw [ofNat_toNat_lt v (by omega), Nat.mod_eq_of_lt h] at this
      exact ⟨_, encU_small h ▸ this, by rwa [ofNat_toNat_lt v (by omega)]⟩
    · obtain ⟨t, ht⟩ := ih (v / 128) (by omega)
      have hc := ofNat_toNat_lt (v % 128 + 128) (by omega)
      have := Spells.cont (c := BitVec.ofNat 8 (v % 128 + 128)) (by omega) ht.1
      rw [hc, show (v % 128 + 128) % 128 + 128 * (v / 128) = v by omega] at this
      exact ⟨t, encU_big h ▸ this, ht.2⟩

theorem encU_length_pos (v : Nat) : 0 < (encU v).length :=
  (encU_spells v).elim fun _ h => h.1.length_pos

theorem encU_inj {v w : Nat} (h : encU v = encU w) : v = w := by
  obtain ⟨_, hv, -⟩ := encU_spells v
  obtain ⟨_, hw, -⟩ := encU_spells w
  exact (hv.unique (h ▸ hw)).1

theorem encU_length_le : ∀ {L v : Nat}, 0 < L → v < 128 ^ L → (encU v).length ≤ L := by
  intro L
  induction L with
  | zero => intro v hL; omega
  | succ L ih =>
    intro v _ hv
    by_cases h : v < 128
    · simp [encU_small h]
    · rw [encU_big h, List.length_cons]
      refine Nat.succ_le_succ (ih ?_ (Nat.div_lt_of_lt_mul (by rwa [Nat.pow_succ, Nat.mul_comm] at hv)))
      cases L with
      | zero => exact absurd hv h
      | succ L => omega

theorem encS_small {v : Int} (h1 : -64 ≤ v) (h2 : v < 64) : encS v = [BitVec.ofNat 8 (v % 128).toNat] := by
  rw [encS]
  split
  · omega
  · rfl

theorem encS_big {v : Int} (h : v < -64 ∨ 64 ≤ v) :
    encS v = BitVec.ofNat 8 ((v % 128).toNat + 128) :: encS (v / 128) := by
  rw [encS]
  split
  · rfl
  · omega

theorem encS_length_le : ∀ {L : Nat} {v : Int}, 0 < L → -(128 ^ L : Nat) ≤ 2 * v → 2 * v < (128 ^ L : Nat) →
    (encS v).length ≤ L := by
  intro L
  induction L with
  | zero => intro v hL; omega
  | succ L ih =>
    intro v _ hlo hhi
    by_cases h : v < -64 ∨ 64 ≤ v
    · rw [encS_big h, List.length_cons]
      cases L with
      | zero => omega
      | succ L =>
        exact Nat.succ_le_succ (ih (Nat.succ_pos L) (by omega) (by omega))
    · rw [encS_small (by omega) (by omega)]; simp

/-- `u` is the two's-complement pattern of `v` in `7 * length` bits: bit 6 of the last byte is the sign bit. -/
theorem encS_spells (v : Int) : ∃ u t, Spells (encS v) u t ∧ t.toNat < 128 ∧
    (u : Int) = v + (if 64 ≤ t.toNat then 128 ^ (encS v).length else 0 : Nat) := by
  induction h : v.natAbs using Nat.strongRecOn generalizing v with
  | _ k ih =>
    have hr : (v % 128).toNat < 128 := by omega
    by_cases hs : v < -64 ∨ 64 ≤ v
    · obtain ⟨u, t, hsp, ht, hu⟩ := ih _ (by omega) (v / 128) rfl
      have := Spells.cont (c := BitVec.ofNat 8 ((v % 128).toNat + 128)) (by rw [ofNat_toNat_lt _ (by omega)]; omega) hsp
      rw [ofNat_toNat_lt _ (by omega), Nat.add_mod_right, Nat.mod_eq_of_lt hr] at this
      rw [encS_big hs, List.length_cons, Nat.pow_succ]
      refine ⟨_, t, this, ht, ?_⟩
      generalize 128 ^ (encS (v / 128)).length = Q at hu ⊢
      -- one byte further on, the sign bit weighs 128 times as much
      by_cases h64 : 64 ≤ t.toNat <;> simp only [h64, if_true, if_false] at hu ⊢ <;> omega
    · have := Spells.last (t := BitVec.ofNat 8 (v % 128).toNat)
      rw [ofNat_toNat_lt _ (by omega), Nat.mod_eq_of_lt hr] at this
      rw [encS_small (by omega) (by omega)]
      refine ⟨_, _, this, by rwa [ofNat_toNat_lt _ (by omega)], ?_⟩
      rw [ofNat_toNat_lt _ (by omega)]
      simp only [List.length_cons, List.length_nil, Nat.zero_add, Nat.pow_one]
      split <;> omega

theorem encS_length_pos (v : Int) : 0 < (encS v).length :=
  (encS_spells v).elim fun _ h => h.elim fun _ h => h.1.length_pos

/-- The pattern, the length and the last byte give the value back. -/
theorem encS_inj {v w : Int} (h : encS v = encS w) : v = w := by
  obtain ⟨_, _, hv, -, a⟩ := encS_spells v
  obtain ⟨_, _, hw, -, b⟩ := encS_spells w
  rw [← h] at hw b
  obtain ⟨rfl, rfl⟩ := hv.unique hw
  omega

/-- `bad`: the `L`-th byte has a bit beyond the width. A continuation byte read last means that the budget ran out. -/
def uPost (L : Nat) (bad : Byte → Prop) [DecidablePred bad] : Nat × Nat × Byte → R Nat
  | (a, n, b) => if 128 ≤ b.toNat ∨ (n = L ∧ bad b) then .error .overflow else .ok (a, n)

theorem uPost_ok {L : Nat} {bad : Byte → Prop} [DecidablePred bad] {a n : Nat} {b : Byte} {v n' : Nat}
    (h : uPost L bad (a, n, b) = .ok (v, n')) : v = a ∧ n' = n := by
  simp only [uPost] at h
  split at h
  · cases h
  · simp only [Except.ok.injEq, Prod.mk.injEq] at h
    exact ⟨h.1.symm, h.2.symm⟩

theorem u32Loop_eq : ∀ (k i acc : Nat) (bs : List Byte),
    u32Loop k i acc bs = (scan (2 ^ 32) k i acc bs).bind (uPost 5 (fun b => b &&& 0xf0#8 ≠ 0#8)) := by
  intro k
  induction k with
  | zero => intros; rfl
  | succ k ih =>
    intro i acc bs
    cases bs with
    | nil => rfl
    | cons b rest =>
      simp only [u32Loop, scan]
      split
      · rename_i hb
        simp [Except.bind, uPost, Nat.mod_eq_of_lt hb, hb, Nat.not_le_of_lt hb]
      · rename_i hb
        rw [ih, mask7f]
        cases k with
        | zero => simp [scan, Except.bind, uPost, Nat.le_of_not_lt hb]
        | succ k => rw [if_neg (by omega)]

theorem u64Loop_eq : ∀ (k i acc : Nat) (bs : List Byte),
    u64Loop k i acc bs = (scan (2 ^ 64) k i acc bs).bind (uPost 10 (fun b => b.toNat > 1)) := by
  intro k
  induction k with
  | zero => intros; rfl
  | succ k ih =>
    intro i acc bs
    cases bs with
    | nil => rfl
    | cons b rest =>
      simp only [u64Loop, scan]
      split
      · rename_i hb
        simp [Except.bind, uPost, Nat.mod_eq_of_lt hb, hb, Nat.not_le_of_lt hb]
      · rename_i hb
        rw [ih, mask7f]
        cases k with
        | zero => simp [scan, Except.bind, uPost, Nat.le_of_not_lt hb]
        | succ k => rw [if_neg (by omega)]

theorem decodeUint32_eq (bs : List Byte) :
    decodeUint32 bs = (scan (2 ^ 32) 5 0 0 bs).bind (uPost 5 (fun b => b &&& 0xf0#8 ≠ 0#8)) :=
  u32Loop_eq 5 0 0 bs

theorem loadUint64_eq (bs : List Byte) :
    loadUint64 bs = (scan (2 ^ 64) 10 0 0 bs).bind (uPost 10 (fun b => b.toNat > 1)) :=
  u64Loop_eq 10 0 0 bs

theorem unsigned_bounds {w L : Nat} {bad : Byte → Prop} [DecidablePred bad] {bs : List Byte} {v n : Nat}
    (h : (scan (2 ^ w) L 0 0 bs).bind (uPost L bad) = .ok (v, n)) :
    1 ≤ n ∧ n ≤ L ∧ n ≤ bs.length ∧ v < 2 ^ w := by
  obtain ⟨pre, rest, u, t, rfl, hg, hst, hp⟩ := read_ok h
  obtain ⟨rfl, rfl⟩ := uPost_ok hp
  exact ⟨hg.length_pos, hst.1, by rw [List.length_append]; omega, Nat.mod_lt _ (Nat.two_pow_pos w)⟩

theorem unsigned_spells {w L : Nat} {bad : Byte → Prop} [DecidablePred bad] {bs : List Byte} {u : Nat} {t : Byte}
    (h : Spells bs u t) (ht : t.toNat < 128) (hl : bs.length ≤ L) (sfx : List Byte) :
    (scan (2 ^ w) L 0 0 (bs ++ sfx)).bind (uPost L bad) =
      if bs.length = L ∧ bad t then .error .overflow else .ok (u % 2 ^ w, bs.length) := by
  rw [read_spells h ⟨hl, fun h => absurd ht (Nat.not_lt_of_le h)⟩]
  simp [uPost, Nat.not_le_of_lt ht]

/-- `L` bytes hold a `w`-bit number (`hwL`), and `E` bounds the values its `L`-th byte can take (`hE`; for the
decoders of the model `2 ^ w = E * 128 ^ (L - 1)`). -/
theorem unsigned_roundtrip {w L E : Nat} {bad : Byte → Prop} [DecidablePred bad] (hL : 0 < L) (hwL : 2 ^ w ≤ 128 ^ L)
    (hE : 2 ^ w * 128 ≤ E * 128 ^ L) (hbad : ∀ t : Byte, t.toNat < E → ¬ bad t)
    {v : Nat} (hv : v < 2 ^ w) (sfx : List Byte) :
    (scan (2 ^ w) L 0 0 (encU v ++ sfx)).bind (uPost L bad) = .ok (v, (encU v).length) := by
  obtain ⟨t, hsp, ht⟩ := encU_spells v
  rw [unsigned_spells hsp ht (encU_length_le hL (Nat.lt_of_lt_of_le hv hwL)), if_neg, Nat.mod_eq_of_lt hv]
  rintro ⟨h, hb⟩
  refine hbad t (Nat.lt_of_mul_lt_mul_right (a := 128 ^ L) ?_) hb
  have := (hsp.last_group ht).1
  rw [h] at this
  omega

theorem wrapS_range (w n : Nat) (hw : 0 < w) : -(2 ^ w : Nat) ≤ 2 * wrapS w n ∧ 2 * wrapS w n < (2 ^ w : Nat) := by
  unfold wrapS
  have h2 := Nat.two_pow_pred_mul_two hw
  split <;> omega

theorem wrapS_eq {w x : Nat} {v : Int} (hw : 0 < w) (hlo : -(2 ^ w : Nat) ≤ 2 * v) (hhi : 2 * v < (2 ^ w : Nat))
    (h : (x : Int) % (2 ^ w : Nat) = v % (2 ^ w : Nat)) : wrapS w x = v := by
  unfold wrapS
  have h2 := Nat.two_pow_pred_mul_two hw
  rw [← Int.natCast_emod] at h
  by_cases hv : 0 ≤ v
  · rw [Int.emod_eq_of_lt hv (by omega)] at h
    split <;> omega
  · rw [← Int.add_emod_right, Int.emod_eq_of_lt (by omega) (by omega)] at h
    split <;> omega

/-- `ret |= ^0 << s` when `s` is below the width and the last byte has its sign bit (`neg`), then read as a `w`-bit
two's-complement number: what `i32Ret`, `i64Ret` and `i33Ret` compute. -/
def sext (w s a : Nat) (neg : Prop) [Decidable neg] : Int :=
  wrapS w (if s < w ∧ neg then (a + (2 ^ w - 2 ^ s)) % 2 ^ w else a)

/-- `a` holds, modulo `2 ^ w`, the `s`-bit two's-complement pattern `u` of `v`. When `w ≤ s` nothing is extended,
and nothing need be: `2 ^ s` vanishes modulo `2 ^ w`. -/
theorem sext_eq {w s a u : Nat} {v : Int} {neg : Prop} [Decidable neg] (hw : 0 < w)
    (hlo : -(2 ^ w : Nat) ≤ 2 * v) (hhi : 2 * v < (2 ^ w : Nat))
    (hu : (u : Int) = v + (if neg then 2 ^ s else 0 : Nat)) (ha : a % 2 ^ w = u % 2 ^ w) : sext w s a neg = v := by
  have ha' : (a : Int) % (2 ^ w : Nat) = u % (2 ^ w : Nat) := by rw [← Int.natCast_emod, ha, Int.natCast_emod]
  refine wrapS_eq hw hlo hhi ?_
  split
  · rename_i h
    have hle : 2 ^ s ≤ 2 ^ w := Nat.pow_le_pow_right (by decide) (Nat.le_of_lt h.1)
    rw [Int.natCast_emod, Int.emod_emod, Int.natCast_add, ← Int.emod_add_emod, ha', Int.emod_add_emod,
      hu, if_pos h.2, Int.natCast_sub hle]
    generalize ((2 ^ s : Nat) : Int) = S
    rw [show v + S + (↑(2 ^ w : Nat) - S) = v + (2 ^ w : Nat) by omega, Int.add_emod_right]
  · rename_i h
    rw [ha', hu]
    split
    · rename_i hn
      have hws : w ≤ s := Nat.le_of_not_lt fun hlt => h ⟨hlt, hn⟩
      obtain ⟨c, hc⟩ := Nat.pow_dvd_pow 2 hws
      rw [hc, Int.natCast_mul, Int.add_mul_emod_self_left]
    · rw [Int.natCast_zero, Int.add_zero]

/-- The "Over flow checks" of the signed decoders. -/
def sFinal (L : Nat) (M : Byte) (n : Nat) (ret : Int) (b : Byte) : R Int :=
  if n > L then .error .overflow
  else if n = L ∧ ret < 0 ∧ (b &&& M) ≠ M then .error .overflow
  else if n = L ∧ ret ≥ 0 ∧ (b &&& M) ≠ 0#8 then .error .overflow
  else .ok (ret, n)

theorem i32Final_eq (n : Nat) (ret : Int) (b : Byte) : i32Final n ret b = sFinal 5 0x30#8 n ret b := rfl

theorem i64Final_eq (n : Nat) (ret : Int) (b : Byte) : i64Final n ret b = sFinal 10 0x3e#8 n ret b := rfl

theorem i33Final_eq (n : Nat) (ret : Int) (b : Byte) : i33Final n ret b = sFinal 5 0x20#8 n ret b := rfl

theorem sFinal_ok {L : Nat} {M : Byte} {n : Nat} {ret : Int} {b : Byte} {v : Int} {n' : Nat}
    (h : sFinal L M n ret b = .ok (v, n')) : v = ret ∧ n' = n ∧ n ≤ L := by
  unfold sFinal at h
  split at h
  · cases h
  · split at h
    · cases h
    · split at h
      · cases h
      · simp only [Except.ok.injEq, Prod.mk.injEq] at h
        omega

theorem sFinal_pass {L : Nat} {M : Byte} {n : Nat} {ret : Int} {b : Byte} (hn : n ≤ L)
    (hneg : n = L → ret < 0 → b &&& M = M) (hpos : n = L → 0 ≤ ret → b &&& M = 0#8) :
    sFinal L M n ret b = .ok (ret, n) := by
  unfold sFinal
  rw [if_neg (by omega), if_neg (fun h => h.2.2 (hneg h.1 h.2.1)), if_neg (fun h => h.2.2 (hpos h.1 h.2.1))]

/-- Whether the byte read last terminates is not asked: `DecodeInt33AsInt64` judges what it has read also when its loop
ended with the continuation bit still set. -/
def sPost (w L : Nat) (M : Byte) : Nat × Nat × Byte → R Int
  | (a, n, b) => sFinal L M n (sext w (7 * n) a (b.toNat / 64 % 2 = 1)) b

theorem i32Ret_eq (s a : Nat) (b : Byte) : i32Ret s a b = sext 32 s a (b.toNat / 64 % 2 = 1) := by
  simp only [i32Ret, sext, (mask40 b).1]

theorem i64Ret_eq (s a : Nat) (b : Byte) : i64Ret s a b = sext 64 s a (b.toNat / 64 % 2 = 1) := by
  simp only [i64Ret, sext, (mask40 b).2]

theorem i33Ret_eq (s a : Nat) (b : Byte) : i33Ret s a b = sext 33 s a (b.toNat / 64 % 2 = 1) := by
  simp only [i33Ret, sext, wrapS, (mask40 b).2]
  split <;> simp only [Nat.mod_mod] <;> rfl

/-- `decodeInt32` has no bound on the bytes it reads: a budget above the length of the input never runs out. -/
theorem i32Loop_eq : ∀ (bs : List Byte) (n acc : Nat),
    i32Loop n acc bs = (scan (2 ^ 32) (bs.length + 1) n acc bs).bind (sPost 32 5 0x30#8) := by
  intro bs
  induction bs with
  | nil => intros; rfl
  | cons b rest ih =>
    intro n acc
    simp only [i32Loop, scan, List.length_cons, mask7f, mask80, Nat.succ_ne_zero, or_false]
    split
    · simp only [i32Ret_eq, i32Final_eq]; rfl
    · exact ih _ _

theorem i64Loop_eq : ∀ (bs : List Byte) (n acc : Nat),
    i64Loop n acc bs = (scan (2 ^ 64) (bs.length + 1) n acc bs).bind (sPost 64 10 0x3e#8) := by
  intro bs
  induction bs with
  | nil => intros; rfl
  | cons b rest ih =>
    intro n acc
    simp only [i64Loop, scan, List.length_cons, mask7f, mask80, Nat.succ_ne_zero, or_false]
    split
    · simp only [i64Ret_eq, i64Final_eq]; rfl
    · exact ih _ _

/-- The loop of `DecodeInt33AsInt64` is `scan` without a modulus, once it has a budget (it hands over the byte read last,
which `scan` does only after reading one). -/
theorem i33Loop_eq : ∀ (k n acc : Nat) (b0 : Byte) (bs : List Byte),
    i33Loop (k + 1) n acc b0 bs = scan 0 (k + 1) n acc bs := by
  intro k
  induction k with
  | zero =>
    intro n acc b0 bs
    cases bs with
    | nil => rfl
    | cons b rest => simp only [i33Loop, scan, mask7f, mask80, Nat.mod_zero, or_true, if_true, ite_self]
  | succ k ih =>
    intro n acc b0 bs
    cases bs with
    | nil => rfl
    | cons b rest =>
      simp only [i33Loop, scan, mask7f, mask80, Nat.mod_zero, Nat.succ_ne_zero, or_false]
      split
      · rfl
      · exact ih _ _ _ _

theorem decodeInt32_eq (bs : List Byte) :
    decodeInt32 bs = (scan (2 ^ 32) (bs.length + 1) 0 0 bs).bind (sPost 32 5 0x30#8) :=
  i32Loop_eq bs 0 0

theorem decodeInt64_eq (bs : List Byte) :
    decodeInt64 bs = (scan (2 ^ 64) (bs.length + 1) 0 0 bs).bind (sPost 64 10 0x3e#8) :=
  i64Loop_eq bs 0 0

theorem decodeInt33_eq (bs : List Byte) : decodeInt33 bs = (scan 0 5 0 0 bs).bind (sPost 33 5 0x20#8) := by
  rw [decodeInt33, i33Loop_eq 4]
  cases scan 0 5 0 0 bs with
  | error e => rfl
  | ok r => simp only [i33Ret_eq, i33Final_eq]; rfl

theorem signed_bounds {m w L k : Nat} {M : Byte} {bs : List Byte} {v : Int} {n : Nat} (hw : 0 < w)
    (h : (scan m k 0 0 bs).bind (sPost w L M) = .ok (v, n)) :
    1 ≤ n ∧ n ≤ L ∧ n ≤ bs.length ∧ -(2 ^ w : Nat) ≤ 2 * v ∧ 2 * v < (2 ^ w : Nat) := by
  obtain ⟨pre, rest, u, t, rfl, hg, hst, hp⟩ := read_ok h
  obtain ⟨rfl, rfl, hL⟩ := sFinal_ok hp
  exact ⟨hg.length_pos, hL, by rw [List.length_append]; omega, wrapS_range _ _ hw⟩

/-- The unbounded decoders: their budget is the length of the input, which changes with the suffix. -/
theorem unbounded_prefix {m w L : Nat} {M : Byte} {bs : List Byte} {v : Int} {n : Nat}
    (h : (scan m (bs.length + 1) 0 0 bs).bind (sPost w L M) = .ok (v, n)) (sfx : List Byte) :
    (scan m ((bs.take n ++ sfx).length + 1) 0 0 (bs.take n ++ sfx)).bind (sPost w L M) = .ok (v, n) :=
  read_prefix (fun h => (sFinal_ok h).2.1) h (.inr ⟨Nat.lt_succ_self _, by rw [List.length_append]; omega⟩) sfx

/-- `Q` is `128 ^ length`, `t` the last byte and `u` the pattern, as in `Spells.last_group` and `encS_spells`; `hr1`,
`hr2`: `v` lies in `[-E * Q / 128, E * Q / 128)`. -/
theorem last_group_sign {Q E t u : Nat} {v : Int} (ht : t < 128) (hlo : t * Q ≤ 128 * u)
    (hhi : 128 * (u + 1) ≤ (t + 1) * Q) (hu : (u : Int) = v + (if 64 ≤ t then Q else 0 : Nat))
    (hr1 : -((E * Q : Nat) : Int) ≤ 128 * v) (hr2 : 128 * v < (E * Q : Nat)) :
    (0 ≤ v → t < E) ∧ (v < 0 → 128 ≤ t + E) := by
  have hQ : (t + 1) * Q ≤ 128 * Q := Nat.mul_le_mul_right Q ht
  split at hu
  · refine ⟨fun h0 => by omega, fun h1 => ?_⟩
    have : 128 * Q < (t + 1 + E) * Q := by
      rw [Nat.add_mul]
      omega
    have := Nat.lt_of_mul_lt_mul_right this
    omega
  · exact ⟨fun h0 => Nat.lt_of_mul_lt_mul_right (a := Q) (by omega), fun h1 => by omega⟩

/-- `L` bytes hold a `w`-bit number (`hwL`), and `E` bounds the non-negative values its `L`-th byte can take (`hE`; for
the decoders of the model `2 ^ (w - 1) = E * 128 ^ (L - 1)`). `m` is the accumulator's modulus: `2 ^ w`, or 0 for none. -/
theorem signed_roundtrip {m w L E k : Nat} {M : Byte} (hw : 0 < w) (hL : 0 < L) (hm : ∀ x, x % m % 2 ^ w = x % 2 ^ w)
    (hwL : 2 ^ w ≤ 128 ^ L) (hE : 2 ^ w * 64 ≤ E * 128 ^ L) (hM : Above M E)
    {v : Int} (hlo : -(2 ^ w : Nat) ≤ 2 * v) (hhi : 2 * v < (2 ^ w : Nat)) (sfx : List Byte)
    (hk : (encS v).length ≤ L → (encS v).length ≤ k) :
    (scan m k 0 0 (encS v ++ sfx)).bind (sPost w L M) = .ok (v, (encS v).length) := by
  obtain ⟨u, t, hsp, ht, hu⟩ := encS_spells v
  have hlen : (encS v).length ≤ L := encS_length_le hL (by omega) (by omega)
  obtain ⟨hg1, hg2⟩ := hsp.last_group ht
  rw [read_spells hsp ⟨hk hlen, fun h => absurd ht (Nat.not_lt_of_le h)⟩]
  have hbit6 : (t.toNat / 64 % 2 = 1) = (64 ≤ t.toNat) := propext (by omega)
  simp only [sPost, hbit6]
  rw [sext_eq hw hlo hhi (Nat.pow_mul 2 7 _ ▸ hu) (hm u)]
  refine sFinal_pass hlen (fun hn hv => ?_) (fun hn hv => ?_) <;>
    have := last_group_sign (E := E) ht hg1 hg2 hu (by rw [hn]; omega) (by rw [hn]; omega)
  · exact (hM t).2 ht (this.2 hv)
  · exact (hM t).1 (this.1 hv)

end Wz.C03.Leb
