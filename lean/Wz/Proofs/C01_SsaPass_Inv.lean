import Wz.Proofs.C01_SsaPass_Typed

/-! Static consequences of `WF` (a value has one definition, in one block; the clauses of `InstrOK` and `BlockOK` by
name), and what the two passes that extend the alias table (`nopElim`, `redundantPhiElim`) have in common: they record
one alias `d ↦ s` at a time (`AliasStep`), and by the invariant `Inv` of the run the new entry is invisible when the
definition of `d` writes what `s` resolves to (`AliasStep.run`).  `Refines` is how the steps of these passes compose. -/
namespace Wz.Model.SsaPass

def Block.defs (B : Block) : List Val := B.params.map (·.1) ++ B.instrs.flatMap (·.results)

theorem block_defs_nodup {f : Func} (hu : f.allDefs.Nodup) {B : Block} (hB : B ∈ f.blocks) : B.defs.Nodup :=
  (List.pairwise_flatMap.mp hu).1 B hB

theorem def_block_unique {f : Func} (hu : f.allDefs.Nodup) {B C : Block} (hB : B ∈ f.blocks) (hC : C ∈ f.blocks)
    {x : Val} (hxB : x ∈ B.defs) (hxC : x ∈ C.defs) : B = C :=
  nodup_flatMap_unique (g := Block.defs) hu hB hC hxB hxC

theorem param_block_unique {f : Func} (hu : f.allDefs.Nodup) {B C : Block} (hB : B ∈ f.blocks) (hC : C ∈ f.blocks)
    {p : Val} (hpB : p ∈ B.params.map (·.1)) (hpC : p ∈ C.params.map (·.1)) : B = C :=
  def_block_unique hu hB hC (List.mem_append_left _ hpB) (List.mem_append_left _ hpC)

theorem instr_unique {f : Func} (hu : f.allDefs.Nodup) {i j : Instr} (hi : i ∈ f.allInstrs) (hj : j ∈ f.allInstrs)
    {r : Val} (hri : r ∈ i.results) (hrj : r ∈ j.results) : i = j := by
  obtain ⟨B, hB, hiB⟩ := mem_allInstrs.mp hi
  obtain ⟨C, hC, hjC⟩ := mem_allInstrs.mp hj
  have hBC : B = C := def_block_unique hu hB hC
    (List.mem_append_right _ (List.mem_flatMap.mpr ⟨i, hiB, hri⟩))
    (List.mem_append_right _ (List.mem_flatMap.mpr ⟨j, hjC, hrj⟩))
  subst hBC
  exact nodup_flatMap_unique (List.nodup_append.mp (block_defs_nodup hu hB)).2.1 hiB hjC hri hrj

theorem param_not_result {f : Func} (hu : f.allDefs.Nodup) {B : Block} (hB : B ∈ f.blocks) {p : Val}
    (hp : p ∈ B.params.map (·.1)) {i : Instr} (hi : i ∈ f.allInstrs) : p ∉ i.results := by
  intro hr
  obtain ⟨C, hC, hiC⟩ := mem_allInstrs.mp hi
  have hBC : B = C := def_block_unique hu hB hC (List.mem_append_left _ hp)
    (List.mem_append_right _ (List.mem_flatMap.mpr ⟨i, hiC, hr⟩))
  subst hBC
  exact (List.nodup_append.mp (block_defs_nodup hu hB)).2.2 p hp p (List.mem_flatMap.mpr ⟨i, hiC, hr⟩) rfl

theorem params_nodup {f : Func} (hu : f.allDefs.Nodup) {B : Block} (hB : B ∈ f.blocks) :
    (B.params.map (·.1)).Nodup :=
  (List.nodup_append.mp (block_defs_nodup hu hB)).1

theorem block_eq_of_id {f : Func} (hu : UniqueIds f) {B C : Block} (hB : B ∈ f.blocks) (hC : C ∈ f.blocks)
    (h : B.id = C.id) : B = C := by
  have h1 := find_of_nodup_ids f.blocks hu hB
  have h2 := find_of_nodup_ids f.blocks hu hC
  rw [h] at h1; rw [h1] at h2; exact Option.some.inj h2

theorem WF.aliasNF {c : Cert} {f : Func} (h : WF c f) : AliasNF f.alias := fun k t hkt => h.nf (k, t) hkt

section clauses
variable {c : Cert} {f : Func} {B : Block} {V : List Val} {i : Instr}

theorem InstrOK.operands (h : InstrOK c f B V i) : ∀ o ∈ i.operands, ∃ v ∈ V, res f.alias o = res f.alias v := h.1

theorem InstrOK.results (h : InstrOK c f B V i) :
    ∀ r ∈ i.results, res f.alias r = r ∨ ∃ v ∈ V, res f.alias r = res f.alias v := h.2.1

theorem InstrOK.rank (h : InstrOK c f B V i) :
    ∀ r ∈ i.results, (∀ v ∈ V, c.rank v < c.rank r) ∧ c.rank r < (c.bidx B.id + 1) * c.M := h.2.2.1

theorem InstrOK.typed (h : InstrOK c f B V i) : ∀ p ∈ i.typedResults, c.cty p.1 = p.2 := h.2.2.2.1

theorem InstrOK.shiftClause : InstrOK c f B V i →
    match i with
    | .bin op _ ty x _ => isShift op → c.cty x = ty
    | _ => True := fun h => h.2.2.2.2.1

theorem InstrOK.shift {op : BinOp} {r : Val} {ty : Ty} {x y : Val} (h : InstrOK c f B V (.bin op r ty x y))
    (hs : isShift op) : c.cty x = ty := h.shiftClause hs

theorem InstrOK.branch (h : InstrOK c f B V i) {t : BlockId} {as : List Val} (hbr : i.branch? = some (t, as)) :
    ∃ T, f.findBlock t = some T ∧ as.length = T.params.length ∧ (∀ v ∈ c.avail t, v ∈ V) ∧
      (∀ p ∈ as.zip T.params, c.cty p.1 = p.2.2) ∧
      (∀ q ∈ c.pdefs t, q ∉ T.params.map (·.1) → ∃ v ∈ V, res f.alias q = res f.alias v) := by
  have h6 := h.2.2.2.2.2
  rw [hbr] at h6
  cases hT : f.findBlock t with
  | none => simp only [hT] at h6
  | some T => simp only [hT] at h6; exact ⟨T, rfl, h6⟩

theorem BlockOK.param (h : BlockOK c f B) :
    ∀ p ∈ B.params, p.1 ∈ c.pdefs B.id ∧ c.cty p.1 = p.2 ∧ aliasGet f.alias p.1 = none := h.1

theorem BlockOK.pdefRank (h : BlockOK c f B) : ∀ q ∈ c.pdefs B.id, c.rank q = c.bidx B.id * c.M := h.2.1

theorem BlockOK.removed (h : BlockOK c f B) :
    ∀ q ∈ c.pdefs B.id, q ∉ B.params.map (·.1) → aliasGet f.alias q ≠ none := h.2.2.1

theorem BlockOK.availRank (h : BlockOK c f B) : ∀ v ∈ c.avail B.id, c.rank v < c.bidx B.id * c.M := h.2.2.2.1

theorem BlockOK.body (h : BlockOK c f B) : BodyOK c f B (c.avail B.id ++ c.pdefs B.id) B.instrs := h.2.2.2.2.1

theorem BlockOK.pred (h : BlockOK c f B) (hne : B.id ≠ f.entry) :
    ∃ P ∈ f.blocks, P.invalid = false ∧ c.bidx P.id < c.bidx B.id ∧
      ∃ i ∈ P.instrs, i.branch?.map (·.1) = some B.id := h.2.2.2.2.2 hne

end clauses

theorem BodyOK.instrOK {c : Cert} {f : Func} {B : Block} :
    ∀ (is : List Instr) (V : List Val), BodyOK c f B V is → (∀ v ∈ V, c.rank v < (c.bidx B.id + 1) * c.M) →
      ∀ i ∈ is, ∃ V', InstrOK c f B V' i ∧ ∀ v ∈ V', c.rank v < (c.bidx B.id + 1) * c.M := by
  intro is
  induction is with
  | nil => intro _ _ _ i hi; cases hi
  | cons j is ih =>
    intro V h hV i hi
    rcases List.mem_cons.mp hi with rfl | hi
    · exact ⟨V, h.1, hV⟩
    · refine ih _ h.2 (fun v hv => ?_) i hi
      rcases List.mem_append.mp hv with hv | hv
      · exact hV v hv
      · exact (h.1.rank v hv).2

theorem WF.instrOK {c : Cert} {f : Func} (h : WF c f) {B : Block} (hB : B ∈ f.blocks) (hBv : B.invalid = false)
    {i : Instr} (hi : i ∈ B.instrs) : ∃ V, InstrOK c f B V i ∧ ∀ v ∈ V, c.rank v < (c.bidx B.id + 1) * c.M := by
  have hok := h.blocks B hB hBv
  have hband : c.bidx B.id * c.M < (c.bidx B.id + 1) * c.M := by
    have := h.Mpos
    rw [Nat.add_mul, Nat.one_mul]; omega
  refine BodyOK.instrOK _ _ hok.body (fun v hv => ?_) i hi
  rcases List.mem_append.mp hv with hv | hv
  · exact Nat.lt_trans (hok.availRank v hv) hband
  · rw [hok.pdefRank v hv]; exact hband

theorem BodyOK.map {c : Cert} {f f' : Func} {B B' : Block} {δ : Instr → Instr} (hres : ∀ i, (δ i).results = i.results)
    (h : ∀ i ∈ B.instrs, ∀ V, InstrOK c f B V i → InstrOK c f' B' V (δ i)) {is : List Instr} {V : List Val}
    (hsub : ∀ i ∈ is, i ∈ B.instrs) (hb : BodyOK c f B V is) : BodyOK c f' B' V (is.map δ) := by
  induction is generalizing V with
  | nil => trivial
  | cons i is ih =>
    obtain ⟨hi, hsub⟩ := List.forall_mem_cons.mp hsub
    exact ⟨h i hi V hb.1, hres i ▸ ih hsub hb.2⟩

/-- What makes `d` a possible alias of `s` in the well-formed `f`: `aliasInsert f.alias d s` then does record the
entry, and the table keeps what `WF` asks of it. -/
structure AliasStep (c : Cert) (f : Func) (d s : Val) : Prop where
  wf : WF c f
  key : aliasGet f.alias d = none
  rank : c.rank (res f.alias s) < c.rank d
  ty : c.cty d = c.cty (res f.alias s)
  notConst : ∀ ty k, Instr.iconst d ty k ∉ f.allInstrs

section step
variable {c : Cert} {f : Func} {d s : Val}

theorem AliasStep.ne (h : AliasStep c f d s) : res f.alias s ≠ d := by
  intro e
  have := h.rank
  rw [e] at this
  exact Nat.lt_irrefl _ this

theorem AliasStep.res_new (h : AliasStep c f d s) (v : Val) :
    res (aliasInsert f.alias d s) v = if res f.alias v = d then res f.alias s else res f.alias v :=
  res_aliasInsert d s h.ne h.key v

theorem AliasStep.nf (h : AliasStep c f d s) :
    ∀ e ∈ aliasInsert f.alias d s, aliasGet (aliasInsert f.alias d s) e.2 = none :=
  (aliasNF_iff _).mp (aliasNF_insert h.wf.aliasNF d s)

theorem AliasStep.alRank (h : AliasStep c f d s) : ∀ e ∈ aliasInsert f.alias d s, c.rank e.2 < c.rank e.1 :=
  forall_aliasInsert (R := fun x y => c.rank y < c.rank x) (fun h1 h2 => Nat.lt_trans h2 h1) h.wf.alRank h.rank

theorem AliasStep.alTy (h : AliasStep c f d s) : ∀ e ∈ aliasInsert f.alias d s, c.cty e.1 = c.cty e.2 :=
  forall_aliasInsert (R := fun x y => c.cty x = c.cty y) Eq.trans h.wf.alTy h.ty

theorem AliasStep.constKey (h : AliasStep c f d s) {i : Instr} (hi : i ∈ f.allInstrs) :
    ConstNoKey (aliasInsert f.alias d s) i := by
  have hk := h.wf.constKey i hi
  cases i <;> try trivial
  case iconst r ty k => exact aliasGet_insert_none hk (fun e => h.notConst ty k (e ▸ hi))

/-- the new table identifies at least what the old one does (`ext_insert`), and only `d` gets an alias -/
theorem AliasStep.instrOK (h : AliasStep c f d s) {B : Block} {V : List Val} {i : Instr}
    (hok : InstrOK c f B V i) (hdef : d ∈ i.results → ∃ v ∈ V, res f.alias s = res f.alias v) :
    InstrOK c { f with alias := aliasInsert f.alias d s } B V i := by
  have hlike : ∀ {o}, (∃ v ∈ V, res f.alias o = res f.alias v) →
      ∃ v ∈ V, res (aliasInsert f.alias d s) o = res (aliasInsert f.alias d s) v :=
    fun ⟨v, hv, hov⟩ => ⟨v, hv, ext_insert d s _ v hov⟩
  refine ⟨fun o ho => hlike (hok.operands o ho), fun r0 hr0 => ?_, hok.rank, hok.typed, hok.shiftClause, ?_⟩
  · rcases hok.results r0 hr0 with hself | hav
    · by_cases hrd : r0 = d
      · -- `d` now resolves to what `s` resolves to, and so does the available value (it is not `d`)
        subst hrd
        obtain ⟨v, hv, hsv⟩ := hdef hr0
        exact Or.inr ⟨v, hv, by rw [h.res_new, h.res_new, hself, if_pos rfl, ← hsv, if_neg h.ne]⟩
      · exact Or.inl (by rw [h.res_new, hself, if_neg hrd])
    · exact Or.inr (hlike hav)
  · cases hbr : i.branch? with
    | none => trivial
    | some p =>
      obtain ⟨t, as⟩ := p
      obtain ⟨T, hT, hlen, hav, hty, hrem⟩ := hok.branch hbr
      show match f.findBlock t with
        | some T => _
        | none => False
      rw [hT]
      exact ⟨hlen, hav, hty, fun q hq hqn => hlike (hrem q hq hqn)⟩

theorem AliasStep.wf_new (h : AliasStep c f d s)
    (hnp : ∀ T ∈ f.blocks, d ∉ T.params.map (·.1))
    (hdef : ∀ B ∈ f.blocks, ∀ i ∈ B.instrs, ∀ V, InstrOK c f B V i → d ∈ i.results →
      ∃ v ∈ V, res f.alias s = res f.alias v) :
    WF c { f with alias := aliasInsert f.alias d s } := by
  refine ⟨h.wf.ids, h.nf, h.alRank, h.alTy, fun i => h.constKey, h.wf.uniq, h.wf.entryAvail, h.wf.entryGhost,
    h.wf.Mpos, fun B hB hBv => ?_⟩
  have hB0 := h.wf.blocks B hB hBv
  refine ⟨fun p hp => ⟨(hB0.param p hp).1, (hB0.param p hp).2.1,
      aliasGet_insert_none (hB0.param p hp).2.2 (fun e => hnp B hB (e ▸ List.mem_map_of_mem hp))⟩, hB0.pdefRank,
    fun q hq hqn => aliasGet_insert_ne_none (hB0.removed q hq hqn), hB0.availRank, ?_, hB0.pred⟩
  rw [← List.map_id B.instrs]
  exact BodyOK.map (fun _ => rfl) (fun i hiB V hok => h.instrOK hok (hdef B hB i hiB V hok)) (fun _ hi => hi) hB0.body

/-- What the definition of the value `x` has established in the environment `e`: `d` holds what `s` resolves to,
a constant its value (which the shift rule needs of its amount; the parameter removal makes no use of it). -/
def Post (f : Func) (d s x : Val) (e : Val → Nat) : Prop :=
  (x = d → e (res f.alias s) = e d) ∧ ∀ ty k, Instr.iconst x ty k ∈ f.allInstrs → e x = norm ty k

theorem Post.frame (h : AliasStep c f d s) {x : Val} {e e1 : Val → Nat} (hp : Post f d s x e)
    (hfr : ∀ y, c.rank y ≤ c.rank x → e1 y = e y) : Post f d s x e1 := by
  refine ⟨fun hx => ?_, fun ty k hc => ?_⟩
  · rw [hfr _ (hx ▸ Nat.le_of_lt h.rank), hfr _ (Nat.le_of_eq (congrArg c.rank hx.symm))]
    exact hp.1 hx
  · rw [hfr x (Nat.le_refl _)]
    exact hp.2 ty k hc

/-- What the run of `f` satisfies at a point where the values `V` are available: what an available value resolves
to has been defined.  This makes the alias `d ↦ s` invisible (`Inv.read`). -/
structure Inv (c : Cert) (f : Func) (d s : Val) (V : List Val) (st : St) : Prop where
  post : ∀ v ∈ V, Post f d s (res f.alias v) st.env
  ty : Typed c.cty st.env

variable {V : List Val} {st : St}

theorem Inv.read (hinv : Inv c f d s V st) (h : AliasStep c f d s) {o : Val}
    (ho : ∃ v ∈ V, res f.alias o = res f.alias v) :
    st.env (res (aliasInsert f.alias d s) o) = st.env (res f.alias o) := by
  rw [h.res_new]
  split
  · rename_i hod
    obtain ⟨v, hv, hov⟩ := ho
    rw [hod]
    exact (hinv.post v hv).1 (hov ▸ hod)
  · rfl

theorem Inv.mono {V' : List Val} (h : Inv c f d s V st) (hsub : ∀ v ∈ V', v ∈ V) : Inv c f d s V' st :=
  ⟨fun v hv => h.post v (hsub v hv), h.ty⟩

/-- A write above everything available does not reach what an available value resolves to, nor anything below it:
an alias entry decreases the rank. -/
theorem Inv.frame (hinv : Inv c f d s V st) (h : AliasStep c f d s) {W : List Val}
    (hW : ∀ r ∈ W, ∀ v ∈ V, c.rank v < c.rank r) {e1 : Val → Nat} (hfr : ∀ v, v ∉ W → e1 v = st.env v) :
    ∀ v ∈ V, Post f d s (res f.alias v) e1 := fun v hv =>
  (hinv.post v hv).frame h fun y hy => hfr y fun hw => by
    have := hW y hw v hv
    have := rank_res_le h.wf.alRank v
    omega

/-- One instruction reads the same through both tables, and when it goes on the invariant holds with its results:
a result without alias is new, and holds what `Post` asks (`hd`; a constant its value); one that has an alias already
resolves like an available value, which the write does not reach. -/
theorem Inv.instr (hinv : Inv c f d s V st) (h : AliasStep c f d s) (w : World) {B : Block} {i : Instr}
    (hi : i ∈ f.allInstrs) (hok : InstrOK c f B V i)
    (hd : d ∈ i.results → (execInstr w (fun v => st.env (res f.alias v)) i st).st.env (res f.alias s) =
      (execInstr w (fun v => st.env (res f.alias v)) i st).st.env d) :
    execInstr w (fun v => st.env (res (aliasInsert f.alias d s) v)) i st =
      execInstr w (fun v => st.env (res f.alias v)) i st ∧
    ∀ st1, execInstr w (fun v => st.env (res f.alias v)) i st = .next st1 → Inv c f d s (V ++ i.results) st1 := by
  refine ⟨execInstr_congr w i st (fun o ho => hinv.read h (hok.operands o ho)), fun st1 hex => ?_⟩
  have hfr := exec_frame w (fun v => st.env (res f.alias v)) i st
  have hty := exec_typed w (fun v => st.env (res f.alias v)) i st hinv.ty hok.typed
  rw [hex] at hfr hty hd
  have hold := hinv.frame h (fun r0 hr0 => (hok.rank r0 hr0).1) hfr
  refine ⟨fun v hv => ?_, hty⟩
  rcases List.mem_append.mp hv with hv | hv
  · exact hold v hv
  · rcases hok.results v hv with hself | ⟨v', hv', hvv'⟩
    · rw [hself]
      refine ⟨fun e => hd (e ▸ hv), fun ty k hc => ?_⟩
      obtain rfl := instr_unique h.wf.uniq hi hc hv (List.mem_singleton_self v)
      cases hex
      simp [St.set, upd]
    · rw [hvv']
      exact hold v' hv'

/-- Entering the block `b` from a point where the invariant holds for values among which are those available at the
entry of `b`, and which the removed parameters of `b` resolve like; if `d` is a parameter of `b`, it is bound to what `s`
resolves to. -/
theorem Inv.enter (hinv : Inv c f d s V st) (h : AliasStep c f d s) {b : BlockId} {T : Block}
    (hT : f.findBlock b = some T) {as : List Nat} (hav : ∀ v ∈ c.avail b, v ∈ V)
    (hrem : ∀ q ∈ c.pdefs b, q ∉ T.params.map (·.1) → ∃ v ∈ V, res f.alias q = res f.alias v)
    (hd : d ∈ T.params.map (·.1) → st.env (res f.alias s) = bindVals st.env T.params as d) :
    Inv c f d s (c.avail T.id ++ c.pdefs T.id) { st with env := bindVals st.env T.params as } := by
  obtain ⟨hTm, rfl, hTv⟩ := findBlock_mem hT
  have hT0 := h.wf.blocks T hTm hTv
  have hfr : ∀ v, v ∉ T.params.map (·.1) → bindVals st.env T.params as v = st.env v := bindVals_frame _ _ _
  -- the parameters sit at the lower end of the band of the block, above everything available at its entry
  have hprk : ∀ q ∈ T.params.map (·.1), c.rank q = c.bidx T.id * c.M := by
    intro q hq
    obtain ⟨p', hp', rfl⟩ := List.mem_map.mp hq
    exact hT0.pdefRank _ (hT0.param p' hp').1
  have hlow : ∀ x, c.rank x < c.bidx T.id * c.M → bindVals st.env T.params as x = st.env x :=
    fun x hx => hfr x fun hm => by have := hprk x hm; omega
  refine ⟨fun v hv => ?_, typed_bindVals _ _ hinv.ty (fun q hq => (hT0.param q hq).2.1)⟩
  rcases List.mem_append.mp hv with hv | hv
  · exact (hinv.mono hav).frame h (fun q hq v hv => by rw [hprk q hq]; exact hT0.availRank v hv) hfr v hv
  · by_cases hpv : v ∈ T.params.map (·.1)
    · -- a parameter has no alias, and is not a constant
      obtain ⟨p', hp', rfl⟩ := List.mem_map.mp hpv
      rw [res_of_none (hT0.param p' hp').2.2]
      refine ⟨fun e => ?_, fun ty k hc => absurd (by simp [Instr.results]) (param_not_result h.wf.uniq hTm hpv hc)⟩
      subst e
      show bindVals st.env T.params as (res f.alias s) = _
      rw [hlow _ (hprk _ hpv ▸ h.rank)]
      exact hd hpv
    · -- a parameter removed earlier resolves to something below the block, like a value of the predecessor
      obtain ⟨v', hv', hvv'⟩ := hrem v hv hpv
      have hlt := rank_res_lt_of_key h.wf.alRank (hT0.removed v hv hpv)
      rw [hT0.pdefRank v hv, hvv'] at hlt
      rw [hvv']
      exact (hinv.post v' hv').frame h fun y hy => hlow y (Nat.lt_of_le_of_lt hy hlt)

section run
variable (h : AliasStep c f d s) (w : World)
  -- the definition of `d` writes what `s` resolves to: an instruction, …
  (hd : ∀ B ∈ f.blocks, ∀ i ∈ B.instrs, ∀ V st, InstrOK c f B V i → Inv c f d s V st → d ∈ i.results →
    (execInstr w (fun v => st.env (res f.alias v)) i st).st.env (res f.alias s) =
      (execInstr w (fun v => st.env (res f.alias v)) i st).st.env d)
  -- … or the binding of a block parameter at a branch
  (hp : ∀ t T, f.findBlock t = some T → d ∈ T.params.map (·.1) →
    ∀ B ∈ f.blocks, ∀ i ∈ B.instrs, ∀ V st as, InstrOK c f B V i → Inv c f d s V st → i.branch? = some (t, as) →
    st.env (res f.alias s) = bindVals st.env T.params (as.map fun v => st.env (res f.alias v)) d)
include h hd hp

theorem Inv.body {B : Block} (hB : B ∈ f.blocks) :
    ∀ (is : List Instr) (V : List Val) (st : St), (∀ i ∈ is, i ∈ B.instrs) → BodyOK c f B V is → Inv c f d s V st →
      execBody w (aliasInsert f.alias d s) is st = execBody w f.alias is st ∧
      ∀ b as st1, execBody w f.alias is st = some (.goto b as st1) → ∀ T, f.findBlock b = some T →
        Inv c f d s (c.avail T.id ++ c.pdefs T.id) { st1 with env := bindVals st1.env T.params as } := by
  intro is
  induction is with
  | nil => intro V st _ _ _; exact ⟨rfl, fun _ _ _ h => nomatch h⟩
  | cons i is ih =>
    intro V st hsub hbody hinv
    obtain ⟨hiB, hsub⟩ := List.forall_mem_cons.mp hsub
    obtain ⟨heq, hnext⟩ := hinv.instr h w (mem_allInstrs.mpr ⟨B, hB, hiB⟩) hbody.1 (hd B hB i hiB V st hbody.1 hinv)
    simp only [execBody, heq]
    cases hex : execInstr w (fun v => st.env (res f.alias v)) i st with
    | next st1 => exact ih _ st1 hsub hbody.2 (hnext st1 hex)
    | goto b as st1 =>
      refine ⟨rfl, fun b' as' st1' hg T hT => ?_⟩
      cases hg
      obtain ⟨rfl, as0, hbr, rfl⟩ := execInstr_goto_inv w _ i st hex
      -- the target of the branch: what `InstrOK` asks of it is what entering it needs
      obtain ⟨T', hT', _, hav, _, hrem⟩ := hbody.1.branch hbr
      obtain rfl := findBlock_unique hT' hT
      exact hinv.enter h hT hav hrem fun hdT => hp b T' hT hdT B hB i hiB V _ as0 hbody.1 hinv hbr
    | ret _ _ => exact ⟨rfl, fun _ _ _ h => nomatch h⟩
    | trap _ _ => exact ⟨rfl, fun _ _ _ h => nomatch h⟩

theorem AliasStep.run (he : ∀ T, f.findBlock f.entry = some T → d ∉ T.params.map (·.1)) (args : List Nat)
    (fuel : Nat) : run w { f with alias := aliasInsert f.alias d s } args fuel = run w f args fuel := by
  -- nothing is available at the entry of the function, and no parameter of its first block was removed
  have hinit : ∀ T, f.findBlock f.entry = some T →
      Inv c f d s (c.avail T.id ++ c.pdefs T.id) { St.init with env := bindVals St.init.env T.params args } :=
    fun T hT => Inv.enter (V := []) ⟨fun v hv => (nomatch hv), fun v => Nat.two_pow_pos _⟩ h hT
      (by rw [h.wf.entryAvail]; exact fun v hv => hv)
      (fun q hq hqn => absurd (h.wf.entryGhost T (findBlock_mem hT).1 (findBlock_mem hT).2.1 q hq) hqn)
      (fun hd => absurd hd (he T hT))
  -- at the entry of a block the invariant holds once the parameters are bound
  refine (run_sim_driver w f { f with alias := aliasInsert f.alias d s } id
    (fun b as as' st st' => as' = as ∧ st' = st ∧ ∀ T, f.findBlock b = some T →
      Inv c f d s (c.avail T.id ++ c.pdefs T.id) { st with env := bindVals st.env T.params as })
    (fun _ => Option.map_id'.symm) ?_ fuel _ args args _ _ ⟨rfl, rfl, hinit⟩).symm
  rintro b as _ st _ T ⟨rfl, rfl, her⟩ hT
  obtain ⟨hTm, _, hTv⟩ := findBlock_mem hT
  obtain ⟨heq, hgo⟩ := Inv.body h w hd hp hTm T.instrs _ _ (fun _ hi => hi) (h.wf.blocks T hTm hTv).body (her T hT)
  refine ⟨Iff.rfl, fun _ => ?_⟩
  simp only [id_eq]
  rw [heq]
  exact BodyOut.refl _ (fun b' as' st' hex => ⟨rfl, rfl, hgo b' as' st' hex⟩)

end run

end step

/-- What one step of `nopElim` or `redundantPhiElim` yields from a well-formed `g`.  Steps compose (`trans`, `foldl`),
the well-formedness of one result being the hypothesis of the next step. -/
structure Refines (w : World) (c : Cert) (g g' : Func) : Prop where
  sound : ∀ args fuel, run w g' args fuel = run w g args fuel
  wf : WF c g'

theorem Refines.refl {w : World} {c : Cert} {g : Func} (hwf : WF c g) : Refines w c g g := ⟨fun _ _ => rfl, hwf⟩

theorem Refines.trans {w : World} {c : Cert} {g g1 g2 : Func} (h1 : Refines w c g g1) (h2 : Refines w c g1 g2) :
    Refines w c g g2 :=
  ⟨fun args fuel => (h2.sound args fuel).trans (h1.sound args fuel), h2.wf⟩

theorem Refines.foldl {w : World} {c : Cert} {σ α} (π : σ → Func) (step : σ → α → σ) (l : List α)
    (hstep : ∀ x, ∀ a ∈ l, WF c (π x) → Refines w c (π x) (π (step x a))) :
    ∀ x, WF c (π x) → Refines w c (π x) (π (l.foldl step x)) := by
  induction l with
  | nil => exact fun x hwf => .refl hwf
  | cons a l ih =>
    intro x hwf
    have h1 := hstep x a (List.mem_cons_self ..) hwf
    exact h1.trans (ih (fun y b hb => hstep y b (List.mem_cons_of_mem _ hb)) _ h1.wf)

end Wz.Model.SsaPass
