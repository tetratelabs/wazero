import Wz.Model.InstrGroups

/-! Lemmas about instruction groups (see `Wz.Model.InstrGroups`): the group id after a prefix is the start id plus the
strict instructions of the prefix (`gid_after_prefix`), and a load can be moved down past non-strict instructions that
do not touch its register (`sink_load`). -/
namespace Wz.Model.InstrGroups

theorem countStrict_append (l1 l2 : List Ins) : countStrict (l1 ++ l2) = countStrict l1 + countStrict l2 := by
  induction l1 with
  | nil => simp [countStrict]
  | cons i is ih => simp [countStrict, ih]; omega

theorem bump_eq (g : Nat) (i : Ins) : bump g i.eff = g + (if i.eff = .strict then 1 else 0) := by
  unfold bump; split <;> simp

theorem gidsFrom_length (g : Nat) (l : List Ins) : (gidsFrom g l).length = l.length := by
  induction l generalizing g with
  | nil => rfl
  | cons i is ih => simp [gidsFrom, ih]

theorem gidsFrom_append (g : Nat) (l1 l2 : List Ins) :
    gidsFrom g (l1 ++ l2) = gidsFrom g l1 ++ gidsFrom (g + countStrict l1) l2 := by
  induction l1 generalizing g with
  | nil => simp [gidsFrom, countStrict]
  | cons i is ih =>
    simp only [List.cons_append, gidsFrom, countStrict, ih, bump_eq]
    rw [Nat.add_assoc]

theorem gid_after_prefix (g : Nat) (pre : List Ins) (a : Ins) (rest : List Ins) :
    (gidsFrom g (pre ++ a :: rest))[pre.length]? = some (g + countStrict pre) := by
  rw [gidsFrom_append]
  rw [List.getElem?_append_right (by simp [gidsFrom_length])]
  simp [gidsFrom_length, gidsFrom]

theorem countStrict_zero {l : List Ins} (h : countStrict l = 0) : ∀ i ∈ l, i.eff ≠ .strict := by
  induction l with
  | nil => intro i hi; cases hi
  | cons x xs ih =>
    intro i hi
    simp only [countStrict] at h
    cases hi with
    | head => intro hs; simp [hs] at h
    | tail _ hm => exact ih (by omega) i hm

theorem upd_comm (f : Nat → Nat) {a b : Nat} (h : a ≠ b) (v w : Nat) :
    upd (upd f a v) b w = upd (upd f b w) a v := by
  funext x
  unfold upd
  split
  · next hb => rw [if_neg fun ha => h (ha.symm.trans hb)]
  · rfl

theorem upd_other (f : Nat → Nat) {k x : Nat} (h : x ≠ k) (v : Nat) : upd f k v x = f x := by
  unfold upd; simp [h]

theorem exec_append (l1 l2 : List Ins) (s : State) : exec (l1 ++ l2) s = (exec l1 s).bind (exec l2) := by
  induction l1 generalizing s with
  | nil => simp [exec]
  | cons i is ih =>
    simp only [List.cons_append, exec]
    cases step i s with
    | none => simp
    | some s' => simp [ih]

theorem load_step_comm (d a : Nat) (i : Ins) (s : State) (he : i.eff ≠ .strict) (hi : Indep d i) :
    (step (.load d a) s).bind (step i) = (step i s).bind (step (.load d a)) := by
  cases i with
  | load dst b =>
    simp only [Indep] at hi
    simp only [step, State.setReg, Option.bind_some, upd_comm _ hi]
  | pure dst f =>
    simp only [Indep] at hi
    simp only [step, State.setReg, Option.bind_some, hi.2, upd_comm _ hi.1]
  | trapIf c =>
    simp only [Indep] at hi
    simp only [step, State.setReg, Option.bind_some, upd_other _ hi]
    split <;> rfl
  | store _ _ | call _ => exact absurd rfl he

theorem sink_load (d a : Nat) (mid rest : List Ins) (s : State)
    (h : ∀ i ∈ mid, i.eff ≠ .strict ∧ Indep d i) :
    exec (Ins.load d a :: (mid ++ rest)) s = exec (mid ++ Ins.load d a :: rest) s := by
  induction mid generalizing s with
  | nil => rfl
  | cons i mid ih =>
    have ⟨he, hi⟩ := h i (List.mem_cons_self ..)
    show (step (.load d a) s).bind (fun s1 => (step i s1).bind (exec (mid ++ rest))) = (step i s).bind (exec (mid ++ Ins.load d a :: rest))
    rw [← Option.bind_assoc, load_step_comm d a i s he hi, Option.bind_assoc]
    exact Option.bind_congr fun s' _ => ih s' fun j hj => h j (List.mem_cons_of_mem _ hj)

end Wz.Model.InstrGroups
