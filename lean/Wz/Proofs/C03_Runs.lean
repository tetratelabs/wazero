/-
C03: the reference semantics (`Wz.Spec.Wasm`) on stacks of a given height. `Good` says what the outcome of code of a
stack type may be: the height the type promises, a branch or a return with enough operands, a trap that is not the
internal `"stack"` (nor `"unsupported"` under an assumption `U`), or no fuel. `Runs` says it of an instruction or a
sequence at every fuel below which all calls do (`PCall`); the lemmas `runs_*` and `Runs.*` are the typing rules of the
instructions read as facts about `Runs`. Nothing here mentions the validator.
-/
import Wz.Proofs.Wasm_Exec

namespace Wz.C03v
open Wz.Spec Wz.Spec.Wasm

variable {m : Module}

/-- What a scalar numeric instruction yields: never lanes, so that `numResult` fails with the name of a trap of the
standard only. -/
def ScalarRes : Num.Res → Prop
  | .val _ | .nanArith _ => True
  | .trap k => k = "div0" ∨ k = "overflow" ∨ k = "invalid-conversion"
  | .lanes .. => False

theorem scalarRes_fres (f x) : ScalarRes (Num.fres f x) := by
  unfold Num.fres; split <;> exact True.intro

theorem scalarRes_optRes {n} (o : Option (BitVec n)) {kind} (h : ScalarRes (.trap kind)) :
    ScalarRes (Num.optRes o kind) := by
  cases o <;> first | exact True.intro | exact h

theorem scalarRes_truncRes (x) : ScalarRes (Num.truncRes x) := by
  unfold Num.truncRes; split <;> simp [ScalarRes]

theorem ibin_ok {n op a b} : ∀ r, Num.ibin n op a b = some r → ScalarRes r := by
  fun_cases Num.ibin n op a b <;> intro r h <;> cases h <;>
    first | exact True.intro | exact scalarRes_optRes _ (.inl rfl) | skip
  split
  · exact .inl rfl
  · exact scalarRes_optRes _ (.inr (.inl rfl))

theorem iun_ok {n op a} : ∀ r, Num.iun n op a = some r → ScalarRes r := by
  fun_cases Num.iun n op a <;> intro r h <;> cases h <;> exact True.intro

theorem fbin_ok {f op a b} : ∀ r, Num.fbin f op a b = some r → ScalarRes r := by
  fun_cases Num.fbin f op a b <;> intro r h <;> cases h <;> first | exact True.intro | exact scalarRes_fres ..

theorem fun1_ok {f op a} : ∀ r, Num.fun1 f op a = some r → ScalarRes r := by
  fun_cases Num.fun1 f op a <;> intro r h <;> cases h <;> first | exact True.intro | exact scalarRes_fres ..

theorem conv_ok {name a} : ∀ r, Num.conv name a = some r → ScalarRes r := by
  fun_cases Num.conv name a <;> intro r h <;> cases h <;>
    first | exact True.intro | exact scalarRes_fres .. | exact scalarRes_truncRes _

theorem scalar_ok {name args r} (h : Num.scalar name args = some r) : ScalarRes r := by
  unfold Num.scalar at h
  split at h
  · simp only [Option.orElse] at h
    split at h
    · next hc => cases h; exact conv_ok _ hc
    · split at h <;> first | exact iun_ok _ h | exact fun1_ok _ h | cases h
  · split at h <;> first | exact ibin_ok _ h | exact fbin_ok _ h | cases h
  · cases h

theorem numResult_error {r k} (h : ScalarRes r) (hk : numResult r = .error k) :
    k ≠ "stack" ∧ k ≠ "unsupported" := by
  unfold numResult at hk
  split at hk <;> cases hk
  · rcases h with rfl | rfl | rfl <;> decide
  · exact h.elim

/-- The outcome of running code of type `ts1 → ts2` on a stack of height `b + |ts1|`
(`n2 = |ts2|`, `ls` the label types, `nres` the number of results of the function; `U` is the assumption under
which the outcome `"unsupported"` is excluded as well). -/
def Good (U : Prop) (ls : List (List VT)) (nres b n2 : Nat) : Ctl × Frame × Store → Prop
  | (.next, fr, _) => fr.stack.length = b + n2
  | (.br n, fr, _) => ∃ lt, ls[n]? = some lt ∧ b + lt.length ≤ fr.stack.length
  | (.ret, fr, _) => nres ≤ fr.stack.length
  | (.trap k, _, _) => k ≠ "stack" ∧ (U → k ≠ "unsupported")
  | (.exhausted, _, _) => True

/-- A call behaves as code of the function's type whatever labels and result count the caller has: it neither
branches nor returns. -/
def CallOK (m : Module) (U : Prop) (nf k : Nat) : Prop :=
  ∀ f fr st b ls nres, f < nf → fr.stack.length = b + (funcType m f).params.length →
    Good U ls nres b (funcType m f).results.length (callFunc m k f fr st)

def PCall (m : Module) (U : Prop) (nf k : Nat) : Prop := ∀ j, j < k → CallOK m U nf j

theorem PCall.mono {m U nf k} (h : PCall m U nf (k + 1)) : PCall m U nf k :=
  fun j hj => h j (Nat.lt_succ_of_lt hj)

def Runs (m : Module) (U : Prop) (nf : Nat) (ls : List (List VT)) (nres : Nat)
    (run : Nat → Frame → Store → Ctl × Frame × Store) (n1 n2 : Nat) : Prop :=
  ∀ k, PCall m U nf k → ∀ fr st b, fr.stack.length = b + n1 → Good U ls nres b n2 (run k fr st)

section runs
variable {U : Prop} {nf : Nat} {ls : List (List VT)} {nres : Nat}

theorem good_frame {b n n2 r} (h : Good U ls nres (b + n) n2 r) : Good U ls nres b (n2 + n) r := by
  obtain ⟨c, fr, st⟩ := r
  cases c
  · exact h.trans (by omega)
  · exact h.imp fun lt h => ⟨h.1, by omega⟩
  all_goals exact h

theorem Runs.frame {run n1 n2} (h : Runs m U nf ls nres run n1 n2) (n : Nat) :
    Runs m U nf ls nres run (n1 + n) (n2 + n) :=
  fun k hP fr st b hb => good_frame (h k hP fr st (b + n) (by omega))

/-- an instruction: fuel `0` is `exhausted`, which is `Good` -/
theorem Runs.of_succ {e n1 n2} (h : ∀ k, PCall m U nf (k + 1) → ∀ fr st b, fr.stack.length = b + n1 →
    Good U ls nres b n2 (execInstr m (k + 1) e fr st)) : Runs m U nf ls nres (execInstr m · e) n1 n2
  | 0, _, _, _, _, _ => trivial
  | k + 1, hP, fr, st, b, hb => h k hP fr st b hb

theorem runs_nil {n} : Runs m U nf ls nres (execSeq m · []) n n
  | 0, _, _, _, _, _ => trivial
  | _ + 1, _, _, _, _, h => h

theorem Runs.single {e n1 n2} (h : Runs m U nf ls nres (execInstr m · e) n1 n2) :
    Runs m U nf ls nres (execSeq m · [e]) n1 n2 := by
  intro k hP fr st b hb
  cases k with
  | zero => trivial
  | succ k =>
    have g : Good U ls nres b n2 (execInstr m k e fr st) := h k hP.mono fr st b hb
    show Good _ _ _ _ _ (execSeq m (k+1) [e] fr st)
    rw [execSeq_cons]
    generalize execInstr m k e fr st = r at g
    obtain ⟨c, fr', st'⟩ := r
    cases c with
    | next => cases k with
      | zero => trivial
      | succ k => exact g
    | _ => exact g

theorem Runs.cons {e rest n1 n2 n3} (h1 : Runs m U nf ls nres (execSeq m · [e]) n1 n2)
    (h2 : Runs m U nf ls nres (execSeq m · rest) n2 n3) : Runs m U nf ls nres (execSeq m · (e :: rest)) n1 n3 := by
  intro k hP fr st b hb
  cases k with
  | zero => trivial
  | succ k =>
    have g : Good U ls nres b n2 (execSeq m (k+1) [e] fr st) := h1 (k + 1) hP fr st b hb
    show Good _ _ _ _ _ (execSeq m (k+1) (e :: rest) fr st)
    rw [execSeq_cons] at g ⊢
    generalize execInstr m k e fr st = r at g
    obtain ⟨c, fr', st'⟩ := r
    cases c with
    | next => cases k with
      | zero => trivial
      | succ k => exact h2 (k + 1) hP.mono fr' st' b g
    | _ => exact g

theorem good_trap {b n2 k fr st} (h : k ≠ "stack" ∧ k ≠ "unsupported") : Good U ls nres b n2 (.trap k, fr, st) :=
  ⟨h.1, fun _ => h.2⟩

theorem good_ite {b n2 x y} {c : Prop} [Decidable c] (hx : c → Good U ls nres b n2 x)
    (hy : ¬ c → Good U ls nres b n2 y) : Good U ls nres b n2 (if c then x else y) := by
  split
  · exact hx ‹_›
  · exact hy ‹_›

/-- operands popped and pushed by the instructions that neither branch, nor call, nor apply a numeric operator -/
def plainSig : Instr → Option (Nat × Nat)
  | .const _ | .localGet _ | .globalGet _ | .memSize => some (0, 1)
  | .localSet _ | .globalSet _ | .drop => some (1, 0)
  | .localTee _ | .load .. | .memGrow => some (1, 1)
  | .store .. => some (2, 0)
  | .memCopy | .memFill => some (3, 0)
  | .select => some (3, 1)
  | _ => none

theorem runs_plain {e n1 n2} (he : plainSig e = some (n1, n2)) : Runs m U nf ls nres (execInstr m · e) n1 n2 := by
  refine .of_succ fun k _ ⟨stk, loc⟩ st b h => ?_
  -- on a stack of the shape that `h` forces, `execInstr` computes: `next` with `n2` values on what is left of the
  -- stack, or the trap `"oob-memory"`
  match e, he, stk, h with
  | .const _, rfl, s, h | .localGet _, rfl, s, h | .globalGet _, rfl, s, h | .memSize, rfl, s, h =>
    exact congrArg Nat.succ h
  | .localSet _, rfl, _ :: s, h | .globalSet _, rfl, _ :: s, h | .drop, rfl, _ :: s, h => exact Nat.succ.inj h
  | .localTee _, rfl, _ :: s, h => exact h
  | .load .., rfl, _ :: s, h => exact good_ite (fun _ => good_trap (by decide)) fun _ => h
  | .memGrow, rfl, _ :: s, h => exact good_ite (fun _ => h) fun _ => h
  | .store .., rfl, _ :: _ :: s, h =>
    exact good_ite (fun _ => good_trap (by decide)) fun _ => Nat.add_right_cancel (m := 2) h
  | .memCopy, rfl, _ :: _ :: _ :: s, h | .memFill, rfl, _ :: _ :: _ :: s, h =>
    exact good_ite (fun _ => good_trap (by decide)) fun _ => Nat.add_right_cancel (m := 3) h
  | .select, rfl, _ :: _ :: _ :: s, h => exact Nat.add_right_cancel (m := 2) h

theorem good_exit {lt b n2 r} {exit : Frame → Store → Ctl × Frame × Store} (g : Good U (lt :: ls) nres b n2 r)
    (h : ∀ fr st, b + lt.length ≤ fr.stack.length → Good U ls nres b n2 (exit fr st)) :
    Good U ls nres b n2 (match r with
      | (.br 0, fr, st) => exit fr st
      | (.br (n + 1), fr, st) => (.br n, fr, st)
      | r => r) := by
  obtain ⟨c, fr, st⟩ := r
  match c, g with
  | .br 0, ⟨_, hlt, g⟩ => cases hlt; exact h fr st g
  | .br (n + 1), g | .next, g | .ret, g | .trap _, g | .exhausted, g => exact g

/-- `block`: a branch to its label keeps the label's operands on the entry stack -/
theorem Runs.block {bt : List VT} {body} (h : Runs m U nf (bt :: ls) nres (execSeq m · body) 0 bt.length) :
    Runs m U nf ls nres (execInstr m · (.block bt.length body)) 0 bt.length :=
  .of_succ fun k hP fr st b hb =>
    execInstr_block .. ▸ good_exit (h k hP.mono fr st b hb) fun fr' st' hle => by
      simp only [Good, splitTop, List.length_append, List.length_take, List.length_drop]
      omega

/-- `loop` (no parameters in W0): a branch to the loop restores the entry height and repeats -/
theorem Runs.loop {body n2} (h : Runs m U nf ([] :: ls) nres (execSeq m · body) 0 n2) :
    Runs m U nf ls nres (execInstr m · (.loop body)) 0 n2
  | 0, _, _, _, _, _ => trivial
  | k + 1, hP, fr, st, b, hb => by
    simp only [execInstr_loop]
    exact good_exit (h k hP.mono fr st b hb) fun fr' st' hle =>
      Runs.loop h k hP.mono _ st' b (by simp only [List.length_drop]; omega)

theorem Runs.ite {bt : List VT} {th el} (h1 : Runs m U nf (bt :: ls) nres (execSeq m · th) 0 bt.length)
    (h2 : Runs m U nf (bt :: ls) nres (execSeq m · el) 0 bt.length) :
    Runs m U nf ls nres (execInstr m · (.ite bt.length th el)) 1 bt.length :=
  .of_succ fun k hP ⟨c :: s, _⟩ st b hb => by
    rw [execInstr_ite]
    split
    · exact h1.block k hP.mono _ st b (Nat.succ.inj hb)
    · exact h2.block k hP.mono _ st b (Nat.succ.inj hb)

theorem runs_nop : Runs m U nf ls nres (execInstr m · (.block 0 [])) 0 0 :=
  Runs.block (bt := []) runs_nil

theorem runs_unreachable {n1 n2} : Runs m U nf ls nres (execInstr m · .unreachable) n1 n2 :=
  .of_succ fun _ _ _ _ _ _ => good_trap (by decide)

theorem runs_ret {n1 n2} (hn : nres ≤ n1) : Runs m U nf ls nres (execInstr m · .ret) n1 n2 :=
  .of_succ fun _ _ fr _ b hb => show nres ≤ fr.stack.length by omega

theorem runs_br {l lt n1 n2} (hl : ls[l]? = some lt) (hn : lt.length ≤ n1) :
    Runs m U nf ls nres (execInstr m · (.br l)) n1 n2 :=
  .of_succ fun _ _ _ _ b hb => ⟨lt, hl, hb ▸ Nat.add_le_add_left hn b⟩

theorem runs_brIf {l lt} (hl : ls[l]? = some lt) :
    Runs m U nf ls nres (execInstr m · (.brIf l)) (lt.length + 1) lt.length :=
  .of_succ fun _ _ ⟨_ :: _, _⟩ _ _ hb =>
    execInstr_brIf .. ▸ good_ite (fun _ => ⟨lt, hl, Nat.le_of_eq (Nat.succ.inj hb).symm⟩) fun _ => Nat.succ.inj hb

theorem runs_brTable {tbl d n n1 n2} (hl : ∀ l, l ∈ d :: tbl → ∃ lt, ls[l]? = some lt ∧ lt.length = n)
    (hn : n ≤ n1) : Runs m U nf ls nres (execInstr m · (.brTable tbl d)) (n1 + 1) n2 :=
  .of_succ fun _ _ ⟨c :: s, _⟩ _ b hb => by
    have hmem : tbl.getD (c % 2 ^ 32) d ∈ d :: tbl := by
      rw [List.getD_eq_getElem?_getD]
      cases h : tbl[c % 2 ^ 32]? with
      | none => simp
      | some x => simp [List.mem_of_getElem? h]
    obtain ⟨lt, hlt, rfl⟩ := hl _ hmem
    rw [execInstr_brTable]
    exact ⟨lt, hlt, show b + lt.length ≤ s.length by simp only [List.length_cons] at hb; omega⟩

theorem runs_call {f} (hf : f < nf) :
    Runs m U nf ls nres (execInstr m · (.call f)) (funcType m f).params.length (funcType m f).results.length :=
  .of_succ fun k hP fr st b hb => hP k (Nat.lt_succ_self k) f fr st b ls nres hf hb

theorem runs_callIndirect {ti ft} (htyp : m.types.getD ti default = ft) (htab : ∀ fi, fi ∈ m.table → fi < nf) :
    Runs m U nf ls nres (execInstr m · (.callIndirect ti)) (ft.params.length + 1) ft.results.length :=
  .of_succ fun k hP ⟨a :: s, loc⟩ st b hb =>
    good_ite (fun _ => good_trap (by decide)) fun hidx => good_ite (fun _ => good_trap (by decide)) fun hsig => by
      have hft : funcType m (m.table.getD (a % 2 ^ 32) 0) = ft := by rw [← htyp]; simpa using hsig
      have hlt : a % 2 ^ 32 < m.table.length := by omega
      have hmem : m.table.getD (a % 2 ^ 32) 0 ∈ m.table := by
        rw [List.getD_eq_getElem?_getD, List.getElem?_eq_getElem hlt]
        exact List.getElem_mem hlt
      exact hft ▸ hP k (Nat.lt_succ_self k) _ ⟨s, loc⟩ st b ls nres (htab _ hmem) (hft ▸ Nat.succ.inj hb)

theorem good_num {name args b fr st} {s : List Nat} (hs : s.length = b) (hsc : U → (Num.scalar name args).isSome) :
    Good U ls nres b 1 (numOut (Num.scalar name args) fr s st) := by
  unfold numOut
  split
  · next r hr =>
    split
    · exact congrArg Nat.succ hs
    · next k hv => exact good_trap (numResult_error (scalar_ok hr) hv)
  · next hr => exact ⟨by decide, fun hu => absurd (hsc hu) (by simp [hr])⟩

end runs

/-- the end of a call: however the body is left, its results are on top of its stack -/
theorem good_return {U ls nres b r rest} {res : List VT} {fr : Frame} (hg : Good U [res] res.length 0 res.length r)
    (hb : rest.length = b) :
    Good U ls nres b res.length (match r with
      | (.next, fr', st') | (.ret, fr', st') | (.br _, fr', st') =>
        (.next, { fr with stack := fr'.stack.take res.length ++ rest }, st')
      | (.trap k, _, st') => (.trap k, fr, st')
      | (.exhausted, _, st') => (.exhausted, fr, st')) := by
  obtain ⟨c, fr', st'⟩ := r
  have hlen : ∀ {l : List Nat}, res.length ≤ l.length → (l.take res.length ++ rest).length = b + res.length :=
    fun h => by rw [List.length_append, List.length_take]; omega
  match c, hg with
  | .br 0, ⟨_, h, hg⟩ => cases h; exact hlen (by omega)
  | .next, (hg : _ = 0 + _) => exact hlen (by omega)
  | .ret, hg => exact hlen hg
  | .trap _, hg | .exhausted, hg => exact hg

theorem good_no {U ls nres b n2 r} (hg : Good U ls nres b n2 r) :
    r.1 ≠ .trap "stack" ∧ (U → r.1 ≠ .trap "unsupported") := by
  obtain ⟨c, fr, st⟩ := r
  cases c
  case trap k => exact ⟨fun h => hg.1 (Ctl.trap.inj h), fun hu h => hg.2 hu (Ctl.trap.inj h)⟩
  all_goals exact ⟨nofun, fun _ => nofun⟩

end Wz.C03v
