/-
C01 / C02 (front end with memory accesses): conservativity over `FrontendSL` (a function without memory instructions
is lowered exactly as by `lowerSL`, type-checked as by `wellTyped`, and printed the same).
-/
import Wz.Proofs.C01_FrontMem_Basic

namespace Wz.Proofs.FrontMem
open Wz.Spec Wz.Model.SsaPass Wz.Model.FrontendSL Wz.Model.FrontendMem Wz.Proofs.Front

theorem lowerBodyM_base (nres : Nat) : ∀ (body : List SI) (ms : MS),
    lowerBodyM nres (body.map .base) ms = (lowerBody nres body ms.ls).map .base := by
  intro body
  induction body with
  | nil => intro ms; rfl
  | cons i is ih =>
    intro ms
    by_cases hi : i = .ret
    · subst hi; rfl
    · rw [List.map_cons, lowerBodyM_cons nres (fun h => hi (MI.base.inj h)), lowerBody_cons nres is ms.ls hi, ih, List.map_append]
      rfl

theorem tcBodyM_base (lt res : List Ty) : ∀ (body : List SI) (tys : List Ty),
    tcBodyM lt res (body.map .base) tys = tcBody lt res body tys := by
  intro body
  induction body with
  | nil => intro tys; rfl
  | cons i is ih =>
    intro tys
    cases i <;> simp only [List.map_cons, tcBodyM, tcBody, tcStepM, ih] <;> cases tcStep lt _ tys <;> rfl

theorem contains_base (body : List SI) : (body.map MI.base).contains (.base .ret) = body.contains .ret := by
  induction body with
  | nil => rfl
  | cons i is ih =>
    simp only [List.map_cons, List.contains_cons, ih]
    congr 1
    cases i <;> rfl

/-- what `lowerSL` emits: instructions that do not touch the memory, and the final `ret` -/
def plain : Instr → Bool
  | .ret _ => true
  | i => pureI i

theorem plain_of_pure {i : Instr} (h : pureI i = true) : plain i = true := by
  cases i <;> first | rfl | exact h

theorem lowerBody_plain (nres : Nat) : ∀ (body : List SI) (s : LS), ∀ i ∈ lowerBody nres body s, plain i = true := by
  intro body
  induction body with
  | nil => intro s i hi; rw [List.mem_singleton.mp hi]; rfl
  | cons j js ih =>
    intro s i hi
    by_cases hj : j = .ret
    · subst hj; rw [List.mem_singleton.mp hi]; rfl
    · rw [lowerBody_cons nres js s hj] at hi
      rcases List.mem_append.mp hi with h | h
      · exact plain_of_pure (lowerI_pure j s i h)
      · exact ih _ i h

/-- only `Load`, `Store`, `ExitIfTrue` are printed differently -/
theorem show_plain (rb : Bool) (i : Instr) (h : plain i = true) : showMInstr rb (.base i) = showInstr rb i := by
  cases i <;> first | rfl | cases h

theorem lowerMem_toM (f : Fn) : lowerMem (toM f) = { params := entryParams f, instrs := (entryInstrs f).map .base } := by
  have : (toM f).sig = { f with body := [] } := rfl
  simp only [lowerMem, entryInstrsM, toM, FnM.sig, lowerBodyM_base, entryInstrs, List.map_append]
  rfl

theorem formatM_toM (f : Fn) : formatM (toM f) = format f := by
  have h1 : entryInstrsM (toM f) = (entryInstrs f).map .base := congrArg MFunc.instrs (lowerMem_toM f)
  have h2 : viaReturnBlockM (toM f) = viaReturnBlock f := by
    simp only [viaReturnBlockM, viaReturnBlock, toM, contains_base]
  have h3 : entryParams (toM f).sig = entryParams f := rfl
  simp only [formatM, format, h1, h2, h3, List.map_map]
  congr 1
  apply List.map_congr_left
  intro i hi
  apply show_plain
  simp only [entryInstrs] at hi
  rcases List.mem_append.mp hi with h | h
  · exact plain_of_pure (declLocals_pure f.locals (f.params.length + 2) {} i h)
  · exact lowerBody_plain _ _ _ i h

end Wz.Proofs.FrontMem
