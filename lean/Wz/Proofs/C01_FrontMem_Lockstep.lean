/-
C01 (front end with memory accesses): what the two validators of the passes' result (`dceOK`, `optOK`) have in
common.  Both compare an original block `is` with an optimised block `js` instruction by instruction: an instruction
of `is` is either DELETED (only the original run executes it; it has no side effect) or KEPT (both runs execute it,
the optimised one possibly with renamed operands).  `lockstep_sound`: a relation between the two runs that is
preserved in this way gives the same exit, the same final memory and trace, and fewer accesses.
One instruction in two states is compared as in the proofs of the passes: `StepRel` is their `CtlRel`, `Post` their
`StRel`; `stepM_congr_map` (a kept instruction, operands renamed) is `execInstr_sim`, and `stepM_removable` (a deleted
one) is `exec_pure` with `exec_frame`, carried to the wrapped instruction set.
-/
import Wz.Model.FrontendMem
import Wz.Proofs.C01_SsaPass_Typed

namespace Wz.Proofs.FrontMem
open Wz.Model.SsaPass Wz.Model.FrontendMem

abbrev SameGoto : BlockId → List Nat → List Nat → St → St → Prop :=
  fun _ as as' st st' => as' = as ∧ st.mem = st'.mem ∧ st.trace = st'.trace

/-- the outcomes of one instruction in the optimised and in the original run, in this order -/
abbrev StepRel (Q : St → St → Prop) : Ctl → Ctl → Prop := CtlRel Q SameGoto

def SameExit (r' r : Option Ctl × List Acc) : Prop :=
  r'.2.Sublist r.2 ∧
  match r'.1, r.1 with
  | none, none => True
  | some c', some c => StepRel (fun _ _ => False) c' c
  | _, _ => False

/-- `P is js st' st`: the checker accepts the rest `js` of the optimised block for the rest `is` of the original one,
and its invariant holds of the two states -/
theorem lockstep_sound (w : World) (P : List MInstr → List MInstr → St → St → Prop)
    (hnil : ∀ js st' st, P [] js st' st → js = [])
    (hcons : ∀ i is js st' st, P (i :: is) js st' st →
      (∃ st1, stepM w i st = .next st1 ∧ P is js st' st1) ∨
      (∃ j js', js = j :: js' ∧ instrAcc st'.env j = instrAcc st.env i ∧
        StepRel (P is js') (stepM w j st') (stepM w i st))) :
    ∀ (is js : List MInstr) (st' st : St) (log' log : List Acc), P is js st' st → log'.Sublist log →
      SameExit (execBodyL w js st' log') (execBodyL w is st log) := by
  intro is
  induction is with
  | nil =>
    intro js st' st log' log hP hlog
    rw [hnil js st' st hP]
    exact ⟨hlog, trivial⟩
  | cons i is ih =>
    intro js st' st log' log hP hlog
    rcases hcons i is js st' st hP with ⟨st1, hs, hP1⟩ | ⟨j, js', rfl, hacc, hc⟩
    · simp only [execBodyL, hs]
      exact ih js st' st1 log' _ hP1 (hlog.trans (List.sublist_append_left _ _))
    · have hlog2 : (log' ++ instrAcc st.env i).Sublist (log ++ instrAcc st.env i) :=
        List.Sublist.append hlog (List.Sublist.refl _)
      simp only [execBodyL, hacc]
      generalize stepM w j st' = c' at hc ⊢
      generalize stepM w i st = c at hc ⊢
      cases hc with
      | next h => exact ih _ _ _ _ _ h hlog2
      | goto h => exact ⟨hlog2, .goto h⟩
      | ret hm ht => exact ⟨hlog2, .ret hm ht⟩
      | trap hm ht => exact ⟨hlog2, .trap hm ht⟩

theorem runM_congr (w : World) (g g' : MFunc) (hp : g'.params = g.params) (args : List Nat) (mem0 : Mem)
    (h : SameExit (execBodyL w g'.instrs { St.init with env := bindVals St.init.env g.params args, mem := mem0 } [])
      (execBodyL w g.instrs { St.init with env := bindVals St.init.env g.params args, mem := mem0 } [])) :
    (runM w g' args mem0).1 = (runM w g args mem0).1 ∧ (runM w g' args mem0).2.Sublist (runM w g args mem0).2 := by
  simp only [runM, hp]
  split
  · exact ⟨rfl, List.Sublist.refl _⟩
  · generalize execBodyL w g'.instrs _ [] = r' at h
    generalize execBodyL w g.instrs _ [] = r at h
    obtain ⟨o', l'⟩ := r'
    obtain ⟨o, l⟩ := r
    obtain ⟨hsub, hrel⟩ := h
    cases o' <;> cases o <;> try exact hrel.elim
    · exact ⟨rfl, hsub⟩
    · cases (hrel : CtlRel _ _ _ _) with
      | next h => exact h.elim
      | goto => exact ⟨rfl, hsub⟩
      | ret hm ht => exact ⟨by dsimp only; rw [hm, ht], hsub⟩
      | trap hm ht => exact ⟨by dsimp only; rw [hm, ht], hsub⟩

theorem stepM_removable (w : World) (i : MInstr) (hr : i.removable = true) (st : St) :
    ∃ st1, stepM w i st = .next st1 ∧ st1.mem = st.mem ∧ st1.trace = st.trace ∧
      ∀ v : Nat, v ∉ i.results → st1.env v = st.env v := by
  cases i with
  | extload op r ty p off =>
    exact ⟨_, rfl, rfl, rfl, fun v hv => if_neg (fun h => hv (List.mem_singleton.mpr h))⟩
  | base j =>
    -- `removable` is side-effect class `none`
    obtain ⟨st1, hs, hm1, ht1⟩ := exec_pure w st.env j st (by
      cases j with
      | bin op | un op => cases op <;> rfl
      | iconst | icmp | select | load => rfl
      | _ => cases hr)
    have hf := exec_frame w st.env j st
    rw [hs] at hf
    exact ⟨st1, hs, hm1, ht1, hf⟩

/-- the states after a kept instruction: related on its results and wherever they were before -/
abbrev Post (i : MInstr) (st' st : St) : St → St → Prop :=
  StRel (fun v => v ∈ i.results ∨ st'.env v = st.env v)

theorem stepM_congr_map (w : World) (g : Val → Val) (i : MInstr) (st' st : St) (hm : st'.mem = st.mem)
    (ht : st'.trace = st.trace) (hops : ∀ o ∈ i.operands, st'.env (g o) = st.env o) :
    StepRel (Post i st' st) (stepM w (i.mapOperands g) st') (stepM w i st) ∧
    instrAcc st'.env (i.mapOperands g) = instrAcc st.env i := by
  have hst : StRel (fun v => st'.env v = st.env v) st' st := ⟨fun _ h => h, hm, ht⟩
  cases i with
  | base j =>
    constructor
    · simp only [stepM, MInstr.mapOperands, execInstr_mapOperands]
      exact (execInstr_sim w _ j hst hops).imp (fun _ _ _ _ h => h) (fun _ _ _ _ _ h => ⟨h.1, h.2.1.mem, h.2.1.trace⟩)
    · cases j <;> try rfl
      case load r ty p off =>
        simp only [MInstr.mapOperands, Instr.mapOperands, instrAcc]
        rw [hops p (by simp [MInstr.operands, Instr.operands])]
      case store op ty v p off =>
        simp only [MInstr.mapOperands, Instr.mapOperands, instrAcc]
        rw [hops p (by simp [MInstr.operands, Instr.operands])]
  | extload op r ty p off =>
    have hp := hops p (by simp [MInstr.operands])
    refine ⟨?_, by simp only [MInstr.mapOperands, instrAcc, hp]⟩
    simp only [MInstr.mapOperands, stepM]
    rw [hp, hm]
    exact .next (hst.set r _)

theorem mapOperands_id (i : MInstr) : i.mapOperands id = i := by
  cases i with
  | extload => rfl
  | base j => cases j <;> simp only [MInstr.mapOperands, Instr.mapOperands, List.map_id, id]

end Wz.Proofs.FrontMem
