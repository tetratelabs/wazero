/-
C20: the equations of `Wz.Model.Listener.run`.  A call of the forest is one of three kinds (made in place, cut off by
a stack overflow, ordinary); in each, its run is `thenNext (node … (run … body)) (run … next)`: what the call itself
yields given the run of its body, followed by its siblings.
-/
import Wz.Model.Listener

namespace Wz.C20
open Wz.Model.Listener

/-- The event `e` about function `f` as the listeners get it; `c`: the engine variant delivers it at this point. -/
def told (C : Cfg) (f : Nat) (c : Bool) (e : Event) : List Event := if C.lsn f && c then [e] else []

theorem mem_told {C : Cfg} {f : Nat} {c : Bool} {e e' : Event} (h : e' ∈ told C f c e) : e' = e := by
  unfold told at h
  split at h
  · exact List.mem_singleton.mp h
  · nomatch h

theorem told_false (C : Cfg) (f : Nat) (e : Event) : told C f false e = [] := by
  rw [told, Bool.and_false]; rfl

/-- What one call yields, given the run `rb` of its body; `frames` is the call chain while the body runs.  A failure
that comes out of the call-backs of a host function (`host`) is re-raised as a panic in the host function's frame. -/
def node (host : Bool) (frames : List Nat) (b : List Event) (a : List Nat → List Event) (out : Outcome)
    (rb : List Event × Option Fail) : List Event × Option Fail :=
  match rb.2, out with
  | some fl, _ => (b ++ rb.1, some (if host then ⟨fl.kind, true, frames⟩ else fl))
  | none, .ret vals => (b ++ rb.1 ++ a vals, none)
  | none, .fail k => (b ++ rb.1, some ⟨k, true, frames⟩)

def thenNext (E : Engine) (C : Cfg) (api : Bool) (nd rest : List Event × Option Fail) : List Event × Option Fail :=
  match nd.2 with
  | some fl => if api then (nd.1 ++ aborts E C fl, some ⟨fl.kind, fl.panicked, []⟩) else (nd.1, some fl)
  | none => (nd.1 ++ rest.1, rest.2)

variable {E : Engine} {C : Cfg} {api tail : Bool} {f : Nat} {args st0 st st' : List Nat} {body next : Forest}
  {out : Outcome}

theorem run_done (E : Engine) (C : Cfg) (api : Bool) (st : List Nat) : run E C api st .done = ([], none) := rfl

theorem run_api (E : Engine) (C : Cfg) (api : Bool) (st : List Nat) (fr : Forest) :
    run E C api (if api then [] else st) fr = run E C api st fr := by
  cases api
  · rfl
  · cases fr <;> rfl

theorem run_call_inPlace (hst : st = if api then [] else st0) (h : inPlace E C api tail f = true) :
    run E C api st0 (.call tail f args body out next) =
      thenNext E C api (node false (f :: st.tail) [] (fun _ => []) out (run E C false (f :: st.tail) body))
        (run E C api st0 next) := by
  subst hst
  simp only [run, h, if_true, run_api]
  rcases run E C false _ body with ⟨evs, _ | fl⟩ <;> cases out <;>
    simp only [node, thenNext, List.nil_append, List.append_nil, Bool.false_eq_true, if_false]

theorem run_call_overflow (hst : st = if api then [] else st0) (h : inPlace E C api tail f = false)
    (hst' : st' = f :: (if E.tailJump && tail && !api then st.tail else st)) :
    run E C api st0 (.call tail f args body (.fail .overflow) next) =
      thenNext E C api
        (told C f E.beforeAtOverflow (.before f args (snapshot E st')), some ⟨.overflow, E.overflowPanics, st⟩)
        (run E C api st0 next) := by
  subst hst hst'
  simp only [run, h, if_true, Bool.false_eq_true, if_false, told]
  cases E.beforeAtOverflow <;> cases C.lsn f <;> rfl

theorem run_call_ordinary (hst : st = if api then [] else st0) (h : inPlace E C api tail f = false)
    (hov : out ≠ .fail .overflow) (hst' : st' = f :: (if E.tailJump && tail && !api then st.tail else st)) :
    run E C api st0 (.call tail f args body out next) =
      thenNext E C api
        (node (C.host f) st' (told C f true (.before f args (snapshot E st')))
          (fun vals => told C f (!(E.tailJump && !C.host f && endsWithTail body)) (.after f vals))
          out (run E C (C.host f) st' body))
        (run E C api st0 next) := by
  subst hst hst'
  simp only [run, h, hov, Bool.false_eq_true, if_false, run_api, told, Bool.and_true]
  rcases run E C (C.host f) _ body with ⟨evs, _ | fl⟩ <;> cases out <;> rfl

end Wz.C20
