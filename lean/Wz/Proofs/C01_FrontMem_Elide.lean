/-
C01 / C02 (front end with memory accesses): the static known-safe-bound cache of `Wz.Model.FrontendMem` (value id ↦
bound, SSA value of the absolute address) IS the cache of the path-level model `Wz.Model.SafeBounds` (value id ↦ bound,
dynamic value of the absolute address) under the abstraction "read the address value in the environment": one
`memOpSetup` = one `SafeBounds.stepAccess`, with the same decision (check emitted / elided, trap / no trap), the same
host address, and corresponding caches afterwards (`Wz.C01.frontmem_elision_is_model`; here the abstraction `Abs` and how
`memCheck` and `SafeBounds.State.set` change the two caches).  So `C02.frontend_elision_sound` (about `SafeBounds`) and
`frontmem_confined` talk about the same elision.
-/
import Wz.Proofs.C01_FrontMem_Basic
import Wz.Model.SafeBounds

namespace Wz.Proofs.FrontMem
open Wz.Spec Wz.Model.SsaPass Wz.Model.FrontendSL Wz.Model.FrontendMem Wz.Proofs.Front
open Wz.Model

def absEntry (env : Val → Nat) (v : Nat) (e : Nat × Val) : SafeBounds.Entry := ⟨v, e.1, some (env e.2)⟩

/-- the abstraction: every recorded bound is positive (`knownSafeBound.valid()`), and a lookup in the `SafeBounds`
state is the lookup in the static cache -/
def Abs (bs : List (Val × Nat × Val)) (env : Val → Nat) (st : SafeBounds.State) : Prop :=
  (∀ b bound a : Nat, (b, bound, a) ∈ bs → 0 < bound) ∧
  ∀ v : Nat, st.get v = (lookupBound bs v).map (absEntry env v)

theorem memCheck_bounds (s : MS) (b ceil : Nat) (a? : Option Val) :
    (memCheck s b ceil a?).2.2.bounds = (b, ceil, (memCheck s b ceil a?).2.1) :: s.bounds ∧
    (memCheck s b ceil a?).1 ≠ [] ∧ (∀ a0, a? = some a0 → (memCheck s b ceil a?).2.1 = a0) := by
  have hlen : (checkState s).bounds = s.bounds := by
    unfold checkState getMemLen; split <;> rfl
  have hbase : (getMemBase (checkState s)).2.2.bounds = (checkState s).bounds := by
    unfold getMemBase; split <;> rfl
  cases a? with
  | some a0 => exact ⟨by rw [← hlen]; rfl, List.cons_ne_nil _ _, fun _ h => by cases h; rfl⟩
  | none => exact ⟨by rw [← hlen, ← hbase]; rfl, List.cons_ne_nil _ _, fun _ h => nomatch h⟩

theorem find_filter_ne (st : SafeBounds.State) (b v : Nat) (hne : v ≠ b) :
    (st.filter (fun x => x.v != b)).find? (fun e => e.v == v && decide (0 < e.bound)) =
      st.find? (fun e => e.v == v && decide (0 < e.bound)) := by
  rw [List.find?_filter]
  congr 1
  funext e
  by_cases he : e.v = v
  · simp [he, hne]
  · simp [he]

theorem Abs.frame {bs : List (Val × Nat × Val)} {env env' : Val → Nat} {st : SafeBounds.State} (h : Abs bs env st)
    (hold : ∀ b bound a : Nat, (b, bound, a) ∈ bs → env' a = env a) : Abs bs env' st := by
  refine ⟨h.1, fun v => ?_⟩
  rw [h.2 v]
  cases hl : lookupBound bs v with
  | none => rfl
  | some e => simp only [Option.map_some, absEntry, hold v e.1 e.2 (lookupBound_mem _ _ _ hl)]

theorem abs_set {bs : List (Val × Nat × Val)} {env : Val → Nat} {st : SafeBounds.State} (habs : Abs bs env st)
    (b ceil a : Nat) (hc : 0 < ceil) : Abs ((b, ceil, a) :: bs) env (st.set ⟨b, ceil, some (env a)⟩) := by
  refine ⟨fun b' bound' a' hm => ?_, fun v => ?_⟩
  · rcases List.mem_cons.mp hm with h | h
    · cases h; exact hc
    · exact habs.1 b' bound' a' h
  · by_cases hv : v = b
    · subst hv
      simp [SafeBounds.State.get, SafeBounds.State.set, lookupBound, absEntry, hc]
    · have h1 : ((b : Nat) == v) = false := by simp [Ne.symm hv]
      simp only [SafeBounds.State.get, SafeBounds.State.set, List.find?_cons, h1, Bool.false_and, lookupBound,
        if_neg (Ne.symm hv)]
      rw [find_filter_ne st b v hv]
      exact habs.2 v

end Wz.Proofs.FrontMem
