/-
C01 (front end, structured control flow): CONSERVATIVITY over the straight-line front end.

On a straight-line function (`ofFn f`: the body is `f.body.map CI.op`) the structured lowering `lowerCF`, which
drives the model of `ssa.Builder` (`Bld`: blocks, `findValue`, `Seal`, control frames), produces exactly the
`SsaPass.Func` of `FrontendSL.lowerSL`: one block (id 0, key 0) with the parameters `entryParams f`, the
instructions `entryInstrs f`, and the empty alias table (`Wz.C01.frontcf_conservative`, from `lower_main`,
`initLSt_ofFn` and `toFunc_S1` of this file).  So everything proved about `lowerSL`
(simulation, well-formedness) is a statement about `lowerCF` on this fragment.

The proof keeps the builder in the normal form `S1` (one sealed entry block without predecessors, no aliases; the
instruction counter is the number of the block's instructions, so that its `key`, the counter at its first instruction,
is 0) and relates `LS.locals` of `lowerSL` to the entry block's `lastDefinitions` (`LocInv`): the current
definition of local `i` is the newest entry of `defs`, else the zero constant of its type.  Well-typedness is
used for one thing: the index of every live `local.get/set/tee` is in range.
-/
import Wz.Model.FrontendCF
import Wz.Proofs.C01_Front_Sim

namespace Wz.Proofs.FrontCF
open Wz.Model.SsaPass Wz.Model.FrontendSL Wz.Model.FrontendCF Wz.Proofs.Front

theorem flatL_map_op (is : List SI) : flatL (is.map CI.op) = is.map Tok.op := by
  induction is with
  | nil => simp [flatL]
  | cons i is ih => simp [flatL, CI.flat, ih]

theorem toks_ofFn (f : Fn) : (ofFn f).toks = f.body.map Tok.op ++ [Tok.endT] := by
  simp [Function.toks, ofFn, flatL_map_op]

def S1 (sl : Bool) (ps : List TV) (ins : List Instr) (defs : List (Nat × TV)) (n k : Nat) (z : Zeros)
    (vt : List Ty) : Bld :=
  { blocks := [{ params := ps, instrs := ins, preds := [], sealed := sl, singlePred := none, defs := defs,
                 unknown := [], key := 0 }],
    next := n, ninstr := k, aliases := [], zeros := z, cur := 0, varTys := vt }

variable {sl : Bool} {ps : List TV} {ins : List Instr} {defs : List (Nat × TV)} {n k : Nat} {z : Zeros}
  {vt : List Ty}

theorem insert_S1 (i : Instr) (hi : i.branch? = none ∨ ∃ vs, i = .jump retBlk vs) :
    (S1 sl ps ins defs n ins.length z vt).insert i = S1 sl ps (ins ++ [i]) defs n (ins ++ [i]).length z vt := by
  have hkey : (if ins.isEmpty then ins.length else 0) = 0 := by cases ins <;> rfl
  rcases hi with h | ⟨vs, rfl⟩
  · simp only [Bld.insert, h, S1, Bld.modBlk, modAt, hkey, List.length_append, List.length_singleton]
  · simp only [Bld.insert, Instr.branch?, S1, Bld.modBlk, modAt, Bld.blk, List.getD_cons_zero, hkey, if_true,
      List.length_append, List.length_singleton]

theorem insertAll_S1 (l : List Instr) (hl : ∀ j ∈ l, j.branch? = none) :
    ∀ ins : List Instr,
    (S1 sl ps ins defs n ins.length z vt).insertAll l = S1 sl ps (ins ++ l) defs n (ins ++ l).length z vt := by
  induction l with
  | nil => intro ins; rw [List.append_nil]; rfl
  | cons a l ih =>
    intro ins
    rw [Bld.insertAll, insert_S1 a (Or.inl (hl a (by simp))), ih (fun j hj => hl j (by simp [hj])),
      List.append_assoc, List.singleton_append]

theorem define_S1 (i : Nat) (v : TV) :
    (S1 sl ps ins defs n k z vt).define i v 0 = S1 sl ps ins ((i, v) :: defs) n k z vt := rfl

theorem seal_S1 : (S1 false ps ins defs n k z vt).seal 0 = S1 true ps ins defs n k z vt := rfl

def curDef (vt : List Ty) (z : Zeros) (defs : List (Nat × TV)) (i : Nat) : TV :=
  match defs.lookup i with
  | some v => v
  | none => ((z.get (vt.getD i .i32)).getD 0, vt.getD i .i32)

theorem mustFind_S1 (i : Nat) :
    (S1 true ps ins defs n k z vt).mustFind i = (curDef vt z defs i, S1 true ps ins defs n k z vt) := by
  -- `Bld.depth` of a builder with one block
  show findValue (4 + 1) _ _ _ _ = _
  unfold findValue
  simp only [S1, Bld.blk, Bld.varTy, curDef, List.getD_cons_zero]
  cases h : List.lookup i defs <;> simp

theorem stepSI_generic (nres : Nat) (i : SI) (h : isPlain i = true) (st : LSt) :
    stepSI nres st i =
      { st with b := { st.b.insertAll (lowerI i { next := st.b.next, stack := st.stack, locals := [] }).1 with
                       next := (lowerI i { next := st.b.next, stack := st.stack, locals := [] }).2.next },
                stack := (lowerI i { next := st.b.next, stack := st.stack, locals := [] }).2.stack } := by
  cases i <;> first | rfl | cases h

/-- the lowering state with the function's frame alone -/
def St1 (b : Bld) (stk : List TV) (P R : List Ty) (u : Bool) : LSt :=
  { b := b, stack := stk,
    frames := [{ kind := .func, orig := 0, blk := 0, following := retBlk, bt := ⟨P, R⟩ }],
    unreachable := u, depth := 0 }

variable {P R : List Ty}

theorem dead_toks (nres : Nat) (is : List SI) (b : Bld) (stk : List TV) :
    (lowerToks nres (is.map Tok.op ++ [.endT]) (St1 b stk P R true)).b = { b with cur := retBlk } := by
  induction is with
  | nil => rfl
  | cons i is ih => exact ih

theorem step_op (nres : Nat) (b : Bld) (stk : List TV) (i : SI) :
    step nres (St1 b stk P R false) (.op i) = stepSI nres (St1 b stk P R false) i := rfl

def LocInv (lt : List Ty) (z : Zeros) (defs : List (Nat × TV)) (locals : List TV) : Prop :=
  ∀ i, i < lt.length → locals[i]? = some (curDef lt z defs i)

theorem step_generic (i : SI) (h : isPlain i = true) (s : LS) :
    step R.length (St1 (S1 true ps ins defs s.next ins.length z vt) s.stack P R false) (.op i) =
      St1 (S1 true ps (ins ++ (lowerI i s).1) defs (lowerI i s).2.next (ins ++ (lowerI i s).1).length z vt)
        (lowerI i s).2.stack P R false := by
  rw [step_op, stepSI_generic _ i h]
  dsimp only [St1]
  have e1 : (S1 true ps ins defs s.next ins.length z vt).next = s.next := rfl
  rw [e1, insertAll_S1 _ (lowerI_noBranch i _), lowerI_nolocals i h s]
  rfl

theorem step_ret (stk : List TV) :
    step R.length (St1 (S1 true ps ins defs n ins.length z vt) stk P R false) (.op .ret) =
      St1 (S1 true ps (ins ++ [.ret (peekVals stk R.length)]) defs n (ins ++ [Instr.ret (peekVals stk R.length)]).length
        z vt) stk P R true := by
  rw [step_op]
  dsimp only [stepSI, St1]
  rw [insert_S1 _ (Or.inl rfl)]

theorem step_localGet (j : Nat) (stk : List TV) :
    step R.length (St1 (S1 true ps ins defs n k z vt) stk P R false) (.op (.localGet j)) =
      St1 (S1 true ps ins defs n k z vt) (curDef vt z defs j :: stk) P R false := by
  rw [step_op]
  dsimp only [stepSI, St1]
  rw [mustFind_S1]

theorem step_localSet (j : Nat) (stk : List TV) :
    step R.length (St1 (S1 true ps ins defs n k z vt) stk P R false) (.op (.localSet j)) =
      St1 (S1 true ps ins ((j, stk.headD (0, .i32)) :: defs) n k z vt) stk.tail P R false := rfl

theorem step_localTee (j : Nat) (stk : List TV) :
    step R.length (St1 (S1 true ps ins defs n k z vt) stk P R false) (.op (.localTee j)) =
      St1 (S1 true ps ins ((j, stk.headD (0, .i32)) :: defs) n k z vt) stk P R false := rfl

theorem step_end (stk : List TV) :
    (step R.length (St1 (S1 true ps ins defs n ins.length z vt) stk P R false) .endT).b =
      { S1 true ps (ins ++ [.jump retBlk (peekVals stk R.length)]) defs n
          (ins ++ [Instr.jump retBlk (peekVals stk R.length)]).length z vt with cur := retBlk } := by
  dsimp only [step, St1]
  rw [if_neg (Nat.lt_irrefl 0), if_neg Bool.false_ne_true, insert_S1 _ (Or.inr ⟨_, rfl⟩)]

theorem LocInv_set {lt : List Ty} {locals : List TV} (h : LocInv lt z defs locals) (j : Nat) (hj : j < lt.length)
    (v : TV) : LocInv lt z ((j, v) :: defs) (locals.set j v) := by
  intro i hi
  have hjl : j < locals.length := by
    have := h j hj
    rcases Nat.lt_or_ge j locals.length with h1 | h1
    · exact h1
    · rw [List.getElem?_eq_none h1] at this; cases this
  rw [List.getElem?_set]
  by_cases e : j = i
  · subst e
    simp [curDef, List.lookup, hjl]
  · have e' : (i == j) = false := by simp; omega
    simp only [e, if_false, curDef, List.lookup, e']
    exact h i hi

theorem step_live {lt : List Ty} (i : SI) (s : LS) {tys tys' : List Ty}
    (htc : tcStep lt i tys = some tys') (hl : LocInv lt z defs s.locals) :
    ∃ defs', step R.length (St1 (S1 true ps ins defs s.next ins.length z lt) s.stack P R false) (.op i) =
        St1 (S1 true ps (ins ++ (lowerI i s).1) defs' (lowerI i s).2.next (ins ++ (lowerI i s).1).length z lt)
          (lowerI i s).2.stack P R false ∧
      LocInv lt z defs' (lowerI i s).2.locals := by
  by_cases hloc : isPlain i = true
  · exact ⟨defs, step_generic i hloc s, by rw [lowerI_nolocals i hloc s]; exact hl⟩
  -- an access to a local: the checker has found its index in range
  cases StepTy.of_tcStep htc with
  | @localGet j _ _ hj =>
    refine ⟨defs, ?_, hl⟩
    have : s.locals.getD j (0, .i32) = curDef lt z defs j := by
      rw [List.getD_eq_getElem?_getD, hl j (List.getElem?_eq_some_iff.mp hj).1]; rfl
    rw [step_localGet]
    dsimp only [lowerI, LS.push]
    rw [List.append_nil, this]
  | @localSet j _ _ hj =>
    refine ⟨(j, s.stack.headD (0, .i32)) :: defs, ?_, LocInv_set hl j (List.getElem?_eq_some_iff.mp hj).1 _⟩
    rw [step_localSet]
    dsimp only [lowerI, LS.pop]
    rw [List.append_nil]
  | @localTee j _ _ hj =>
    refine ⟨(j, s.stack.headD (0, .i32)) :: defs, ?_, LocInv_set hl j (List.getElem?_eq_some_iff.mp hj).1 _⟩
    rw [step_localTee]
    dsimp only [lowerI, LS.peek]
    rw [List.append_nil]
  | _ => exact absurd rfl hloc

theorem retJump_plain (j : Instr) (h : j.branch? = none) : retJump j = j := by
  cases j <;> first | rfl | (simp [Instr.branch?] at h)

theorem map_retJump_plain (l : List Instr) (h : ∀ j ∈ l, j.branch? = none) : l.map retJump = l :=
  (List.map_congr_left fun j hj => retJump_plain j (h j hj)).trans (List.map_id l)

/-- what the builder has appended at the end of the body is the body of `lowerSL` once `toFunc` has turned the
final jump to the return block into `ret` -/
theorem lower_main {lt res : List Ty} : ∀ (is : List SI) (s : LS) (ins : List Instr) (defs : List (Nat × TV))
    (tys : List Ty), tcBody lt res is tys = true → LocInv lt z defs s.locals →
    ∃ out defs' n',
      (lowerToks R.length (is.map Tok.op ++ [.endT])
          (St1 (S1 true ps ins defs s.next ins.length z lt) s.stack P R false)).b =
        { S1 true ps (ins ++ out) defs' n' (ins ++ out).length z lt with cur := retBlk } ∧
      out.map retJump = lowerBody R.length is s := by
  intro is
  induction is with
  | nil =>
    intro s ins defs tys _ _
    refine ⟨[.jump retBlk (peekVals s.stack R.length)], defs, s.next, ?_, rfl⟩
    simp only [List.map_nil, List.nil_append, lowerToks]
    rw [step_end]
  | cons i is ih =>
    intro s ins defs tys htc hl
    by_cases hi : i = .ret
    · subst hi
      refine ⟨[.ret (peekVals s.stack R.length)], defs, s.next, ?_, rfl⟩
      simp only [List.map_cons, List.cons_append, lowerToks]
      rw [step_ret, dead_toks]
    · obtain ⟨tys', h1, h2⟩ := tcBody_cons hi htc
      obtain ⟨defs1, e, hl1⟩ := step_live (P := P) (R := R) (ps := ps) (ins := ins) i s h1 hl
      obtain ⟨out, defs', n', e', ho⟩ := ih (lowerI i s).2 _ defs1 tys' h2 hl1
      refine ⟨(lowerI i s).1 ++ out, defs', n', ?_, ?_⟩
      · simp only [List.map_cons, List.cons_append, lowerToks]
        rw [e, e', List.append_assoc]
      · rw [List.map_append, ho, map_retJump_plain _ (lowerI_noBranch i s), lowerBody_cons _ is s hi]

/-- the initial definitions: parameter `i` is value `i + 2` -/
def defs0 (P : List Ty) : List (Nat × TV) := (P.zipIdx.map (fun (t, i) => (i, ((i + 2, t) : TV)))).reverse

theorem lookup_defs_aux : ∀ (P : List Ty) (k i : Nat),
    ((P.zipIdx k).map (fun (t, i) => (i, ((i + 2, t) : TV)))).reverse.lookup i =
      if k ≤ i then (P[i - k]?).map (fun t => (i + 2, t)) else none
  | [], k, i => by
    simp only [List.zipIdx_nil, List.map_nil, List.reverse_nil, List.lookup_nil, List.getElem?_nil, Option.map_none,
      ite_self]
  | t :: ts, k, i => by
    -- the entry of `t` (key `k`) comes last: it is found iff no later parameter has the key `i`
    rw [List.zipIdx_cons, List.map_cons, List.reverse_cons, List.lookup_append, lookup_defs_aux ts (k + 1) i]
    show Option.or _ (match i == k with | true => some (k + 2, t) | false => none) = _
    rcases Nat.lt_trichotomy i k with h | rfl | h
    · rw [if_neg (Nat.not_le.mpr (Nat.lt_succ_of_lt h)), if_neg (Nat.not_le.mpr h), beq_false_of_ne (Nat.ne_of_lt h)]
      rfl
    · rw [if_neg (Nat.not_succ_le_self i), if_pos (Nat.le_refl _), Nat.sub_self, beq_self_eq_true]; rfl
    · rw [if_pos (Nat.succ_le_of_lt h), if_pos (Nat.le_of_lt h), beq_false_of_ne (Nat.ne_of_gt h), Option.or_none,
        show i - k = i - (k + 1) + 1 by omega, List.getElem?_cons_succ]

theorem lookup_defs0 (P : List Ty) (i : Nat) : (defs0 P).lookup i = (P[i]?).map (fun t => (i + 2, t)) := by
  have := lookup_defs_aux P 0 i
  simpa [defs0] using this

theorem LocInv_init (P L : List Ty) (z : Zeros) :
    LocInv (P ++ L) z (defs0 P) (P.zipIdx.map (fun (t, i) => (i + 2, t)) ++ L.map fun t => ((z.get t).getD 0, t)) := by
  intro i hi
  simp only [curDef, lookup_defs0, List.getElem?_append, List.length_map, List.length_zipIdx, List.getElem?_map,
    List.getElem?_zipIdx, List.getD_eq_getElem?_getD]
  by_cases h : i < P.length
  · simp only [h, if_true, List.getElem?_eq_getElem, Option.map_some, Nat.zero_add]
  · have hL : i - P.length < L.length := by rw [List.length_append] at hi; omega
    simp only [h, if_false, List.getElem?_eq_none (Nat.le_of_not_lt h), Option.map_none, List.getElem?_eq_getElem hL,
      Option.map_some, Option.getD_some]

theorem initLSt_ofFn (f : Fn) :
    initLSt (ofFn f) =
      St1 (S1 true (entryParams f) (initLS f).1 (defs0 f.params) (initLS f).2.next (initLS f).1.length
            (declLocals f.locals (f.params.length + 2) {}).2.2 (f.params ++ f.locals))
        (initLS f).2.stack f.params f.results false := by
  show St1 (Bld.seal { Bld.insertAll (S1 false (entryParams f) [] (defs0 f.params) _ ([] : List Instr).length _ _) _ with
    next := _ } 0) [] _ _ false = _
  rw [insertAll_S1 _ (declLocals_noBranch _ _ _), List.nil_append]
  rfl

theorem toFunc_S1 (c : Nat) (results : List Ty) (h : ∀ j ∈ ins.map retJump, j.branch? = none) :
    toFunc { S1 sl ps ins defs n k z vt with cur := c } results =
      { blocks := [{ id := 0, key := 0, invalid := false, params := ps, instrs := ins.map retJump }], alias := [] } := by
  have hu : usesRetBlk { S1 sl ps ins defs n k z vt with cur := c } = false := by
    simp only [usesRetBlk, S1, List.any_cons, List.any_nil, Bool.or_false, List.any_eq_false]
    intro j hj
    -- `retJump` leaves a conditional branch as it is
    have := h _ (List.mem_map_of_mem hj)
    cases j <;> first | (simp; done) | cases this
  simp only [toFunc, hu]
  simp [S1, toBlocks, aliasTable]

end Wz.Proofs.FrontCF
