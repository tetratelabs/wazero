/- Lemmas for C12 part 2 (module identity): `preimage_inj_same_len` (without a length prefix the hashed encoding is not
injective across lengths). Core Lean only. -/
import Wz.Model.ModuleID

namespace Wz.Proofs.C12
open Wz.Model.ModuleID

theorem b2n_inj (a b : Bool) (h : b2n a = b2n b) : a = b := by
  cases a <;> cases b <;> simp [b2n] at h ⊢

/-- The listener records followed by the termination byte determine both. -/
theorem enc_inj : ∀ (ps qs : List Bool) (i : Nat) (t u : Bool),
    encL i ps ++ [b2n t] = encL i qs ++ [b2n u] → ps = qs ∧ t = u := by
  intro ps
  induction ps with
  | nil =>
    intro qs i t u h
    cases qs with
    | nil => simp [encL] at h; exact ⟨rfl, b2n_inj _ _ h⟩
    | cons q qs => simp [encL, le32] at h
  | cons p ps ih =>
    intro qs i t u h
    cases qs with
    | nil => simp [encL, le32] at h
    | cons q qs =>
      simp only [encL, le32, List.cons_append, List.nil_append, List.cons.injEq, true_and] at h
      obtain ⟨hp, hrest⟩ := h
      obtain ⟨e1, e2⟩ := ih qs (i + 1) t u hrest
      exact ⟨by rw [b2n_inj _ _ hp, e1], e2⟩

theorem preimage_inj_same_len (r₁ r₂ : Req) (hl : r₁.bin.length = r₂.bin.length) (h : preimage r₁ = preimage r₂) :
    r₁.bin = r₂.bin ∧ r₁.presence = r₂.presence ∧ r₁.term = r₂.term := by
  unfold preimage at h
  obtain ⟨hb, hr⟩ := List.append_inj h hl
  exact ⟨hb, enc_inj _ _ 0 _ _ hr⟩

end Wz.Proofs.C12
