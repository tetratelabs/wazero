/-
C07 — lemmas about the control model `Wz.Model.Ctl`: sizes and the measure `mu` of a frame; the well-formedness
invariant of execution states; the lowering produces code that meets it; the three shapes a step of a well-formed
frame can have (`Shape`), from which the invariant is kept; and accessibility of the check-free step relation (no
infinite check-free execution).
Core Lean only.
-/
import Wz.Model.Ctl

namespace Wz.C07
open Wz.Model.Ctl

mutual
def sizeI : Instr → Nat
  | .block b | .loop b => sizeS b + 2
  | .ite t e => sizeS t + sizeS e + 2
  | .op | .check | .br _ | .brIf _ | .brTable _ _ | .call _ | .callIndirect | .returnCall _ _
  | .returnCallIndirect _ | .ret | .host _ => 1
def sizeS : Seq → Nat
  | .nil => 0
  | .cons i s => sizeI i + sizeS s
end

theorem sizeI_pos (i : Instr) : 0 < sizeI i := by
  cases i <;> exact Nat.succ_pos _

def lblSize : Lbl → Nat
  | .blk a => 1 + sizeS a
  | .lp _ a => 1 + sizeS a

def lblsSize : List Lbl → Nat
  | [] => 0
  | l :: ls => lblSize l + lblsSize ls

/-- The measure of a frame: what is left to execute in it without taking a backward branch. -/
def mu (fr : Frame) : Nat := 1 + sizeS fr.cur + lblsSize fr.lbls

/-! ## the invariant of execution states -/

def wfLbl (req : Bool) : Lbl → Bool
  | .blk a => wfS req a
  | .lp b a => startsWithCheck b && wfS req b && wfS req a

def wfLbls (req : Bool) : List Lbl → Bool
  | [] => true
  | l :: ls => wfLbl req l && wfLbls req ls

def wfFrame (req : Bool) (fr : Frame) : Bool := wfS req fr.cur && wfLbls req fr.lbls

def wfStack (req : Bool) : Stack → Bool
  | [] => true
  | fr :: st => wfFrame req fr && wfStack req st

/-! ## the lowering produces well-formed code

Every loop body gets its check whatever the variant; a tail call is checked iff `tc`.  So the lowered code
meets `wfI req` as soon as checked tail calls are not required, or are emitted, or there is no tail call. -/

mutual
theorem wfI_lower_of (tc req : Bool) : ∀ i, (req = true → tc = true ∨ noTailI i = true) → wfI req (lowerI tc i) = true
  | .block b, h => wfS_lower_of tc req b h
  | .loop b, h => by simp [lowerI, wfI, wfS, startsWithCheck, wfS_lower_of tc req b h]
  | .ite t e, h => by
      simp only [noTailI, Bool.and_eq_true] at h
      simp [lowerI, wfI, wfS_lower_of tc req t fun hr => (h hr).imp_right And.left,
        wfS_lower_of tc req e fun hr => (h hr).imp_right And.right]
  | .returnCall _ _, h | .returnCallIndirect _, h => by cases req <;> simp_all [lowerI, wfI, noTailI]
  | .op, _ | .check, _ | .br _, _ | .brIf _, _ | .brTable _ _, _ | .call _, _ | .callIndirect, _ | .ret, _
  | .host _, _ => rfl
theorem wfS_lower_of (tc req : Bool) : ∀ s, (req = true → tc = true ∨ noTailS s = true) → wfS req (lowerS tc s) = true
  | .nil, _ => rfl
  | .cons i s, h => by
      simp only [noTailS, Bool.and_eq_true] at h
      simp [lowerS, wfS, wfI_lower_of tc req i fun hr => (h hr).imp_right And.left,
        wfS_lower_of tc req s fun hr => (h hr).imp_right And.right]
end

theorem wfI_lower (tc req : Bool) (h : req = true → tc = true) : ∀ i, wfI req (lowerI tc i) = true :=
  fun i => wfI_lower_of tc req i fun hr => .inl (h hr)

theorem wfI_lower_noTail (tc : Bool) : ∀ i, noTailI i = true → wfI true (lowerI tc i) = true :=
  fun i h => wfI_lower_of tc true i fun _ => .inr h

theorem wfProg_lower_of (tc req : Bool) (p : Prog) (h : req = true → tc = true ∨ noTailProg p = true) :
    wfProg req (lowerCtl tc p) = true := by
  simp only [wfProg, lowerCtl, List.all_map, List.all_eq_true]
  intro s hs
  exact wfS_lower_of tc req s fun hr => (h hr).imp_right fun hnt => List.all_eq_true.1 hnt s hs

theorem wfProg_get (req : Bool) (p : Prog) (hp : wfProg req p = true) (f : Nat) (b : Seq)
    (h : p.funcs[f]? = some b) : wfS req b = true :=
  List.all_eq_true.1 hp b (List.mem_of_getElem? h)

theorem lblsSize_drop (n : Nat) (ls : List Lbl) : lblsSize (ls.drop n) ≤ lblsSize ls := by
  fun_induction List.drop n ls with
  | case1 => exact Nat.le_refl _
  | case2 => exact Nat.le_refl _
  | case3 n l ls ih => exact Nat.le_trans ih (Nat.le_add_left _ _)

theorem wfLbls_drop (req : Bool) (n : Nat) (ls : List Lbl) (h : wfLbls req ls = true) :
    wfLbls req (ls.drop n) = true := by
  fun_induction List.drop n ls with
  | case1 => exact h
  | case2 => rfl
  | case3 n l ls ih => exact ih (Bool.and_eq_true_iff.1 h).2

/-- The three shapes a step can have: it replaces the innermost frame by a well-formed one that - unless the step
was a check - is smaller or sits on a check (the target of a backward branch); it returns; or it calls, leaving a
smaller frame behind and staying below the depth ceiling. -/
def Shape (D : Nat) (fr : Frame) (rest s' : Stack) (e : Bool) : Prop :=
  (∃ fr', s' = fr' :: rest ∧ wfFrame true fr' = true ∧
      (e = false → (mu fr' < mu fr ∨ startsWithCheck fr'.cur = true)))
  ∨ (s' = rest ∧ e = false)
  ∨ (∃ fr' new, s' = new :: fr' :: rest ∧ e = false ∧ wfFrame true fr' = true ∧
      wfFrame true new = true ∧ mu fr' < mu fr ∧ rest.length + 1 < D)

theorem Shape.smaller {D fr fr' rest e} (hw : wfFrame true fr' = true) (hm : mu fr' < mu fr) :
    Shape D fr rest (fr' :: rest) e :=
  .inl ⟨fr', rfl, hw, fun _ => .inl hm⟩

theorem callF_shape (p : Prog) (D f : Nat) (st s' : Stack) (e : Bool)
    (h : callF p D f st = some (s', e)) :
    e = false ∧ st.length < D ∧ ∃ b, p.funcs[f]? = some b ∧ s' = ⟨b, []⟩ :: st := by
  unfold callF at h
  split at h
  · rename_i hlt
    split at h
    · rename_i b hb
      cases h
      exact ⟨rfl, hlt, b, hb, rfl⟩
    · cases h
  · cases h

theorem tailF_shape (p : Prog) (f : Nat) (chk : Bool) (rest s' : Stack) (e : Bool)
    (h : tailF p f chk rest = some (s', e)) :
    e = chk ∧ ∃ b, p.funcs[f]? = some b ∧ s' = ⟨b, []⟩ :: rest := by
  unfold tailF at h
  split at h
  · rename_i b hb
    cases h
    exact ⟨rfl, b, hb, rfl⟩
  · cases h

theorem wfFrame_entry (p : Prog) (hp : wfProg true p = true) {f : Nat} {b : Seq} (hb : p.funcs[f]? = some b) :
    wfFrame true ⟨b, []⟩ = true := by
  simp [wfFrame, wfLbls, wfProg_get true p hp f b hb]

theorem shape_of_call (p : Prog) (hp : wfProg true p = true) (D f : Nat) (fr fr' : Frame)
    (rest s' : Stack) (e : Bool) (hw : wfFrame true fr' = true) (hmu : mu fr' < mu fr)
    (h : callF p D f (fr' :: rest) = some (s', e)) : Shape D fr rest s' e := by
  obtain ⟨he, hlt, b, hb, hs⟩ := callF_shape p D f _ s' e h
  exact .inr (.inr ⟨fr', ⟨b, []⟩, hs, he, hw, wfFrame_entry p hp hb, hmu, hlt⟩)

theorem shape_of_tail (p : Prog) (hp : wfProg true p = true) (D f : Nat) (fr : Frame)
    (rest s' : Stack) (e : Bool) (h : tailF p f true rest = some (s', e)) : Shape D fr rest s' e := by
  obtain ⟨rfl, b, hb, rfl⟩ := tailF_shape p f true rest s' e h
  exact .inl ⟨_, rfl, wfFrame_entry p hp hb, nofun⟩

/-- A branch returns from the function, or lands in a well-formed frame that is either smaller than the labels it
came from (forward, out of a block) or sits on a check (backward, to a loop). -/
theorem shape_of_branch (D : Nat) (cur : Seq) (lbls : List Lbl) (rest : Stack) (n : Nat)
    (hl : wfLbls true lbls = true) (hk : 0 < sizeS cur) :
    Shape D ⟨cur, lbls⟩ rest (branch ⟨cur, lbls⟩ rest n) false := by
  have hsz := lblsSize_drop n lbls
  have hwf := wfLbls_drop true n lbls hl
  unfold branch
  simp only []
  generalize lbls.drop n = d at hsz hwf
  cases d with
  | nil => exact .inr (.inl ⟨rfl, rfl⟩)
  | cons l ls =>
    simp only [wfLbls, Bool.and_eq_true] at hwf
    cases l with
    | blk after =>
      refine .smaller (by simpa [wfFrame, wfLbl] using hwf) ?_
      simp only [lblsSize, lblSize] at hsz
      simp only [mu]
      omega
    | lp b after =>
      simp only [wfLbl, Bool.and_eq_true] at hwf
      exact .inl ⟨_, rfl, by simp [wfFrame, wfLbls, wfLbl, hwf], fun _ => .inr hwf.1.1.1⟩

theorem step_shape (p : Prog) (D : Nat) (hp : wfProg true p = true) (fr : Frame) (rest : Stack)
    (c : Nat) (s' : Stack) (e : Bool) (hfr : wfFrame true fr = true)
    (h : step p D (fr :: rest) c = some (s', e)) : Shape D fr rest s' e := by
  obtain ⟨hcur, hlbls⟩ := Bool.and_eq_true_iff.mp hfr
  -- at an instruction `i` followed by `k`: `i` is well formed, and going on with `k` is a smaller well-formed frame
  have next {i k} (hk : fr.cur = .cons i k) :
      wfI true i = true ∧ wfFrame true ⟨k, fr.lbls⟩ = true ∧ mu ⟨k, fr.lbls⟩ < mu fr := by
    have := sizeI_pos i
    simp only [hk, wfS, Bool.and_eq_true] at hcur
    exact ⟨hcur.1, by simp [wfFrame, hcur.2, hlbls], by simp only [mu, hk, sizeS]; omega⟩
  have hbr {i k} (hk : fr.cur = .cons i k) (n) : Shape D fr rest (branch fr rest n) false :=
    shape_of_branch D fr.cur fr.lbls rest n hlbls (by have := sizeI_pos i; simp only [hk, sizeS]; omega)
  generalize hst : fr :: rest = st at h
  revert h
  -- `fun_cases` numbers the arms of `step` in the order it lists them: `case1` the empty stack; `case2`-`case4` the end
  -- of the body, of a block, of a loop; then the instructions from `case5` (`op`), two arms for each of `brIf` (11, 12),
  -- `callIndirect` (15, 16), `returnCallIndirect` (18, 19) and `host` (21, 22).  The arms that trap go, the result of
  -- the others is put in; where `step` hands over to `callF` or `tailF` that stays as the hypothesis `h`.
  fun_cases step p D st c <;> cases hst <;> intro h <;> try cases h
  case case2 | case20 => exact .inr (.inl ⟨rfl, rfl⟩)
  case case3 hc hl | case4 hc hl =>
    -- falling off the end of a block or of a loop: on to what follows it
    simp only [hl, wfLbls, wfLbl, Bool.and_eq_true] at hlbls
    exact .smaller (by simp [wfFrame, hlbls]) (by simp only [mu, hc, hl, lblsSize, lblSize, sizeS]; omega)
  -- `op`, `brIf` not taken, a host function that calls nothing back: on with `k`; `check` likewise, but it is a check
  case case5 hk | case11 hk | case22 hk => exact .smaller (next hk).2.1 (next hk).2.2
  case case6 hk => exact .inl ⟨_, rfl, (next hk).2.1, nofun⟩
  case case7 hk | case8 hk =>
    -- `block`, `loop`: into the body, the continuation pushed as a label
    have ⟨hi, hw, _⟩ := next hk
    simp only [wfI, wfFrame, Bool.and_eq_true] at hi hw
    exact .smaller (by simp [wfFrame, wfLbls, wfLbl, hi, hw])
      (by simp only [mu, hk, sizeS, sizeI, lblsSize, lblSize]; omega)
  case case9 hk =>
    -- `ite`
    have ⟨hi, hw, _⟩ := next hk
    simp only [wfI, wfFrame, Bool.and_eq_true] at hi hw
    refine .smaller ?_ ?_
    · split <;> simp [wfFrame, wfLbls, wfLbl, hi, hw]
    · split <;> simp only [mu, hk, sizeS, sizeI, lblsSize, lblSize] <;> omega
  -- `br`, `brIf` taken, `brTable`
  case case10 hk | case12 hk | case13 hk => exact hbr hk _
  -- `call`, `callIndirect`, a host function that calls back
  case case14 hk | case15 hk | case21 hk =>
    exact shape_of_call p hp D _ _ _ rest s' e (next hk).2.1 (next hk).2.2 h
  case case17 hk | case18 hk =>
    -- the tail calls: well-formedness says they are checked
    obtain rfl : _ = true := by simpa [wfI] using (next hk).1
    exact shape_of_tail p hp D _ _ rest s' e h

/-- A state whose innermost frame sits on a check can only perform a check. -/
theorem check_head_checks (p : Prog) (D : Nat) (fr : Frame) (rest : Stack) (c : Nat) (s' : Stack)
    (e : Bool) (hc : startsWithCheck fr.cur = true) (h : step p D (fr :: rest) c = some (s', e)) :
    e = true := by
  obtain ⟨cur, lbls⟩ := fr
  cases cur with
  | nil => cases hc
  | cons i k =>
    cases i <;> cases hc
    cases h; rfl

theorem step_wf (p : Prog) (D : Nat) (hp : wfProg true p = true) (st : Stack) (c : Nat)
    (s' : Stack) (e : Bool) (hst : wfStack true st = true) (h : step p D st c = some (s', e)) :
    wfStack true s' = true := by
  cases st with
  | nil => cases h
  | cons fr rest =>
    simp only [wfStack, Bool.and_eq_true] at hst
    rcases step_shape p D hp fr rest c s' e hst.1 h with
      ⟨fr', rfl, hw, _⟩ | ⟨rfl, _⟩ | ⟨fr', new, rfl, _, hw, hn, _, _⟩
    · simp [wfStack, hw, hst.2]
    · exact hst.2
    · simp [wfStack, hw, hn, hst.2]

/-! ## accessibility: no infinite check-free execution -/

/-- `R s' s`: `s'` is reached from `s` by one step that performs no check. -/
def R (p : Prog) (D : Nat) (s' s : Stack) : Prop := ∃ c, step p D s c = some (s', false)

/-- A check-free step shrinks the frame, or lands on a check (then no check-free step follows), or returns into
`rest`, or calls: then the frame left behind is smaller, and the new frame sits on a stack with less room below the
depth ceiling.  So the recursion is along the pair (room, measure of the frame), in the lexicographic order. -/
theorem acc_frame (p : Prog) (D : Nat) (hp : wfProg true p = true) (rest : Stack) (hrest : Acc (R p D) rest)
    (fr : Frame) (hw : wfFrame true fr = true) : Acc (R p D) (fr :: rest) := by
  constructor
  intro s' ⟨c, hstep⟩
  rcases step_shape p D hp fr rest c s' false hw hstep with
    ⟨fr', rfl, hw', hdec⟩ | ⟨rfl, _⟩ | ⟨fr', new, rfl, _, hw', hn, hlt, hd⟩
  · rcases hdec rfl with hlt | hchk
    · exact acc_frame p D hp rest hrest fr' hw'
    · exact ⟨_, fun s'' ⟨c', hstep'⟩ => nomatch check_head_checks p D fr' rest c' s'' false hchk hstep'⟩
  · exact hrest
  · exact acc_frame p D hp (fr' :: rest) (acc_frame p D hp rest hrest fr' hw') new hn
termination_by (D - rest.length, mu fr)
decreasing_by
  · exact Prod.Lex.right _ hlt
  · exact Prod.Lex.right _ hlt
  · exact Prod.Lex.left _ _ (Nat.sub_succ_lt_self _ _ (Nat.lt_of_succ_lt hd))

theorem acc_stack (p : Prog) (D : Nat) (hp : wfProg true p = true) :
    ∀ st, wfStack true st = true → Acc (R p D) st := by
  intro st
  induction st with
  | nil => exact fun _ => ⟨_, fun s' ⟨c, h⟩ => nomatch h⟩
  | cons fr rest ih =>
    intro h
    simp only [wfStack, Bool.and_eq_true] at h
    exact acc_frame p D hp rest (ih h.2) fr h.1

theorem no_infinite_of_acc (p : Prog) (D : Nat) (s : Stack) (h : Acc (R p D) s) :
    ∀ (σ : Nat → Stack) (c : Nat → Nat), σ 0 = s →
      ¬ (∀ n, step p D (σ n) (c n) = some (σ (n + 1), false)) := by
  induction h with
  | intro s _ ih =>
    intro σ c h0 hall
    have h1 : R p D (σ 1) s := ⟨c 0, by rw [← h0]; exact hall 0⟩
    exact ih (σ 1) h1 (fun n => σ (n + 1)) (fun n => c (n + 1)) rfl (fun n => hall (n + 1))

theorem wf_along (p : Prog) (D : Nat) (hp : wfProg true p = true) (σ : Nat → Stack) (c : Nat → Nat)
    (e : Nat → Bool) (h0 : wfStack true (σ 0) = true)
    (hall : ∀ n, step p D (σ n) (c n) = some (σ (n + 1), e n)) : ∀ n, wfStack true (σ n) = true := by
  intro n
  induction n with
  | zero => exact h0
  | succ n ih => exact step_wf p D hp (σ n) (c n) (σ (n + 1)) (e n) ih (hall n)

end Wz.C07
