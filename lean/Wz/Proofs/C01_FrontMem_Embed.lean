/-
C01 / C02 (front end with memory accesses): reading the list of non-zero bytes that the canonical embedding
`embed mc base bytes` starts from (`memRead_map`); `Wz.C01.frontmem_embedding_exists` shows with it that `embed` satisfies
`Emb`.
-/
import Wz.Proofs.C01_FrontMem_Bytes

namespace Wz.Proofs.FrontMem
open Wz.Spec Wz.Model.SsaPass Wz.Model.FrontendSL Wz.Model.FrontendMem

theorem memRead_map (base : Nat) (g : Nat → Nat) : ∀ (js : List Nat) (i : Nat),
    memRead (js.map (fun j => (base + j, g j))) (base + i) = if i ∈ js then g i else 0 := by
  intro js
  induction js with
  | nil => intro i; simp [memRead]
  | cons j js ih =>
    intro i
    simp only [List.map_cons, memRead, List.mem_cons]
    by_cases h : j = i
    · subst h; simp
    · rw [if_neg (by omega), ih]
      by_cases h2 : i ∈ js
      · simp [h2]
      · simp [h2, Ne.symm h]

theorem memRead_map_out (base : Nat) (g : Nat → Nat) : ∀ (js : List Nat) (x : Nat),
    (∀ j ∈ js, base + j ≠ x) → memRead (js.map (fun j => (base + j, g j))) x = 0 := by
  intro js
  induction js with
  | nil => intro x _; rfl
  | cons j js ih =>
    intro x h
    simp only [List.map_cons, memRead]
    rw [if_neg (h j (List.mem_cons_self ..))]
    exact ih x (fun j' hj' => h j' (List.mem_cons_of_mem _ hj'))

end Wz.Proofs.FrontMem
