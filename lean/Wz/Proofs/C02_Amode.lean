/-
C02 helper lemmas: amd64 address-mode folding (core 3).  `lowerAddend_val`: the repaired variant (`lowerAddend true`)
lowers a well-shaped addend to one of the same value and of one of two forms (`AddendOK`); `lowerAddendsToAmode_val`:
two such addends and a static offset below 2^31 fold into an amode that evaluates to their sum.
-/
import Wz.Model.Amode

namespace Wz.C02
open Wz.Model.Amode

def addendVal (ρ : Nat → BitVec 64) (a : Addend) : BitVec 64 :=
  (match a.r with
   | some r => r.val ρ <<< a.shift
   | none => 0#64) + a.off

/-- the two forms of the addends `lowerAddend` produces -/
inductive AddendOK : Addend → Prop
  | reg (r : Reg) (k : Nat) : AddendOK ⟨some r, 0#64, k⟩
  | const (c : BitVec 64) : AddendOK ⟨none, c, 0⟩

theorem setWidth_small (u : BitVec 64) (h : u.toNat < 2^32) : (u.setWidth 32).setWidth 64 = u := by
  apply BitVec.eq_of_toNat_eq
  rw [BitVec.toNat_setWidth, BitVec.toNat_setWidth, Nat.mod_eq_of_lt h, Nat.mod_eq_of_lt u.isLt]

theorem sext_small (u : BitVec 64) (h : u.toNat < 2^31) : (u.setWidth 32).signExtend 64 = u := by
  have h32 : u.toNat % 2^32 = u.toNat := Nat.mod_eq_of_lt (by omega)
  rw [BitVec.signExtend_eq_setWidth_of_msb_false
      (by rw [BitVec.msb_eq_false_iff_two_mul_lt, BitVec.toNat_setWidth, h32]; omega),
    setWidth_small u (by omega)]

theorem msb_false_lt (u : BitVec 32) (h : u.msb = false) : (u.setWidth 64).toNat < 2^31 := by
  rw [BitVec.msb_eq_false_iff_two_mul_lt] at h
  rw [BitVec.toNat_setWidth_of_le (by decide)]
  omega

theorem lowerAddend_val (ρ : Nat → BitVec 64) (e : AExpr) (hs : e.frontendShape = true) (hc : e.clean ρ) :
    addendVal ρ (lowerAddend true e) = e.eval ρ ∧ AddendOK (lowerAddend true e) ∧
      ((lowerAddend true e).shift ≠ 0 → e.isShl = true) := by
  cases e with
  | r64 r => simp [lowerAddend, addendVal, AExpr.eval, Reg.val, AExpr.isShl, AddendOK.reg]
  | k64 c m =>
    cases m <;> simp [lowerAddend, lowerAddendFromInstr, addendVal, AExpr.eval, Reg.val, AExpr.isShl, AddendOK.reg,
      AddendOK.const]
  | k32 c m => simp [AExpr.frontendShape] at hs
  | uext x =>
    cases x with
    | r32 r =>
      simp only [AExpr.clean, Op32.clean] at hc
      simp [lowerAddend, lowerAddendFromInstr, addendVal, AExpr.eval, Op32.eval, Reg.val, AExpr.isShl,
        setWidth_small _ hc, AddendOK.reg]
    | c32 c =>
      simp [lowerAddend, lowerAddendFromInstr, addendVal, AExpr.eval, Op32.eval, AExpr.isShl, AddendOK.const]
  | sext x =>
    cases x with
    | r32 r => simp [AExpr.frontendShape] at hs
    | c32 c =>
      simp [lowerAddend, lowerAddendFromInstr, addendVal, AExpr.eval, Op32.eval, AExpr.isShl, AddendOK.const]
  | shl x amt =>
    cases amt with
    | ar r => simp [AExpr.frontendShape] at hs
    | ac a =>
      simp only [AExpr.frontendShape, decide_eq_true_eq] at hs
      have h64 : a.toNat % 64 = a.toNat := by omega
      cases x <;>
        simp [lowerAddend, lowerAddendFromInstr, hs, addendVal, AExpr.eval, ShX.eval, ShAmt.eval, ShX.toReg,
          Reg.val, AExpr.isShl, h64, AddendOK.reg]

theorem fits_of_not_big (u : BitVec 64) (hb : ¬ (¬ u = 0#64 ∧ fitsImm31 u = false)) : u.toNat < 2^31 := by
  unfold fitsImm31 at hb
  by_cases h0 : u = 0#64
  · subst h0; decide
  · simp [h0] at hb
    exact hb

theorem lowerAddendsToAmode_val (ρ : Nat → BitVec 64) (x y : Addend) (offBase : BitVec 32)
    (hx : AddendOK x) (hy : AddendOK y) (hm : offBase.msb = false)
    (hsh : ¬ (x.shift ≠ 0 ∧ y.shift ≠ 0)) :
    ∃ am, lowerAddendsToAmode x y offBase = some am ∧
      am.eval ρ = addendVal ρ x + addendVal ρ y + offBase.setWidth 64 := by
  have hob := msb_false_lt offBase hm
  have hse : offBase.signExtend 64 = offBase.setWidth 64 := BitVec.signExtend_eq_setWidth_of_msb_false hm
  cases hx with
  | reg xr xsh =>
    cases hy with
    | reg yr ysh =>
      have hnb : ((offBase.setWidth 64) != 0#64 && !fitsImm31 (offBase.setWidth 64)) = false := by
        simp [fitsImm31]; intro _; simpa [BitVec.toNat_setWidth] using hob
      simp only [ne_eq, not_and, Decidable.not_not] at hsh
      by_cases h1 : xsh = 0
      · subst h1
        refine ⟨_, by simp [lowerAddendsToAmode, hnb]; rfl, ?_⟩
        simp [Amode.eval, addendVal, hse]
        ac_rfl
      · have h2 : ysh = 0 := hsh h1
        subst h2
        refine ⟨_, by simp [lowerAddendsToAmode, hnb, h1]; rfl, ?_⟩
        simp [Amode.eval, addendVal, hse]
        ac_rfl
    | const yoff =>
      by_cases hb : (¬ yoff + offBase.setWidth 64 = 0#64 ∧ fitsImm31 (yoff + offBase.setWidth 64) = false)
      · by_cases h1 : xsh = 0 <;>
          refine ⟨_, by simp [lowerAddendsToAmode, hb, h1]; rfl, ?_⟩ <;>
          simp [Amode.eval, addendVal, Reg.val, h1] <;>
          ac_rfl
      · have hs := sext_small _ (fits_of_not_big _ hb)
        by_cases h1 : xsh = 0 <;>
          refine ⟨_, by simp [lowerAddendsToAmode, hb, h1]; rfl, ?_⟩ <;>
          simp only [Amode.eval, addendVal, hs] <;>
          simp [Reg.val, h1] <;>
          ac_rfl
  | const xoff =>
    cases hy with
    | reg yr ysh =>
      by_cases hb : (¬ xoff + offBase.setWidth 64 = 0#64 ∧ fitsImm31 (xoff + offBase.setWidth 64) = false)
      · -- the temporary that takes the displacement becomes the base, whatever `y`'s shift
        refine ⟨_, by simp [lowerAddendsToAmode, hb]; rfl, ?_⟩
        simp [Amode.eval, addendVal, Reg.val]
        ac_rfl
      · have hs := sext_small _ (fits_of_not_big _ hb)
        by_cases h1 : ysh = 0 <;>
          refine ⟨_, by simp [lowerAddendsToAmode, hb, h1]; rfl, ?_⟩ <;>
          simp only [Amode.eval, addendVal, hs] <;>
          simp [Reg.val, h1] <;>
          ac_rfl
    | const yoff =>
      by_cases hb : (¬ xoff + yoff + offBase.setWidth 64 = 0#64 ∧ fitsImm31 (xoff + yoff + offBase.setWidth 64) = false) <;>
        refine ⟨_, by simp [lowerAddendsToAmode, hb]; rfl, ?_⟩ <;>
        simp [Amode.eval, addendVal, Reg.val]

end Wz.C02
