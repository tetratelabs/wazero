/-
What the regenerated `Validate` says in arithmetic, and the maximum the decoder's sizer settles on (`clampMax`).
Shared by C12 (the sizer's variants under `Validate`) and C14 (decoding on the regenerated sizer).
-/
import Wz.Gen.Memory

namespace Wz.Gen.Memory

/-- a cascade of rejections accepts iff no test fires -/
theorem ite_some_eq_none {α} {c : Prop} [Decidable c] {a : α} {x : Option α} :
    (if c then some a else x) = none ↔ ¬ c ∧ x = none := by
  by_cases h : c <;> simp [h]

/-- `Validate` accepts exactly the natural-number constraints. -/
theorem Validate_eq_none_iff (limit mn cp mx : BitVec 32) :
    Validate limit mn cp mx = none ↔
      mx.toNat ≤ limit.toNat ∧ mn.toNat ≤ limit.toNat ∧ mn.toNat ≤ mx.toNat ∧
        mn.toNat ≤ cp.toNat ∧ cp.toNat ≤ limit.toNat := by
  simp only [Validate, ite_some_eq_none, BitVec.ult, decide_eq_true_eq, Nat.not_lt, and_true]

/-- A capacity equal to the minimum or to the maximum adds no constraint of its own. -/
theorem validate_cap (l a c : BitVec 32) :
    (Validate l a a c = none ↔ c.toNat ≤ l.toNat ∧ a.toNat ≤ c.toNat) ∧
    (Validate l a c c = none ↔ c.toNat ≤ l.toNat ∧ a.toNat ≤ c.toNat) := by
  constructor <;> rw [Validate_eq_none_iff] <;> omega

end Wz.Gen.Memory

namespace Wz.Proofs.GenSizer

/-- The maximum the decoder settles on: a declared maximum that is valid (≤ 65536) is clamped to the limit,
an invalid one is passed on (for `Validate` to reject).  Written by hand: the sizers are compared with it
(`Wz.C12.sizer_clamps`, `Wz.C14.memorySizer_eq`). -/
def clampMax (l : BitVec 32) : Option (BitVec 32) → BitVec 32
  | none => l
  | some mx => if BitVec.ult 65536#32 mx then mx else if BitVec.ult l mx then l else mx

theorem clampMax_toNat (l mx : BitVec 32) :
    (clampMax l (some mx)).toNat = if 65536 < mx.toNat then mx.toNat else min mx.toNat l.toNat := by
  have k : (65536#32 : BitVec 32).toNat = 65536 := rfl
  simp only [clampMax, BitVec.ult, decide_eq_true_eq, k]
  split
  · rfl
  · split <;> omega

end Wz.Proofs.GenSizer
