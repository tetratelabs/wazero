/-
C01 (lowering): range of the results of the numeric instructions of the fragment.  Every result of an instruction
of `sig1` / `sig2` with result type `t` is shown to be `< 2 ^ t.bits` (i32 values stay
zero-extended: what makes the call engine's `> 0` / `== 0` tests on a whole 64-bit slot agree with the
specification's tests modulo 2^32).
-/
import Wz.Model.FlatLower
import Wz.Proofs.C01_Num_Names

namespace Wz.Proofs.FlatLower
open Wz.Spec Wz.Spec.Wasm Wz.Model.FlatLower Wz.Proofs.SplitOn Wz.Proofs.NumNames

theorem val_range {m n} {b : BitVec m} {v} (hm : m ≤ n) (hr : numResult (.val b.toNat) = .ok v) : v < 2 ^ n := by
  cases hr; exact Nat.lt_of_lt_of_le b.isLt (Nat.pow_le_pow_right (by decide) hm)

theorem optRes_range {n} {o : Option (BitVec n)} {k v} (hr : numResult (Num.optRes o k) = .ok v) : v < 2 ^ n := by
  cases o with
  | none => cases hr
  | some b => exact val_range (Nat.le_refl n) hr

/-- results are of the operand width, or i32 (the comparisons), or a trap -/
theorem ibin_range {n op x y res v} (hn : 32 ≤ n) : Num.ibin n op x y = some res → numResult res = .ok v →
    v < 2 ^ n := by
  fun_cases Num.ibin n op x y <;> intro h hr <;> cases h
  all_goals first
    | exact val_range (by omega) hr
    | exact optRes_range hr
    | (split at hr  -- `div_s` tests the divisor first
       · cases hr
       · exact optRes_range hr)

def relOps : List String := ["eq", "ne", "lt_s", "lt_u", "gt_s", "gt_u", "le_s", "le_u", "ge_s", "ge_u"]

theorem ibin_rel_range {n op x y res v} (hop : op ∈ relOps) (h : Num.ibin n op x y = some res)
    (hr : numResult res = .ok v) : v < 2 ^ 32 := by
  have : ∀ op ∈ relOps, ∃ b : BitVec 32, Num.ibin n op x y = some (.val b.toNat) := by
    simp only [relOps, List.forall_mem_cons, List.not_mem_nil, false_imp_iff, implies_true, and_true]
    exact ⟨⟨_, rfl⟩, ⟨_, rfl⟩, ⟨_, rfl⟩, ⟨_, rfl⟩, ⟨_, rfl⟩, ⟨_, rfl⟩, ⟨_, rfl⟩, ⟨_, rfl⟩, ⟨_, rfl⟩, ⟨_, rfl⟩⟩
  obtain ⟨b, hb⟩ := this op hop
  rw [hb] at h
  cases h; exact val_range (Nat.le_refl 32) hr

theorem iun_range {n op x res v} (hn : 32 ≤ n) (h : Num.iun n op x = some res) (hr : numResult res = .ok v) : v < 2 ^ n := by
  unfold Num.iun at h
  split at h <;> cases h
  all_goals exact val_range (by omega) hr

/-! On a literal name `splitOn_singleton '.' _` proves `name.splitOn "." = [t, op]`: unification checks the type and
computes `op`. -/

def tyName : Ty → String | .i32 => "i32" | .i64 => "i64"

theorem intPfx_tyName : ∀ t : Ty, IntPfx (tyName t) t.bits
  | .i32 => .i32 | .i64 => .i64

/-- What `sig2` says of each of its fifty names: the operand type is the type in the name, and so is the result type,
unless the operator is a comparison, whose result is an i32. -/
theorem sig2_name {n a r} : sig2 n = some (a, r) →
    ∃ op, (r = a ∨ r = .i32 ∧ op ∈ relOps) ∧ n.splitOn "." = [tyName a, op] := by
  -- Unification leaves the operator as `String.ofList ([] ++ ['e'] ++ ['q'])`; the first three `simp` lemmas
  -- turn it into the literal again.
  fun_cases sig2 n <;> intro hs <;> cases hs <;> first
    | exact ⟨_, .inl rfl, splitOn_singleton '.' _⟩
    | exact ⟨_, .inr ⟨rfl, by simp only [List.nil_append, List.cons_append, String.reduceOfList, relOps, List.mem_cons,
        true_or, or_true]⟩, splitOn_singleton '.' _⟩

theorem sig2_range {n a r x y res v} (hs : sig2 n = some (a, r)) (h : Num.scalar n [x, y] = some res)
    (hr : numResult res = .ok v) : v < 2 ^ r.bits := by
  obtain ⟨op, hres, hsp⟩ := sig2_name hs
  rw [scalar_ibin hsp (intPfx_tyName a)] at h
  rcases hres with rfl | ⟨rfl, hop⟩
  · exact ibin_range (intPfx_tyName r).le h hr
  · exact ibin_rel_range hop h hr

theorem scalar1_range {name op : String} (t : Ty) {x res v} (hn : name ∈ iunNames)
    (hsp : name.splitOn "." = [tyName t, op])
    (h : Num.scalar name [x] = some res) (hr : numResult res = .ok v) : v < 2 ^ t.bits :=
  iun_range (intPfx_tyName t).le (scalar_iun hsp (intPfx_tyName t) (conv_none hn x) ▸ h) hr

theorem sig1_range {n a r x res v} : sig1 n = some (a, r) → Num.scalar n [x] = some res →
    numResult res = .ok v → v < 2 ^ r.bits := by
  fun_cases sig1 n <;> intro hs h hr <;> cases hs
  -- `i64.eqz` and the three conversions: the operand type is not the result type
  case case13 | case14 | case15 | case16 =>
    simp only [scalar_wrap_i64, scalar_extend_i32_s, scalar_extend_i32_u, scalar_i64_eqz] at h
    cases h; cases hr
    first
      | exact BitVec.isLt _
      | exact Nat.lt_of_lt_of_le (Nat.mod_lt _ (by decide)) (by decide)
  all_goals exact scalar1_range _ (by simp only [iunNames, List.mem_cons, true_or, or_true]) (splitOn_singleton '.' _) h hr

end Wz.Proofs.FlatLower
