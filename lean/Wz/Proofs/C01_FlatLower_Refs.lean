/-
C01 (lowering): the labels that operations refer to.  `RefsOK` says where the labels a piece of code refers to are
defined: in the piece itself, or by an enclosing frame that live code of the piece branches to (such a frame gets its
label when it is closed).
-/
import Wz.Proofs.C01_FlatLower_Static

namespace Wz.Proofs.FlatLower
open Wz.Spec Wz.Spec.Wasm Wz.Model.FlatLower

/-- the branch targets of an operation -/
def refsOf {τ} : Op τ → List τ
  | .br t => [t]
  | .brIf a b _ => [a, b]
  | .brTable ts => ts.map (·.1)
  | _ => []

theorem refsOf_mapT {α β} (g : α → β) (op : Op α) : refsOf (op.mapT g) = (refsOf op).map g := by
  cases op <;> simp [refsOf, Op.mapT, List.map_map, Function.comp_def]

/-- the outermost frame is the function's (`getLastD` with the default frame of `lowerI` on `return`) -/
def FuncLast (fs : List Fr) : Prop := fs ≠ [] ∧ (fs.getLastD ⟨.func, 0, 0, 0⟩).kind = .func

theorem FuncLast.push {fs : List Fr} (h : FuncLast fs) (F : Fr) : FuncLast (F :: fs) := by
  obtain ⟨a, fs, rfl⟩ := List.exists_cons_of_ne_nil h.1
  exact ⟨List.cons_ne_nil _ _, h.2⟩

/-- every label the code refers to is the return label, is defined in the code, or is the label of an
enclosing frame that live code branches to -/
def RefsOK (ops : List SymOp) (fs : List Fr) (tg : Nat → Bool) : Prop :=
  ∀ op, op ∈ ops → ∀ l, l ∈ refsOf op →
    l.kind = .ret ∨ l ∈ labelsOf ops ∨ ∃ k, tg k = true ∧ l = (frameAt fs k).label

def allRefs (ops : List SymOp) : List Label := ops.flatMap refsOf

theorem allRefs_nil : allRefs [] = [] := rfl
theorem allRefs_cons (o : SymOp) (ops : List SymOp) : allRefs (o :: ops) = refsOf o ++ allRefs ops := rfl
theorem allRefs_append (a b : List SymOp) : allRefs (a ++ b) = allRefs a ++ allRefs b := List.flatMap_append

theorem allRefs_emitDrop (d : DropR) : allRefs (emitDrop d) = [] := by
  cases d <;> rfl

theorem allRefs_drop_br (d : DropR) (L : Label) : allRefs (emitDrop d ++ [.br L]) = [L] := by
  rw [allRefs_append, allRefs_emitDrop]; rfl

/-- `RefsOK` for a part of a piece of code: `D` are the labels the whole defines -/
def RefsIn (ops : List SymOp) (D : List Label) (fs : List Fr) (tg : Nat → Bool) : Prop :=
  ∀ l, l ∈ allRefs ops → l.kind = .ret ∨ l ∈ D ∨ ∃ k, tg k = true ∧ l = (frameAt fs k).label

theorem refsOK_iff {ops : List SymOp} {fs tg} : RefsOK ops fs tg ↔ RefsIn ops (labelsOf ops) fs tg := by
  simp only [RefsOK, RefsIn, allRefs, List.mem_flatMap]
  exact ⟨fun h l ⟨op, hop, hl⟩ => h op hop l hl, fun h op hop l hl => h l ⟨op, hop, hl⟩⟩

theorem RefsIn.append {a b : List SymOp} {D fs tg} (ha : RefsIn a D fs tg) (hb : RefsIn b D fs tg) :
    RefsIn (a ++ b) D fs tg := fun l hl => by
  rw [allRefs_append, List.mem_append] at hl
  exact hl.elim (ha l) (hb l)

theorem RefsIn.mono {a : List SymOp} {D D' fs tg tg'} (ha : RefsIn a D fs tg) (hD : ∀ l, l ∈ D → l ∈ D')
    (htg : ∀ k, tg k = true → tg' k = true) : RefsIn a D' fs tg' := fun l hl => by
  rcases ha l hl with h | h | ⟨k, hk, rfl⟩
  · exact .inl h
  · exact .inr (.inl (hD l h))
  · exact .inr (.inr ⟨k, htg k hk, rfl⟩)

theorem RefsIn.defined {a : List SymOp} {D fs tg} (h : ∀ l, l ∈ allRefs a → l ∈ D) : RefsIn a D fs tg :=
  fun l hl => .inr (.inl (h l hl))

theorem RefsIn.endCode {F : Fr} {isEnd : Bool} {live dead : List SymOp} {rh : Option Nat} {D fs tg}
    (hl : RefsIn live D fs tg) (hd : RefsIn dead D fs tg) : RefsIn (endCode F isEnd live dead rh) D fs tg := by
  cases rh with
  | none => exact hd
  | some h' => exact fun l h => hl l (by simpa [Wz.Proofs.FlatLower.endCode, allRefs_append, allRefs_emitDrop] using h)

/-- the references of a body, seen from outside its frame: references to the frame's own label are resolved by
`D`, the others move one level up -/
theorem RefsIn.lift {body : List SymOp} {F : Fr} {fs : List Fr} {D} {tgb tg : Nat → Bool}
    (hb : RefsOK body (F :: fs) tgb) (hsub : ∀ l, l ∈ labelsOf body → l ∈ D)
    (hown : tgb 0 = true → F.label ∈ D) (hup : ∀ k, tgb (k + 1) = true → tg k = true) :
    RefsIn body D fs tg := fun l hl => by
  rcases refsOK_iff.mp hb l hl with h | h | ⟨k, hk, rfl⟩
  · exact .inl h
  · exact .inr (.inl (hsub l h))
  · cases k with
    | zero => exact .inr (.inl (hown hk))
    | succ k => exact .inr (.inr ⟨k, hup k hk, rfl⟩)

theorem mem_labelsOf_of_mem {ops : List SymOp} {l : Label} (h : Op.label l ∈ ops) : l ∈ labelsOf ops :=
  mem_labelsOf_iff.mpr h

theorem RefsOK.append {a b : List SymOp} {fs tg tga tgb} (ha : RefsOK a fs tga) (hb : RefsOK b fs tgb)
    (h1 : ∀ k, tga k = true → tg k = true) (h2 : ∀ k, tgb k = true → tg k = true) : RefsOK (a ++ b) fs tg :=
  refsOK_iff.mpr (.append
    ((refsOK_iff.mp ha).mono (fun l hl => by simp [labelsOf_append, hl]) h1)
    ((refsOK_iff.mp hb).mono (fun l hl => by simp [labelsOf_append, hl]) h2))

theorem RefsOK.branch (d : DropR) (fs : List Fr) (k : Nat) (tg : Nat → Bool) (htg : tg k = true) :
    RefsOK (emitDrop d ++ [.br (frameAt fs k).label]) fs tg :=
  refsOK_iff.mpr fun l hl => by
    rw [allRefs_drop_br, List.mem_singleton] at hl
    exact .inr (.inr ⟨k, htg, hl⟩)

end Wz.Proofs.FlatLower
