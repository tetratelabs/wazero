/-
C01 front end: the specification's integer operations (`Wz.Spec.Int`, over `BitVec`) agree with the
SSA model's arithmetic (`Wz.Model.SsaPass`, over `Nat`): clz / ctz / popcnt.  Everything is proved for an arbitrary
width `w` (the primed forms); the forms with `w = 32 ∨ w = 64` and `x < 2 ^ w` are corollaries.  Of the divisions, which
`C01_Front_Ops.ibin_div` compares, only `idivS_zero` is here.
-/
import Wz.Proofs.Spec_Int
import Wz.Proofs.C01_SsaPass_Typed
namespace Wz.Proofs.FrontNum
open Wz.Spec Wz.Model.SsaPass

theorem getLsbD_eq_decide {n : Nat} (a : BitVec n) (i : Nat) : a.getLsbD i = decide (a.toNat / 2 ^ i % 2 = 1) :=
  Nat.testBit_eq_decide_div_mod_eq

theorem clzAux_eq_log2 {n : Nat} (a : BitVec n) :
    ∀ k, a.toNat < 2 ^ k →
      Int.clzAux a k = if a.toNat = 0 then k else k - 1 - Nat.log2 a.toNat := by
  intro k
  induction k with
  | zero =>
    intro h
    rw [Int.clzAux, if_pos (by omega)]
  | succ k ih =>
    intro h
    rw [Int.clzAux, BitVec.getLsbD]
    by_cases hb : a.toNat.testBit k = true
    · have hge := Nat.ge_two_pow_of_testBit hb
      have hne : a.toNat ≠ 0 := by have := Nat.two_pow_pos k; omega
      rw [if_pos hb, if_neg hne, (Nat.log2_eq_iff hne).2 ⟨hge, h⟩]
      omega
    · have hlt : a.toNat < 2 ^ k :=
        Nat.lt_of_not_le fun hle => hb (Nat.testBit_of_two_pow_le_and_two_pow_add_one_gt hle h)
      rw [if_neg hb, ih hlt]
      split
      · omega
      · rename_i hz
        have := (Nat.log2_lt hz).2 hlt
        omega

theorem clz_agree' (w x : Nat) : (Int.iclz (BitVec.ofNat w x)).toNat = clz w x := by
  unfold Int.iclz clz
  have h := clzAux_eq_log2 (BitVec.ofNat w x) w (BitVec.ofNat w x).isLt
  rw [h]
  simp only [BitVec.toNat_ofNat]
  have hw : w < 2 ^ w := Nat.lt_two_pow_self
  apply Nat.mod_eq_of_lt
  split <;> omega

theorem clz_agree (w x : Nat) (_hw : w = 32 ∨ w = 64) (_hx : x < 2 ^ w) :
    (Int.iclz (BitVec.ofNat w x)).toNat = clz w x := clz_agree' w x

theorem ctzAux_zero : ∀ k acc, Wz.Model.SsaPass.ctzAux 0 k acc = acc + k := by
  intro k
  induction k with
  | zero => intro acc; rfl
  | succ k ih => intro acc; rw [Wz.Model.SsaPass.ctzAux, if_neg (by decide), ih]; omega

theorem ctzAux_eq {n : Nat} (a : BitVec n) :
    ∀ k i acc, Int.ctzAux a i k + acc = Wz.Model.SsaPass.ctzAux (a.toNat / 2 ^ i) k acc := by
  intro k
  induction k with
  | zero => intro i acc; simp [Int.ctzAux, Wz.Model.SsaPass.ctzAux]
  | succ k ih =>
    intro i acc
    rw [Int.ctzAux, Wz.Model.SsaPass.ctzAux, getLsbD_eq_decide, Nat.div_div_eq_div_mul, ← Nat.pow_succ,
      ← ih (i + 1) (acc + 1)]
    simp only [decide_eq_true_eq]
    split <;> omega

theorem ctz_agree' (w x : Nat) : (Int.ictz (BitVec.ofNat w x)).toNat = ctz w x := by
  unfold Int.ictz ctz
  have h := ctzAux_eq (BitVec.ofNat w x) w 0 0
  simp only [Nat.add_zero, Nat.pow_zero, Nat.div_one, BitVec.toNat_ofNat] at h
  rw [h]
  have hw : w < 2 ^ w := Nat.lt_two_pow_self
  have hle := ctzAux_le (x % 2 ^ w) w 0
  simp only [BitVec.toNat_ofNat]
  rw [Nat.mod_eq_of_lt (by omega)]
  split
  · rename_i hz; rw [hz, ctzAux_zero]; omega
  · rfl

theorem ctz_agree (w x : Nat) (_hw : w = 32 ∨ w = 64) (_hx : x < 2 ^ w) :
    (Int.ictz (BitVec.ofNat w x)).toNat = ctz w x := ctz_agree' w x

theorem popcntAux_succ' : ∀ k x, popcntAux x (k + 1) = popcntAux x k + x / 2 ^ k % 2 := by
  intro k
  induction k with
  | zero => intro x; simp [popcntAux]
  | succ k ih =>
    intro x
    rw [popcntAux, ih (x / 2), popcntAux, Nat.div_div_eq_div_mul, Nat.pow_succ, Nat.mul_comm 2]
    omega

theorem popAux_eq {n : Nat} (a : BitVec n) : ∀ k, Int.popAux a k = popcntAux a.toNat k := by
  intro k
  induction k with
  | zero => rfl
  | succ k ih =>
    rw [popcntAux_succ', Int.popAux, ih, getLsbD_eq_decide]
    simp only [decide_eq_true_eq]
    split <;> omega

theorem popcnt_agree' (w x : Nat) : (Int.ipopcnt (BitVec.ofNat w x)).toNat = popcnt w x := by
  unfold Int.ipopcnt popcnt
  rw [popAux_eq]
  simp only [BitVec.toNat_ofNat]
  have hw : w < 2 ^ w := Nat.lt_two_pow_self
  have := popcntAux_le (x % 2 ^ w) w
  exact Nat.mod_eq_of_lt (by omega)

theorem popcnt_agree (w x : Nat) (_hw : w = 32 ∨ w = 64) (_hx : x < 2 ^ w) :
    (Int.ipopcnt (BitVec.ofNat w x)).toNat = popcnt w x := popcnt_agree' w x

section Div
variable {w : Nat} (a b : BitVec w)

theorem idivS_zero (hb : b.toNat = 0) : Int.idivS a b = none := by
  rw [Wz.Proofs.SpecInt.idivS_eq, if_pos (beq_iff_eq.2 ((Wz.Proofs.SpecInt.toNat_eq_zero b).1 hb))]

end Div
end Wz.Proofs.FrontNum
