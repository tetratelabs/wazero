/- Lemmas for C15: `readv` of fd_read / fd_pread.  The loop has one specification (`readvLoop_inv`: no length check of
an entry fails, and what survives a store into a granted entry's buffer survives the loop); where it writes with the
repair (iovec array copied at the start, F62) follows: inside the buffers the iovec array names at call time, or in the
result cell. Core Lean only. -/
import Wz.Proofs.C15_Base

namespace Wz.C15
open Wz.Model Wz.Model.Wasi Wz.Model.DescTable Wz.Gen.Wasi

theorem write_size' (m : Mem) (a : Nat) (bs : List Nat) : (m.write a bs).size = m.size := rfl

/-- `readv` on an iovec array whose byte length is a multiple of 8.  No read of an entry fails its length check,
whatever the entries say; and what holds of the memory and of the writes logged so far goes on holding if it survives
the one thing the loop does to them: storing at most `l` bytes at `offset`, for an entry `(offset, l)` of the array
that the guard has granted. -/
theorem readvLoop_inv (P : Mem → List Wr → Prop) (en : Bool) (snap : Option Mem) (iovs stop : Nat)
    (h8 : stop % 8 = 0) (hs : stop < 4294967296)
    (store : ∀ (pos : Nat) (mm : Mem) (ws : List Wr) (bs : List Nat), pos % 8 = 0 → pos + 8 ≤ stop → P mm ws →
      mm.has (le32 (snap.getD mm) (iovs + pos)) (le32 (snap.getD mm) (iovs + (pos + 4))) = true →
      bs.length ≤ le32 (snap.getD mm) (iovs + (pos + 4)) →
      P (mm.write (le32 (snap.getD mm) (iovs + pos)) bs) (Wr.bytes (le32 (snap.getD mm) (iovs + pos)) bs :: ws)) :
    ∀ (fuel pos : Nat) (s : RvSt), pos % 8 = 0 → P s.m s.ws →
      (readvLoop en snap iovs stop fuel pos s).2 ≠ some Err.panic ∧
      P (readvLoop en snap iovs stop fuel pos s).1.m (readvLoop en snap iovs stop fuel pos s).1.ws := by
  intro fuel
  induction fuel with
  | zero => intro pos s _ h; exact ⟨nofun, h⟩
  | succ fuel ih =>
    intro pos s hp h
    have hn : w32 (pos + 8) % 8 = 0 := by unfold w32; omega
    let Q : RvSt × Option Err → Prop := fun r => r.2 ≠ some Err.panic ∧ P r.1.m r.1.ws
    show Q _
    unfold readvLoop
    refine ifElim Q (fun _ => ⟨nofun, h⟩) (fun hge => ?_)
    rw [if_neg (by omega : ¬ pos + 4 > stop), show w32 (pos + 4) = pos + 4 by unfold w32; omega]
    extract_lets em offset p4 l next s1 k bs s2 s3
    rw [if_neg (by omega : ¬ (pos + 4 > stop ∨ pos + 4 + 4 > stop))]
    refine ifElim Q (fun _ => ih _ _ hn h) (fun _ => ?_)
    refine ifElim Q (fun _ => ⟨nofun, h⟩) (fun hhas => ?_)
    refine ifElim Q (fun _ => ⟨nofun, h⟩) (fun _ => ?_)
    -- the bytes the reader hands over go to the buffer of this entry
    have h2 : P s2.m s2.ws := ifElim (fun x : RvSt => P x.m x.ws) (fun _ => h)
      (fun _ => store pos s.m s.ws bs hp (by omega) h (has_of_not hhas)
        (Nat.le_trans (List.length_take_le _ _) (Nat.min_le_left _ _)))
    exact ifElim Q (fun _ => ⟨nofun, h2⟩) (fun _ => ih _ _ hn h2)

/-- With the iovec array copied when the call starts (`snap = some m`, F62 repaired) every entry is read from the copy,
so the buffer it names is one of `iovRegions m iovs cnt 0`, whatever has been stored meanwhile. -/
theorem snap_store (m : Mem) (iovs cnt stop : Nat) (rest : List (Nat × Nat)) (hst : stop ≤ cnt * 8)
    (h32 : stop < 4294967296) (hi : iovs < 4294967296) (hin : m.has iovs stop = true) {pos : Nat} {mm : Mem}
    {bs : List Nat} (hp : pos % 8 = 0) (hle : pos + 8 ≤ stop) (hsz : mm.size = m.size)
    (hhas : mm.has (le32 m (iovs + pos)) (le32 m (iovs + (pos + 4))) = true)
    (hbs : bs.length ≤ le32 m (iovs + (pos + 4))) :
    Placed m (iovRegions m iovs cnt 0 ++ rest) (Wr.bytes (le32 m (iovs + pos)) bs) := by
  intro hs
  have hin' := has_le m iovs stop hi h32 hs hin
  have hentry := iovRegions_mem m iovs cnt 0 (pos / 8) (Nat.zero_le _) (by omega) (by omega)
  rw [show iovs + 8 * (pos / 8) = iovs + pos by omega, Nat.add_assoc] at hentry
  exact placed_iov ((has_congr hsz _ _).symm.trans hhas) (List.mem_append_left _ hentry)
    (Nat.le_refl _) (Nat.le_refl _) (Nat.add_le_add_left hbs _) hs

theorem fdReadCommon_fine (fr : Bool) (rd : Reader) (m : Mem) (iovs cnt res : Nat) (hi : iovs < 4294967296)
    (hr : res < 4294967296) :
    (fdReadCommon fr rd m iovs cnt res).err ≠ Err.panic ∧ Quiet (fdReadCommon fr rd m iovs cnt res) ∧
      (fr = true → ∀ w ∈ (fdReadCommon fr rd m iovs cnt res).writes,
        Placed m (iovRegions m iovs cnt 0 ++ [(res, 4)]) w) := by
  have hdres : (res, 4) ∈ iovRegions m iovs cnt 0 ++ [(res, 4)] := List.mem_append_right _ List.mem_cons_self
  let Q : Res → Prop := fun r => r.err ≠ Err.panic ∧ Quiet r ∧
    (fr = true → ∀ w ∈ r.writes, Placed m (iovRegions m iovs cnt 0 ++ [(res, 4)]) w)
  show Q _
  unfold fdReadCommon
  dsimp only
  refine ifElim Q (fun _ => ⟨nofun, ⟨rfl, rfl⟩, fun _ => nofun⟩) (fun hh => ?_)
  -- what the loop keeps when the iovec array was copied
  have hl := fun en src => readvLoop_inv
    (fun mm ws => fr = true → (∀ w ∈ ws, Placed m (iovRegions m iovs cnt 0 ++ [(res, 4)]) w) ∧ mm.size = m.size)
    en (if fr then some m else none) iovs (w32 (cnt * 8)) (stop8 cnt) (w32_lt _)
    (fun pos mm ws bs hp hle h hhas hbs hf => by
      subst hf
      exact ⟨List.forall_mem_cons.2 ⟨snap_store m iovs cnt _ _ (by unfold w32; omega) (w32_lt _) hi (has_of_not hh)
        hp hle (h rfl).2 hhas hbs, (h rfl).1⟩, (h rfl).2⟩)
    (w32 (cnt * 8) / 8 + 1) 0 { m := m, ws := [], acc := [(iovs, w32 (cnt * 8))], src := src, nread := 0 } rfl
    (fun _ => ⟨nofun, rfl⟩)
  cases rd
  case unknown =>
    refine ifElim Q (fun ha => ⟨nofun, ⟨rfl, rfl⟩, fun hf => ?_⟩) (fun _ => ⟨nofun, ⟨rfl, rfl⟩, fun _ =>
      List.forall_mem_append.2 ⟨iovWritable_placed m iovs cnt _, optRegion_placed hr (by decide) hdres⟩⟩)
    rw [hf] at ha
    cases ha
  -- the two readers that run the loop: its result `x`, and what `hl` says of it
  all_goals
    obtain ⟨hx, hw⟩ := hl _ _
    revert hx hw
    generalize readvLoop _ _ _ _ _ _ _ = x
    rcases x with ⟨s, _ | e⟩ <;> intro hx hw
    · exact ifElim Q (fun _ => ⟨nofun, ⟨rfl, rfl⟩, fun hf w hm => (hw hf).1 w (List.mem_reverse.1 hm)⟩)
        (fun hres => ⟨nofun, ⟨rfl, rfl⟩, fun hf w hm => List.forall_mem_cons.2
          ⟨cell_placed _ ((has_congr (hw hf).2 res 4).symm.trans (has_of_not hres)) hr hdres, (hw hf).1⟩ w
          (List.mem_reverse.1 hm)⟩)
    · exact ⟨fun he => hx (congrArg some he), ⟨rfl, rfl⟩, fun hf w hm => (hw hf).1 w (List.mem_reverse.1 hm)⟩

end Wz.C15
