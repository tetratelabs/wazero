/-
C01 (lowering), the simulation: for every instruction / body of the fragment, every structured fuel `n`, every
typing context, frame stack and placement of the lowered code in the operation list, the outcome of
`Wz.Spec.Wasm.execInstr` / `execSeq` is matched by a run of the flat machine (`Sim`): `next` reaches the end of
the code with the related stack, `br l` / `return` reach the resolved label with the stack the drop range leaves,
a trap traps, and an exhausted run lets the machine make at least `n - weight` steps.  `sim_all` is the induction
on the fuel.
-/
import Wz.Proofs.C01_FlatLower_Basic
import Wz.Proofs.C01_FlatLower_Num
import Wz.Proofs.C01_FlatLower_Static
import Wz.Proofs.Wasm_Exec

namespace Wz.Proofs.FlatLower
open Wz.Spec Wz.Spec.Wasm Wz.Model.FlatLower

/-- static data of one function -/
structure Env where
  sym : List SymOp
  lt : List Ty           -- types of parameters and locals
  results : List Ty      -- result types, top first
  m : Module
  nodup : (labelsOf sym).Nodup

abbrev Env.code (E : Env) : List FlatOp := resolve E.sym

/-- the flat stack: operands on top of the locals (local 0 at the bottom) -/
def flat (stack : List Nat) (locs : Array Nat) : List Nat := stack ++ locs.toList.reverse

theorem flat_cons (v : Nat) (s : List Nat) (locs : Array Nat) : flat (v :: s) locs = v :: flat s locs := rfl

theorem flat_length (S : List Nat) (locs : Array Nat) : (flat S locs).length = S.length + locs.size := by
  simp [flat]

/-- the depth `h - 1 - i` the lowering gives local `i` at the static height `h = a + n` (`a` operands, `n` locals) -/
theorem local_depth {a n i : Nat} (hi : i < n) : a + n - 1 - i = a + (n - 1 - i) := by
  rw [Nat.sub_sub, Nat.add_sub_assoc (by omega), Nat.sub_sub]

theorem flat_local {S : List Nat} {locs : Array Nat} {i : Nat} (hi : i < locs.size) :
    (flat S locs)[S.length + (locs.size - 1 - i)]? = some locs[i]! := by
  rw [flat, List.getElem?_append_right (Nat.le_add_right _ _), Nat.add_sub_cancel_left,
    List.getElem?_reverse' (j := i) (by simp; omega)]
  simp [getElem!_pos, hi]

theorem list_reverse_set {α} (l : List α) (i : Nat) (v : α) (hi : i < l.length) :
    (l.set i v).reverse = l.reverse.set (l.length - 1 - i) v := by
  induction l generalizing i with
  | nil => simp at hi
  | cons a l ih =>
    cases i with
    | zero => simp [List.set_append_right]
    | succ i =>
      have hi' : i < l.length := by simpa using hi
      simp only [List.set_cons_succ, List.reverse_cons, ih i hi', List.length_cons]
      rw [List.set_append_left _ _ (by simp; omega)]
      congr 2; omega

theorem flat_set_local {S : List Nat} {locs : Array Nat} {i v : Nat} (hi : i < locs.size) :
    (flat S locs).set (S.length + (locs.size - 1 - i)) v = flat S (locs.set! i v) := by
  unfold flat
  rw [List.set_append_right _ _ (by omega)]
  simp only [Nat.add_sub_cancel_left]
  congr 1
  simp only [Array.set!_eq_setIfInBounds, Array.toList_setIfInBounds]
  rw [list_reverse_set _ _ _ (by simpa using hi)]
  simp

theorem step_pick_local {S : List Nat} {locs : Array Nat} {i : Nat} (pc : Nat) (hi : i < locs.size) :
    step (.pick (S.length + locs.size - 1 - i)) pc (flat S locs) = .cont (pc + 1) (flat (locs[i]! :: S) locs) := by
  simp only [local_depth hi, step, flat_local hi]
  rfl

theorem step_set_local {S : List Nat} {locs : Array Nat} {i v : Nat} (pc : Nat) (hi : i < locs.size) :
    step (.set ((v :: S).length + locs.size - 1 - i)) pc (flat (v :: S) locs) =
      .cont (pc + 1) (flat S (locs.set! i v)) := by
  have hlt : S.length + (locs.size - 1 - i) < (flat S locs).length := by rw [flat_length]; omega
  have hd : (v :: S).length + locs.size - 1 - i = S.length + (locs.size - 1 - i) + 1 := by
    rw [List.length_cons, local_depth hi, Nat.add_right_comm]
  simp only [hd, step, flat_cons, Nat.add_one_ne_zero, if_false, Nat.add_sub_cancel, hlt, if_true, flat_set_local hi]

def LocsOK (E : Env) (locs : Array Nat) : Prop := ValsOK E.lt locs.toList

theorem LocsOK.size {E : Env} {locs : Array Nat} (h : LocsOK E locs) : locs.size = E.lt.length := by
  have := ValsOK.length h; simpa using this

theorem LocsOK.flat_length {E : Env} {locs : Array Nat} (h : LocsOK E locs) (S : List Nat) :
    (flat S locs).length = E.lt.length + S.length := by
  rw [Wz.Proofs.FlatLower.flat_length, h.size, Nat.add_comm]

theorem LocsOK.get {E : Env} {locs : Array Nat} {i : Nat} {t : Ty} (h : LocsOK E locs) (ht : E.lt[i]? = some t) :
    i < locs.size ∧ locs[i]! < 2 ^ t.bits := by
  obtain ⟨v, hv, hvt⟩ := ValsOK.get h ht
  obtain ⟨hi, hval⟩ := List.getElem?_eq_some_iff.mp hv
  have hi' : i < locs.size := by simpa using hi
  refine ⟨hi', ?_⟩
  rw [getElem!_pos locs i hi']
  simpa [← hval] using hvt

theorem LocsOK.set {E : Env} {locs : Array Nat} {i : Nat} {t : Ty} {v : Nat} (h : LocsOK E locs)
    (ht : E.lt[i]? = some t) (hv : v < 2 ^ t.bits) : LocsOK E (locs.set! i v) := by
  unfold LocsOK
  simp only [Array.set!_eq_setIfInBounds, Array.toList_setIfInBounds]
  exact ValsOK.set h ht hv

theorem height_eq {E : Env} {st : List Ty} {vs base : List Nat} {locs : Array Nat} (hvs : ValsOK st vs)
    (hlocs : LocsOK E locs) : (flat (vs ++ base) locs).length = E.lt.length + base.length + st.length := by
  rw [hlocs.flat_length, List.length_append, hvs.length]; omega

/-- The invariant between the checker's context `C` and the lowering's frame stack `fs`; `base` is what lies below the
operands of the code at hand.  `arity`: a branch to label `l` carries as many values as the drop range of frame `l`
keeps; `orig`: every frame was entered at a height the flat stack still has; `last`: the target of `return`. -/
structure Inv (E : Env) (C : Ctx) (fs : List Fr) (base : List Nat) : Prop where
  locals : C.locals = E.lt
  results : C.results = E.results
  len : fs.length = C.labels.length
  arity : ∀ (l : Nat) (F : Fr) (ts : List Ty), fs[l]? = some F → C.labels[l]? = some ts → ts.length = brArity F
  orig : ∀ F, F ∈ fs → F.orig ≤ E.lt.length + base.length
  last : ∃ F, fs.getLast? = some F ∧ F.kind = .func ∧ F.orig = 0 ∧ F.res = E.results.length

/-- `base`: what lies below the operands of the code at hand; `tg`: the labels it may branch to; `budget`: the steps
the machine can still make when the fuel of the reference semantics runs out. -/
inductive Sim (E : Env) (C : Ctx) (fs : List Fr) (base : List Nat) (res : Option (List Ty)) (tg : Nat → Bool)
    (budget : Nat) (S0 : Cfg) (pcEnd : Nat) : Ctl × Frame × Store → Prop
  | next {st' vs' fr' s k} : res = some st' → fr'.stack = vs' ++ base → ValsOK st' vs' → LocsOK E fr'.locals →
      Reach E.code k S0 (pcEnd, flat fr'.stack fr'.locals) → Sim E C fs base res tg budget S0 pcEnd (.next, fr', s)
  | br {l F ts rs X fr' s k} : fs[l]? = some F → C.labels[l]? = some ts → fr'.stack = rs ++ X ++ base →
      ValsOK ts rs → LocsOK E fr'.locals → tg l = true →
      Reach E.code k S0 (resolveT E.sym F.label, keepTop (brArity F) F.orig (flat fr'.stack fr'.locals)) →
      Sim E C fs base res tg budget S0 pcEnd (.br l, fr', s)
  | ret {rs X fr' s k} : fr'.stack = rs ++ X ++ base → ValsOK E.results rs → LocsOK E fr'.locals →
      Reach E.code k S0 (retAddr, keepTop E.results.length 0 (flat fr'.stack fr'.locals)) →
      Sim E C fs base res tg budget S0 pcEnd (.ret, fr', s)
  | trap {kd fr' s} : TrapsAt E.code S0 kd → Sim E C fs base res tg budget S0 pcEnd (.trap kd, fr', s)
  | exhausted {fr' s} : RunsFor E.code budget S0 → Sim E C fs base res tg budget S0 pcEnd (.exhausted, fr', s)

/-- `hnext`: the code may be a part of a longer piece with another result type and another end, as long as the outcome
is not `next`. -/
theorem Sim.mono {E : Env} {C fs base res res' tg tg' budget budget' S0 S0' pcEnd pcEnd' out k0}
    (h : Sim E C fs base res tg budget S0 pcEnd out) (hr : Reach E.code k0 S0' S0)
    (htg : ∀ l, tg l = true → tg' l = true) (hb : budget' ≤ k0 + budget)
    (hnext : out.1 = .next → res' = res ∧ pcEnd' = pcEnd) : Sim E C fs base res' tg' budget' S0' pcEnd' out := by
  cases h with
  | next h1 h2 h3 h4 hk => obtain ⟨rfl, rfl⟩ := hnext rfl; exact .next h1 h2 h3 h4 (hr.trans hk)
  | br h1 h2 h3 h4 h5 h6 hk => exact .br h1 h2 h3 h4 h5 (htg _ h6) (hr.trans hk)
  | ret h1 h2 h3 hk => exact .ret h1 h2 h3 (hr.trans hk)
  | trap h => exact .trap (.after hr h)
  | exhausted h => exact .exhausted ((RunsFor.after hr h).mono hb)

theorem Sim.prepend {E : Env} {C fs base res tg budget budget' S0 S0' pcEnd out k0}
    (hr : Reach E.code k0 S0' S0) (hb : budget' ≤ k0 + budget) (h : Sim E C fs base res tg budget S0 pcEnd out) :
    Sim E C fs base res tg budget' S0' pcEnd out := h.mono hr (fun _ h => h) hb (fun _ => ⟨rfl, rfl⟩)

def PSeq (E : Env) (n : Nat) : Prop :=
  ∀ {C fs base st vs locs} {is : List FI} {next pc pcEnd res s0 h},
    Inv E C fs base → checkS C st is = some res → ValsOK st vs → LocsOK E locs →
    h = (flat (vs ++ base) locs).length →
    Seg E.sym pc (lowerS fs h next is).ops pcEnd →
    Sim E C fs base res (targetsS · is) (n - weightS (toInstrs is)) (pc, flat (vs ++ base) locs) pcEnd
      (execSeq E.m n (toInstrs is) ⟨vs ++ base, locs⟩ s0)

/-- `C`, `st`, `res`: the checker accepts `i` from the types `st` with the result `res` (`checkI C st i = some res`). -/
def PI (E : Env) (n : Nat) (C : Ctx) (st : List Ty) (i : FI) (res : Option (List Ty)) : Prop :=
  ∀ {fs base vs locs next pc pcEnd s0 h},
    Inv E C fs base → ValsOK st vs → LocsOK E locs →
    h = (flat (vs ++ base) locs).length →
    Seg E.sym pc (lowerI fs h next i).ops pcEnd →
    Sim E C fs base res (targetsI · i) (n - weightI i.toInstr) (pc, flat (vs ++ base) locs) pcEnd
      (execInstr E.m n i.toInstr ⟨vs ++ base, locs⟩ s0)

theorem Env.exec (E : Env) {pc pc' p : Nat} {o : SymOp} {rest : List SymOp} {stk stk' : List Nat}
    (hseg : Seg E.sym pc (o :: rest) pc') (hst : step (o.mapT (resolveT E.sym)) pc stk = .cont p stk') :
    Reach E.code 1 (pc, stk) (p, stk') := .cons (resolve_get hseg.cons.1) hst (.refl _)

theorem Env.exec1 (E : Env) {pc pc' : Nat} {o : SymOp} {stk stk' : List Nat} (hseg : Seg E.sym pc [o] pc')
    (hst : step (o.mapT (resolveT E.sym)) pc stk = .cont (pc + 1) stk') : Reach E.code 1 (pc, stk) (pc', stk') :=
  hseg.cons.2.nil ▸ E.exec hseg hst

theorem Env.trap (E : Env) {pc pc' : Nat} {o : SymOp} {rest : List SymOp} {stk : List Nat} {kd : String}
    (hseg : Seg E.sym pc (o :: rest) pc') (hst : step (o.mapT (resolveT E.sym)) pc stk = .trap kd) :
    TrapsAt E.code (pc, stk) kd := ⟨0, pc, stk, _, .refl _, resolve_get hseg.cons.1, hst⟩

theorem Env.land (E : Env) {p q : Nat} {pre : List SymOp} {l : Label} (hseg : Seg E.sym p (pre ++ [.label l]) q)
    (hk : l.kind ≠ .ret) (stk : List Nat) : Reach E.code 1 (resolveT E.sym l, stk) (q, stk) := by
  obtain ⟨m, _, hl⟩ := hseg.append
  rw [resolveT_at E.nodup hl.1 hk]
  exact E.exec1 hl rfl

theorem Env.land_end (E : Env) {F : Fr} {isEnd : Bool} {pre : List SymOp} {L : Label} {rh : Option Nat} {p q : Nat}
    (hseg : Seg E.sym p (endCode F isEnd (pre ++ [.label L]) [.label L] rh) q) (hk : L.kind ≠ .ret) (stk : List Nat) :
    Reach E.code 1 (resolveT E.sym L, stk) (q, stk) := by
  cases rh with
  | none => exact E.land (pre := []) hseg hk stk
  | some h' => exact E.land (pre := emitDrop (dropRange F isEnd h') ++ pre) (by simpa [endCode] using hseg) hk stk

theorem Env.drop_br (E : Env) {pc pc' : Nat} {d : DropR} {L : Label} {stk stk' : List Nat}
    (hseg : Seg E.sym pc (emitDrop d ++ [.br L]) pc') (hd : applyDrop d stk = some stk') :
    ∃ k, Reach E.code k (pc, stk) (resolveT E.sym L, stk') := by
  cases d with
  | none => cases hd; exact ⟨1, E.exec hseg rfl⟩
  | some r =>
    refine ⟨2, (E.exec (p := pc + 1) (stk' := stk') hseg ?_).trans (E.exec hseg.cons.2 rfl)⟩
    simp only [Op.mapT, Model.FlatLower.step, hd]

theorem sim_num {E : Env} {C fs base tg budget pc pcEnd} {o : SymOp} {name : String} {args stk vs' : List Nat}
    {t : Ty} {st' : List Ty} {fr : Frame} {s : Store} (hseg : Seg E.sym pc [o] pcEnd)
    (hstep : step (o.mapT (resolveT E.sym)) pc stk = numStep name args (flat (vs' ++ base) fr.locals) pc)
    (hrange : ∀ {rr w}, Num.scalar name args = some rr → numResult rr = .ok w → w < 2 ^ t.bits)
    (hvs' : ValsOK st' vs') (hlocs : LocsOK E fr.locals) :
    Sim E C fs base (some (t :: st')) tg budget (pc, stk) pcEnd (numOut (Num.scalar name args) fr (vs' ++ base) s) := by
  cases hsc : Num.scalar name args with
  | none =>
    simp only [numStep, hsc] at hstep
    exact .trap (E.trap hseg hstep)
  | some rr =>
    simp only [numOut, numStep, hsc] at hstep ⊢
    cases hr : numResult rr with
    | error kd => rw [hr] at hstep; exact .trap (E.trap hseg hstep)
    | ok w => rw [hr] at hstep; exact .next (vs' := w :: vs') rfl rfl ⟨hrange hsc hr, hvs'⟩ hlocs (E.exec1 hseg hstep)

theorem Inv.frame {E C fs base} (hinv : Inv E C fs base) {l : Nat} {ts : List Ty} (h : C.labels[l]? = some ts) :
    ∃ F, fs[l]? = some F ∧ frameAt fs l = F ∧ ts.length = brArity F ∧ F.orig ≤ E.lt.length + base.length := by
  have hl : l < fs.length := by
    rw [hinv.len]; exact (List.getElem?_eq_some_iff.mp h).1
  refine ⟨fs[l], List.getElem?_eq_getElem hl, ?_, hinv.arity l _ ts (List.getElem?_eq_getElem hl) h,
    hinv.orig _ (List.getElem_mem hl)⟩
  simp [frameAt, List.getD, List.getElem?_eq_getElem hl]

theorem Inv.funcFrame {E C fs base} (hinv : Inv E C fs base) :
    ∃ F, fs.getLastD ⟨.func, 0, 0, 0⟩ = F ∧ F.label = ⟨.ret, 0⟩ ∧ brArity F = E.results.length ∧ F.orig = 0 := by
  obtain ⟨F, hF, hk, ho, hr⟩ := hinv.last
  refine ⟨F, ?_, ?_, ?_, ho⟩
  · rw [List.getLastD_eq_getLast?, hF]; rfl
  · simp [Fr.label, hk]
  · simp [brArity, hk, hr]

theorem Inv.push {E C fs base} (hinv : Inv E C fs base) (F : Fr) (ts : List Ty) {vs : List Nat} {locs : Array Nat}
    (hlocs : LocsOK E locs) (har : ts.length = brArity F) (horig : F.orig = (flat (vs ++ base) locs).length) :
    Inv E { C with labels := ts :: C.labels } (F :: fs) (vs ++ base) := by
  rw [hlocs.flat_length] at horig
  refine ⟨hinv.locals, hinv.results, by simp [hinv.len], ?_, ?_, ?_⟩
  · intro l F' ts' hF' hts'
    cases l with
    | zero => simp at hF' hts'; subst hF'; subst hts'; exact har
    | succ l => exact hinv.arity l F' ts' (by simpa using hF') (by simpa using hts')
  · intro F' hF'
    rcases List.mem_cons.mp hF' with rfl | hm
    · omega
    · have := hinv.orig F' hm; simp; omega
  · obtain ⟨F0, hF0, h⟩ := hinv.last
    exact ⟨F0, by rw [List.getLast?_cons, hF0]; rfl, h⟩

/-- the part shared by br / br_if / br_table / return: the drop range of the target frame applied to the flat stack -/
theorem branch_drop {E : Env} {F : Fr} {ts rest : List Ty} {vs base : List Nat} {locs : Array Nat}
    (hvs : ValsOK (ts ++ rest) vs) (hlocs : LocsOK E locs) (har : ts.length = brArity F)
    (horig : F.orig ≤ E.lt.length + base.length) :
    ∃ rs X, vs = rs ++ X ∧ ValsOK ts rs ∧
      applyDrop (dropRange F false (flat (vs ++ base) locs).length) (flat (vs ++ base) locs) =
        some (keepTop (brArity F) F.orig (flat (vs ++ base) locs)) := by
  refine (hvs.split).imp fun rs h => h.imp fun X ⟨hsplit, hrs, _⟩ => ⟨hsplit, hrs, applyDrop_br ?_⟩
  rw [height_eq hvs hlocs, ← har, List.length_append]; omega

theorem getD_map_snoc {α β} (f : α → β) (ls : List α) (d : α) (c : Nat) :
    (ls.map f ++ [f d]).getD c (f d) = f (ls.getD c d) := by
  induction ls generalizing c with
  | nil => cases c <;> simp [List.getD]
  | cons a ls ih =>
    cases c with
    | zero => simp [List.getD]
    | succ c => simpa [List.getD] using ih c

theorem getD_mem_or {ls : List Nat} {d c : Nat} : ls.getD c d ∈ ls ∨ ls.getD c d = d := by
  by_cases hc : c < ls.length
  · left; simp [List.getD, List.getElem?_eq_getElem hc]
  · right; simp [List.getD, List.getElem?_eq_none (Nat.le_of_not_lt hc)]

theorem step_brIf {g : Label → Nat} {thn els : Label} {d : DropR} {c pc : Nat} {stk stk' : List Nat} (hc : c ≠ 0)
    (hd : applyDrop d stk = some stk') : step (Op.mapT g (.brIf thn els d)) pc (c :: stk) = .cont (g thn) stk' := by
  simp only [Op.mapT, step, Nat.pos_of_ne_zero hc, if_true, hd]

theorem step_brTable {g : Label → Nat} {tgt : Nat → Label × DropR} {ls : List Nat} {d c pc : Nat} {stk stk' : List Nat}
    (hd : applyDrop (tgt (ls.getD c d)).2 stk = some stk') :
    step (Op.mapT g (.brTable (ls.map tgt ++ [tgt d]))) pc (c :: stk) = .cont (g (tgt (ls.getD c d)).1) stk' := by
  have := getD_map_snoc (fun x => (g (tgt x).1, (tgt x).2)) ls d c
  simp only [Op.mapT, step, List.map_append, List.map_map, List.map_cons, List.map_nil, List.getLast?_append,
    List.getLast?_singleton, Option.some_or, Function.comp_def, this, hd]

/-- the stack `catchBlock` builds from `rs ++ X ++ B` after a branch that carries `rs` to a frame entered at `B` -/
theorem take_drop_frame (rs X B : List Nat) :
    (rs ++ X ++ B).take rs.length ++ (rs ++ X ++ B).drop ((rs ++ X ++ B).length - B.length) = rs ++ B := by
  rw [List.append_assoc, List.take_left, ← List.append_assoc, List.length_append, Nat.add_sub_cancel, List.drop_left]

theorem keepTop_frame {E : Env} {locs : Array Nat} (hlocs : LocsOK E locs) (rs X B : List Nat) :
    keepTop rs.length (E.lt.length + B.length) (flat (rs ++ X ++ B) locs) = flat (rs ++ B) locs := by
  have h := take_drop_frame rs X (B ++ locs.toList.reverse)
  simp only [List.length_append, List.length_reverse, Array.length_toList, hlocs.size, ← List.append_assoc] at h
  simp only [keepTop, flat, List.length_append, List.length_reverse, Array.length_toList, hlocs.size,
    Nat.add_comm E.lt.length, h]

/-- A block-like frame `F` (block, then-branch, else-branch), run as a `block` of the reference semantics, catches the
outcome of its body.  The three differ in how the machine goes on to `pcEnd`: from the end of the body when that is
live (`hnext`), and from the continuation label (`hcont`). -/
theorem sim_frame (E : Env) {n : Nat} (hS : ∀ m, m < n → PSeq E m) {C : Ctx} {fs : List Fr} {base vs : List Nat}
    {st : List Ty} {locs : Array Nat} {F : Fr} {id next h : Nat} {bt : Option Ty} {body : List FI} {isEnd : Bool}
    {live dead : List SymOp} {tg : Nat → Bool} {budget pc pcB pcT pcEnd : Nat} {s0 : Store}
    (hinv : Inv E C fs base) (hvs : ValsOK st vs) (hlocs : LocsOK E locs) (hh : h = (flat (vs ++ base) locs).length)
    (hF : F.kind ≠ .loop) (hlab : F.label = ⟨.cont, id⟩) (hres : F.res = arity bt) (horig : F.orig = h)
    (hend : endOK (btTypes bt) (checkS { C with labels := btTypes bt :: C.labels } [] body) = true)
    (hsegB : Seg E.sym pc (lowerS (F :: fs) h next body).ops pcB)
    (hsegT : Seg E.sym pcB (endCode F isEnd live dead (lowerS (F :: fs) h next body).h) pcT)
    (hnext : Seg E.sym pcB live pcT → ∀ stk, ∃ k, Reach E.code k (pcB, stk) (pcEnd, stk))
    (hcont : targetsS 0 body = true → ∀ stk, Reach E.code 1 (resolveT E.sym ⟨.cont, id⟩, stk) (pcEnd, stk))
    (htg : ∀ l, targetsS (l + 1) body = true → tg l = true) (hbud : budget ≤ n - (weightS (toInstrs body) + 1)) :
    Sim E C fs base (some (btTypes bt ++ st)) tg budget (pc, flat (vs ++ base) locs) pcEnd
      (execInstr E.m n (.block (arity bt) (toInstrs body)) ⟨vs ++ base, locs⟩ s0) := by
  cases n with
  | zero => rw [execInstr_zero]; exact .exhausted (RunsFor.zero.mono (Nat.zero_sub _ ▸ hbud))
  | succ n =>
  rw [execInstr_block]
  rw [Nat.add_sub_add_right] at hbud
  obtain ⟨res', hbody, hend⟩ := endOK_iff.mp hend
  have har : (btTypes bt).length = brArity F := by simp [brArity, hF, hres, btTypes_length]
  have ih := hS n (Nat.lt_succ_self n) (st := []) (vs := []) (s0 := s0) (hinv.push F _ hlocs har (horig.trans hh)) hbody
    trivial hlocs hh hsegB
  simp only [List.nil_append] at ih
  generalize execSeq E.m n (toInstrs body) ⟨vs ++ base, locs⟩ s0 = out at ih ⊢
  cases ih with
  | next hr' hstack hvs' hlocs' hk =>
    cases hend _ hr'
    rw [lowerS_h_end _ _ _ (hr' ▸ hbody), har, brArity, if_neg hF, ← horig, endCode_live _ _ (.inr hF)] at hsegT
    obtain ⟨k2, hk2⟩ := hnext hsegT _
    exact .next rfl (by rw [hstack, List.append_assoc]) (hvs'.append hvs) hlocs' (hk.trans hk2)
  | @br l F' ts rs X fr' s k hF' hts hstack hrs hlocs' htg0 hk =>
    cases l with
    | zero =>
      cases hF'; cases hts
      have hsp : (splitTop fr'.stack (arity bt)).1 ++ fr'.stack.drop (fr'.stack.length - (vs ++ base).length) =
          rs ++ vs ++ base := by
        rw [hstack, ← btTypes_length, ← hrs.length, List.append_assoc rs vs]; exact take_drop_frame rs X _
      rw [hlab, ← har, ← hrs.length, horig, hh, hlocs.flat_length, hstack, keepTop_frame hlocs', ← List.append_assoc] at hk
      exact .next rfl hsp (hrs.append hvs) hlocs' (hsp ▸ hk.trans (hcont htg0 _))
    | succ l => exact .br (X := X ++ vs) hF' hts (by rw [hstack]; simp) hrs hlocs' (htg l htg0) hk
  | @ret rs X _ _ _ hstack hrs hlocs' hk => exact .ret (X := X ++ vs) (by rw [hstack]; simp) hrs hlocs' hk
  | trap h => exact .trap h
  | exhausted h => exact .exhausted (h.mono hbud)

theorem sim_block (E : Env) (n : Nat) (bt : Option Ty) (body : List FI) (hS : ∀ m, m < n → PSeq E m) {C : Ctx}
    {st : List Ty} (hend : endOK (btTypes bt) (checkS { C with labels := btTypes bt :: C.labels } [] body) = true) :
    PI E n C st (.block bt body) (some (btTypes bt ++ st)) := by
  intro fs base vs locs next pc pcEnd s0 h hinv hvs hlocs hh hseg
  simp only [lowerI_block] at hseg
  obtain ⟨pcB, hsegB, hsegT⟩ := hseg.append
  rw [FI.toInstr]
  refine sim_frame E hS hinv hvs hlocs hh (by simp) rfl rfl rfl hend hsegB hsegT ?_ ?_
    (fun l hl => by simpa [targetsI] using hl) (by simp [weightI])
  · intro hlive stk
    split at hlive
    · exact ⟨2, (E.exec hlive rfl).trans (E.land (pre := [_]) hlive (by simp) stk)⟩
    · exact ⟨0, hlive.nil ▸ .refl _⟩
  · intro htg stk
    rw [if_pos htg] at hsegT
    exact E.land_end (pre := [_]) hsegT (by simp) stk

theorem sim_ite (E : Env) (n : Nat) (bt : Option Ty) (th el : List FI) (hS : ∀ m, m < n → PSeq E m) {C : Ctx}
    {s : List Ty} (hend1 : endOK (btTypes bt) (checkS { C with labels := btTypes bt :: C.labels } [] th) = true)
    (hend2 : endOK (btTypes bt) (checkS { C with labels := btTypes bt :: C.labels } [] el) = true) :
    PI E (n + 1) C (.i32 :: s) (.ite bt th el) (some (btTypes bt ++ s)) := by
  intro fs base vs locs next pc pcEnd s0 h hinv hvs hlocs hh hseg
  obtain ⟨vc, vs', rfl, hvc, hvs'⟩ := hvs.cons_left
  simp only [lowerI_ite] at hseg
  obtain ⟨p4, hseg, hsegT⟩ := hseg.append
  obtain ⟨p3, hseg, hsegE⟩ := hseg.append
  obtain ⟨p2, hseg, hsegM⟩ := hseg.append
  obtain ⟨p1, hseg0, hsegTh⟩ := hseg.append
  have hg : h - 1 = (flat (vs' ++ base) locs).length := by rw [hh]; rfl
  -- both branches leave through the continuation label, which ends the code
  have landC := E.land_end (pre := [_]) hsegT (by simp)
  rw [List.cons_append, FI.toInstr, execInstr_ite, (Nat.mod_eq_of_lt hvc : vc % 2 ^ 32 = vc)]
  by_cases h0 : vc = 0
  · -- else branch: the `BrIf` jumps to the else label, which ends the code of the then branch
    subst h0
    have hstart : Reach E.code 2 (pc, flat (0 :: (vs' ++ base)) locs) (p3, flat (vs' ++ base) locs) :=
      (E.exec hseg0 rfl).trans (E.land_end (pre := [_]) hsegM (by simp) _)
    exact Sim.prepend hstart (by simp [weightI]; omega) (sim_frame E hS hinv hvs' hlocs hg (by simp) rfl rfl rfl
      hend2 hsegE hsegT (fun hlive stk => ⟨2, (E.exec hlive rfl).trans (landC stk)⟩) (fun _ => landC)
      (fun l hl => by simp [targetsI, hl]) (Nat.le_refl _))
  · -- then branch
    have hstart : Reach E.code 2 (pc, flat (vc :: (vs' ++ base)) locs) (p1, flat (vs' ++ base) locs) :=
      (E.exec hseg0 (step_brIf h0 rfl)).trans (E.land (pre := [_]) hseg0 (by simp) _)
    rw [if_pos (by simpa using h0)]
    exact Sim.prepend hstart (by simp [weightI]; omega) (sim_frame E hS hinv hvs' hlocs hg (by simp) rfl rfl rfl
      hend1 hsegTh hsegM (fun hlive stk => ⟨2, (E.exec hlive rfl).trans (landC stk)⟩) (fun _ => landC)
      (fun l hl => by simp [targetsI, hl]) (Nat.le_refl _))

theorem sim_loop (E : Env) (n : Nat) (bt : Option Ty) (body : List FI) (hS : ∀ m, m < n → PSeq E m) {C : Ctx}
    {st : List Ty} (hend : endOK (btTypes bt) (checkS { C with labels := [] :: C.labels } [] body) = true) :
    PI E n C st (.loop bt body) (some (btTypes bt ++ st)) := by
  intro fs base vs locs next pc pcEnd s0 h hinv hvs hlocs hh hseg
  obtain ⟨res', hres, hend⟩ := endOK_iff.mp hend
  simp only [lowerI_loop, List.append_assoc] at hseg
  obtain ⟨p1, hseg0, hseg⟩ := hseg.append
  obtain ⟨p2, hsegB, hsegT⟩ := hseg.append
  have land := E.land (pre := [_]) hseg0 (by simp)
  -- The loop with the machine behind the header label, by induction on the fuel: a branch to the loop lands there
  -- again, with other locals.
  suffices haux : ∀ m, m ≤ n → ∀ {locs : Array Nat} {s0 : Store}, LocsOK E locs →
      h = (flat (vs ++ base) locs).length →
      Sim E C fs base (some (btTypes bt ++ st)) (targetsI · (.loop bt body)) (m - weightI (FI.loop bt body).toInstr)
        (p1, flat (vs ++ base) locs) pcEnd (execInstr E.m m (FI.loop bt body).toInstr ⟨vs ++ base, locs⟩ s0) from
    Sim.prepend ((E.exec hseg0 rfl).trans (land _)) (Nat.le_add_left _ _) (haux n (Nat.le_refl n) hlocs hh)
  intro m
  induction m with
  | zero => intros; rw [execInstr_zero]; exact .exhausted .zero_sub
  | succ m ihm =>
    intro hm locs s0 hlocs hh
    have hinv' := hinv.push ⟨.loop, next + 1, h, arity bt⟩ [] hlocs (by simp [brArity]) hh
    have ih := hS m (by omega) (st := []) (vs := []) (s0 := s0) hinv' hres trivial hlocs hh hsegB
    rw [FI.toInstr, execInstr_loop]
    simp only [List.nil_append] at ih
    generalize execSeq E.m m (toInstrs body) ⟨vs ++ base, locs⟩ s0 = out at ih ⊢
    cases ih with
    | next hr' hstack hvs' hlocs' hk =>
      cases hend _ hr'
      rw [lowerS_h_end _ _ _ (hr' ▸ hres), btTypes_length, endCode_live _ _ (.inl rfl)] at hsegT
      exact .next rfl (by rw [hstack, List.append_assoc]) (hvs'.append hvs) hlocs' (hsegT.nil ▸ hk)
    | @br l F' ts rs X fr' s k hF' hts hstack hrs hlocs' htg0 hk =>
      cases l with
      | zero =>
        -- back to the header: only the stack of the loop's entry is kept, and the loop runs again
        cases hF'; cases hts; cases hrs.nil_left
        have hkeep := keepTop_frame hlocs' [] X (vs ++ base)
        rw [← hlocs.flat_length, ← hh] at hkeep
        have hdrop : fr'.stack.drop (fr'.stack.length - (vs ++ base).length) = vs ++ base := by
          rw [hstack]; exact take_drop_frame [] X _
        rw [hstack] at hk
        simp only [hdrop]
        exact Sim.prepend ((hkeep ▸ hk).trans (land _)) (by simp [weightI, FI.toInstr]; omega)
          (ihm (by omega) hlocs' (by rw [hh, hlocs.flat_length, hlocs'.flat_length]))
      | succ l =>
        exact .br (X := X ++ vs) hF' hts (by rw [hstack]; simp) hrs hlocs' (by simpa [targetsI] using htg0) hk
    | @ret rs X _ _ _ hstack hrs hlocs' hk => exact .ret (X := X ++ vs) (by rw [hstack]; simp) hrs hlocs' hk
    | trap h => exact .trap h
    | exhausted h => exact .exhausted (h.mono (by simp [weightI]))

theorem sim_seq (E : Env) (n : Nat) (hI : ∀ {C st i res}, checkI C st i = some res → PI E n C st i res) (hS : PSeq E n) :
    PSeq E (n + 1) := by
  intro C fs base st vs locs is next pc pcEnd res s0 h hinv hc hvs hlocs hh hseg
  cases is with
  | nil => cases hc; cases hseg.nil; exact .next rfl rfl hvs hlocs (.refl _)
  | cons i rest =>
    obtain ⟨r, hi, hr⟩ := checkS_cons hc
    have hhI := lowerI_h fs (E.lt.length + base.length) next hi
    rw [← height_eq hvs hlocs, ← hh] at hhI
    obtain ⟨p1, hseg1, hseg2⟩ : ∃ p1, Seg E.sym pc (lowerI fs h next i).ops p1 ∧ ∀ st1, r = some st1 →
        Seg E.sym p1 (lowerS fs (E.lt.length + base.length + st1.length) (lowerI fs h next i).next rest).ops pcEnd := by
      cases r with
      | none => rw [lowerS_cons_none rest hhI] at hseg; exact ⟨pcEnd, hseg, fun _ h => by cases h⟩
      | some st1 =>
        rw [lowerS_cons_some rest hhI] at hseg
        exact hseg.append.imp fun p1 h => ⟨h.1, fun _ e => by cases e; exact h.2⟩
    have ihI := hI hi (s0 := s0) hinv hvs hlocs hh hseg1
    by_cases hnx : (execInstr E.m n i.toInstr ⟨vs ++ base, locs⟩ s0).1 = .next
    · generalize hout : execInstr E.m n i.toInstr ⟨vs ++ base, locs⟩ s0 = out at ihI hnx
      cases ihI with
      | @next st1 vs1 fr1 s1 k hr1 hstack hvs1 hlocs1 hk =>
        subst hr1
        obtain ⟨stack1, locs1⟩ := fr1
        cases hstack
        rw [toInstrs, execSeq_cons_next _ hout]
        exact (hS hinv hr hvs1 hlocs1 (height_eq hvs1 hlocs1).symm (hseg2 _ rfl)).mono hk
          (fun l hl => by simp [targetsS, not_terminator_of_live hhI, hl]) (by simp [weightS]; omega) (fun _ => ⟨rfl, rfl⟩)
      | br | ret | trap | exhausted => cases hnx
    · rw [toInstrs, execSeq_cons_other _ hnx]
      exact ihI.mono (.refl _) (fun l hl => by simp [targetsS, hl]) (by simp [weightS]; omega) (fun e => absurd e hnx)

/-- One instruction, by the arms of `checkI`, numbered as they stand in its definition with every test inside an arm
counted: a refusal is `none`, an acceptance fixes `res`. -/
theorem sim_instr (E : Env) (n : Nat) (hS : ∀ m, m < n → PSeq E m) {C : Ctx} {st : List Ty} {i : FI} {res} :
    checkI C st i = some res → PI E n C st i res := by
  cases n
  case zero => intro _ fs base vs locs next pc pcEnd s0 h _ _ _ _ _; rw [execInstr_zero]; exact .exhausted .zero_sub
  case succ n =>
    fun_cases checkI C st i <;> intro ht <;> cases ht <;>
      intro fs base vs locs next pc pcEnd s0 h hinv hvs hlocs hh hseg
    -- `const`
    case case1 =>
      exact .next (vs' := _ :: vs) rfl rfl ⟨Nat.mod_lt _ (Nat.pow_pos (by decide)), hvs⟩ hlocs (E.exec1 hseg rfl)
    -- unary and binary numeric instructions
    case case2 hsig =>
      obtain ⟨v, vs', rfl, -, hvs'⟩ := hvs.cons_left
      exact sim_num hseg rfl (sig1_range hsig) hvs' hlocs
    case case5 hsig ht =>
      obtain ⟨rfl, rfl⟩ := ht
      obtain ⟨v1, vs1, rfl, -, hvs1⟩ := hvs.cons_left
      obtain ⟨v0, vs', rfl, -, hvs'⟩ := hvs1.cons_left
      exact sim_num hseg rfl (sig2_range hsig) hvs' hlocs
    -- `local.get`, `local.set`, `local.tee`
    case case8 ht =>
      obtain ⟨hi, hv⟩ := hlocs.get (hinv.locals ▸ ht)
      rw [hh, flat_length] at hseg
      exact .next (vs' := _ :: vs) rfl rfl ⟨hv, hvs⟩ hlocs (E.exec1 hseg (step_pick_local pc hi))
    case case10 ht =>
      obtain ⟨v, vs', rfl, hv, hvs'⟩ := hvs.cons_left
      obtain ⟨hi, -⟩ := hlocs.get (hinv.locals ▸ ht)
      rw [hh, flat_length] at hseg
      exact .next rfl rfl hvs' (hlocs.set (hinv.locals ▸ ht) hv) (E.exec1 hseg (step_set_local pc hi))
    case case13 i _ _ ht =>
      obtain ⟨v, vs', rfl, hv, hvs'⟩ := hvs.cons_left
      obtain ⟨hi, -⟩ := hlocs.get (hinv.locals ▸ ht)
      -- after `Pick 0` the stack is one higher
      have hd : h - i = (v :: v :: (vs' ++ base)).length + locs.size - 1 - i := by
        rw [hh, flat_length]; simp only [List.length_cons, List.cons_append]; omega
      replace hseg : Seg E.sym pc [.pick 0, .set (h - i)] pcEnd := hseg
      rw [hd] at hseg
      exact .next (vs' := v :: vs') rfl rfl ⟨hv, hvs'⟩ (hlocs.set (hinv.locals ▸ ht) hv)
        ((E.exec (p := pc + 1) hseg rfl).trans (E.exec1 hseg.cons.2 (step_set_local (pc + 1) hi)))
    -- `drop`, `select`
    case case16 =>
      obtain ⟨v, vs', rfl, -, hvs'⟩ := hvs.cons_left
      exact .next rfl rfl hvs' hlocs (E.exec1 hseg (by simp [step, Op.mapT, applyDrop, flat_cons]))
    case case18 ht =>
      obtain ⟨rfl, rfl⟩ := ht
      obtain ⟨vc, vs1, rfl, hvc, hvs1⟩ := hvs.cons_left
      obtain ⟨v2, vs2, rfl, hv2, hvs2⟩ := hvs1.cons_left
      obtain ⟨v1, vs', rfl, hv1, hvs'⟩ := hvs2.cons_left
      refine .next (vs' := (if vc % 2 ^ 32 != 0 then v1 else v2) :: vs') rfl rfl ⟨by split <;> assumption, hvs'⟩ hlocs
        (E.exec1 hseg ?_)
      have hmod : vc % 2 ^ 32 = vc := Nat.mod_eq_of_lt hvc
      simp only [Op.mapT, step, flat_cons, List.cons_append, hmod]
      by_cases h0 : vc = 0 <;> simp [h0]
    -- `unreachable`
    case case21 => exact .trap (E.trap hseg rfl)
    -- `return`, `br`, `br_if`, `br_table`: the operands of the branch are a prefix of the stack, and the drop range of
    -- the target frame keeps them (`branch_drop`)
    case case22 hp =>
      obtain ⟨rest, rfl⟩ := hasPrefix_iff.mp hp
      subst hh
      obtain ⟨F, hF, hlab, har, horig⟩ := hinv.funcFrame
      obtain ⟨rs, X, rfl, hrs, hd⟩ := branch_drop (F := F) (base := base) hvs hlocs (by rw [har, hinv.results]) (by omega)
      subst hF
      obtain ⟨k, hk⟩ := E.drop_br hseg hd
      rw [hlab, har, horig] at hk
      exact .ret rfl (hinv.results ▸ hrs) hlocs hk
    case case24 hts hp =>
      obtain ⟨rest, rfl⟩ := hasPrefix_iff.mp hp
      subst hh
      obtain ⟨F, hF, hFat, har, horig⟩ := hinv.frame hts
      obtain ⟨rs, X, rfl, hrs, hd⟩ := branch_drop hvs hlocs har horig
      subst hFat
      obtain ⟨k, hk⟩ := E.drop_br hseg hd
      exact .br hF hts rfl hrs hlocs (by simp [targetsI]) hk
    case case27 l ts _ _ hts ht =>
      obtain ⟨rfl, hp⟩ := ht
      obtain ⟨rest, rfl⟩ := hasPrefix_iff.mp hp
      subst hh
      obtain ⟨vc, vs1, rfl, hvc, hvs1⟩ := hvs.cons_left
      obtain ⟨F, hF, hFat, har, horig⟩ := hinv.frame hts
      obtain ⟨rs, X, rfl, hrs, hd⟩ := branch_drop hvs1 hlocs har horig
      rw [List.cons_append, FI.toInstr, execInstr_brIf, (Nat.mod_eq_of_lt hvc : vc % 2 ^ 32 = vc)]
      by_cases h0 : vc = 0
      · subst h0
        exact .next rfl rfl hvs1 hlocs ((E.exec hseg rfl).trans (E.land (pre := [_]) hseg (by simp) _))
      · rw [if_pos (by simpa using h0)]
        exact .br hF hts rfl hrs hlocs (by simp [targetsI]) (hFat ▸ E.exec hseg (step_brIf h0 (hFat ▸ hd)))
    case case30 ls d ts _ _ hts ht =>
      obtain ⟨rfl, hp, hall⟩ := ht
      obtain ⟨rest, rfl⟩ := hasPrefix_iff.mp hp
      subst hh
      obtain ⟨vc, vs1, rfl, hvc, hvs1⟩ := hvs.cons_left
      have hsel : ls.getD vc d ∈ ls ∨ ls.getD vc d = d := getD_mem_or
      have hj : C.labels[ls.getD vc d]? = some ts :=
        hsel.elim (fun hl => by simpa using List.all_eq_true.mp hall _ hl) (fun e => e.symm ▸ hts)
      obtain ⟨F, hF, hFat, har, horig⟩ := hinv.frame hj
      obtain ⟨rs, X, rfl, hrs, hd⟩ := branch_drop hvs1 hlocs har horig
      rw [List.cons_append, FI.toInstr, execInstr_brTable, (Nat.mod_eq_of_lt hvc : vc % 2 ^ 32 = vc)]
      refine .br hF hj rfl hrs hlocs ?_ (hFat ▸ E.exec hseg (step_brTable (hFat ▸ hd)))
      simp only [targetsI, Bool.or_eq_true, List.contains_iff_mem, beq_iff_eq]
      exact hsel.imp_right Eq.symm
    -- `block`, `loop`, `if`
    case case33 hend => exact sim_block E (n + 1) _ _ hS hend hinv hvs hlocs hh hseg
    case case35 hend => exact sim_loop E (n + 1) _ _ hS hend hinv hvs hlocs hh hseg
    case case37 ht =>
      obtain ⟨rfl, hend1, hend2⟩ := ht
      exact sim_ite E n _ _ _ (fun m hm => hS m (Nat.lt_succ_of_lt hm)) hend1 hend2 hinv hvs hlocs hh hseg

theorem sim_all (E : Env) : ∀ n, PSeq E n := by
  intro n
  induction n using Nat.strongRecOn with
  | _ n ih =>
    cases n with
    | zero => unfold PSeq; intros; rw [execSeq_zero]; exact .exhausted .zero_sub
    | succ n => exact sim_seq E n (sim_instr E n (fun m hm => ih m (by omega))) (ih n (by omega))

end Wz.Proofs.FlatLower
