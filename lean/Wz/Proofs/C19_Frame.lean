import Wz.Model.Config
/-
C19 — frame lemmas for the configuration heap model.

`WF st`      : every slice/map reference of every node points into the heap.
`Frame st st'`: nothing that existed in `st` (heap objects, node structs) was written on the way to `st'`.
Main results: a call of a method that the classifier accepts (`pathSafe`) only allocates — it never
writes an existing heap object or node (`execPath_frame`), hence the observable value of every earlier
configuration is unchanged (`frame_obs`); lifted to whole histories (`run_frame`).
-/
namespace Wz.Model.Config

def WF (st : State) : Prop := ∀ c ∈ st.nodes, ∀ p ∈ c.refs, p.2.ptr < st.objs.length

def Frame (st st' : State) : Prop :=
  st'.objs.take st.objs.length = st.objs ∧ st'.nodes.take st.nodes.length = st.nodes

theorem Frame.refl (st : State) : Frame st st :=
  ⟨List.take_length, List.take_length⟩

private theorem take_trans {α} {a b c : List α} (h1 : b.take a.length = a) (h2 : c.take b.length = b) :
    c.take a.length = a :=
  (List.prefix_iff_eq_take.mp
    ((List.prefix_iff_eq_take.mpr h1.symm).trans (List.prefix_iff_eq_take.mpr h2.symm))).symm

theorem Frame.trans {a b c : State} (h1 : Frame a b) (h2 : Frame b c) : Frame a c :=
  ⟨take_trans h1.1 h2.1, take_trans h1.2 h2.2⟩

theorem setAssoc_cons {β} (k : String) (b : β) (t : List (String × β)) (f : String) (v : β) :
    setAssoc ((k, b) :: t) f v = (if (k == f) = true then (k, v) else (k, b)) :: setAssoc t f v := rfl

theorem lookup_setAssoc {β} (l : List (String × β)) (f g : String) (v : β) :
    (setAssoc l f v).lookup g = if g = f then (l.lookup g).map fun _ => v else l.lookup g := by
  induction l with
  | nil => simp [setAssoc]
  | cons hd tl ih =>
    obtain ⟨k, b⟩ := hd
    rw [setAssoc_cons]
    by_cases hg : g = f <;> by_cases hk : k = f
    · subst hg hk; simp
    · subst hg; simp [List.lookup_cons, hk, ih, beq_eq_false_iff_ne.mpr (Ne.symm hk)]
    · subst hk; simp [List.lookup_cons, hg, ih, beq_eq_false_iff_ne.mpr hg]
    · simp only [List.lookup_cons, hg, hk, ih, beq_iff_eq, if_false]

theorem mem_setAssoc {β} {l : List (String × β)} {f : String} {v : β} {q : String × β}
    (h : q ∈ setAssoc l f v) : q = (f, v) ∨ (q ∈ l ∧ q.1 ≠ f) := by
  obtain ⟨p, hp, rfl⟩ := List.mem_map.mp h
  by_cases hk : p.1 = f
  · rw [if_pos (beq_iff_eq.mpr hk), hk]; exact .inl rfl
  · rw [if_neg (mt beq_iff_eq.mp hk)]; exact .inr ⟨hp, hk⟩

theorem mem_of_getRef {c : Cfg} {f : String} {r : Ref} (h : c.getRef f = some r) : (f, r) ∈ c.refs := by
  obtain ⟨l₁, l₂, hl, _⟩ := List.lookup_eq_some_iff.mp h
  rw [hl]
  exact List.mem_append_right _ List.mem_cons_self

/-- Invariant of a running method body: `base` is the heap at call time; `fresh` the fields known to point past
`base`. -/
structure Inv (base : List Obj) (fresh : List String) (w : Work) : Prop where
  pre : w.objs.take base.length = base
  refs : ∀ p ∈ w.cfg.refs, p.2.ptr < w.objs.length ∧ (p.1 ∈ fresh → base.length ≤ p.2.ptr)

theorem Inv.le {base fresh w} (h : Inv base fresh w) : base.length ≤ w.objs.length := by
  have := congrArg List.length h.pre
  rw [List.length_take] at this
  omega

theorem Inv.mono {base fresh fresh' w} (h : Inv base fresh w) (hs : ∀ f ∈ fresh', f ∈ fresh) :
    Inv base fresh' w :=
  ⟨h.pre, fun p hp => ⟨(h.refs p hp).1, fun hf => (h.refs p hp).2 (hs _ hf)⟩⟩

theorem Inv.fresh {base fresh w} (h : Inv base fresh w) {f : String} {r : Ref} (hf : f ∈ fresh)
    (hr : w.cfg.getRef f = some r) : r.ptr < w.objs.length ∧ base.length ≤ r.ptr :=
  ⟨(h.refs _ (mem_of_getRef hr)).1, (h.refs _ (mem_of_getRef hr)).2 hf⟩

theorem Inv.heap {base fresh w} (h : Inv base fresh w) (objs' : List Obj)
    (hpre : objs'.take base.length = base) (hlen : w.objs.length ≤ objs'.length) :
    Inv base fresh { objs := objs', cfg := w.cfg } :=
  ⟨hpre, fun p hp => ⟨Nat.lt_of_lt_of_le (h.refs p hp).1 hlen, (h.refs p hp).2⟩⟩

theorem Inv.setRef {base fresh w} (h : Inv base fresh w) (f : String) (r' : Ref)
    (hr : r'.ptr < w.objs.length) (hb : base.length ≤ r'.ptr) :
    Inv base (f :: fresh) { objs := w.objs, cfg := w.cfg.setRef f r' } := by
  refine ⟨h.pre, fun q hq => ?_⟩
  rcases mem_setAssoc hq with rfl | ⟨hq, hne⟩
  · exact ⟨hr, fun _ => hb⟩
  · exact ⟨(h.refs q hq).1, fun hf => (h.refs q hq).2 ((List.mem_cons.mp hf).resolve_left hne)⟩

theorem Inv.alloc {base fresh w} (h : Inv base fresh w) (x : Obj) (f : String) (len cap : Nat) :
    Inv base (f :: fresh)
      { objs := w.objs ++ [x], cfg := w.cfg.setRef f ⟨w.objs.length, len, cap⟩ } :=
  (h.heap (w.objs ++ [x]) ((List.take_append_of_le_length h.le).trans h.pre)
    (List.length_append ▸ Nat.le_add_right ..)).setRef f _ (List.length_append ▸ Nat.lt_succ_self _) h.le

theorem Inv.write {base fresh w} (h : Inv base fresh w) (i : Nat) (x : Obj) (hb : base.length ≤ i) :
    Inv base fresh { objs := w.objs.set i x, cfg := w.cfg } :=
  h.heap _ ((List.take_set_of_le hb).trans h.pre) (Nat.le_of_eq List.length_set.symm)

theorem execEff_inv {base fresh a w w'} (e : Eff) (hi : Inv base fresh w)
    (hs : (effSafe fresh e).1 = true) (h : execEff a w e = some w') :
    Inv base (effSafe fresh e).2 w' := by
  cases e <;> simp only [execEff, bind, Option.bind_eq_some_iff, pure, allocArr] at h
  case assignScalar f e =>
    obtain ⟨v, _, h⟩ := h
    cases h
    exact ⟨hi.pre, hi.refs⟩
  case assignArgSlice f p =>
    obtain ⟨vs, _, r0, _, h⟩ := h
    cases h
    exact (hi.alloc _ f _ _).mono fun g hg => List.mem_cons_of_mem _ (List.mem_filter.mp hg).1
  case assignFreshSlice f p =>
    obtain ⟨vs, _, r0, _, h⟩ := h
    cases h
    exact hi.alloc _ f _ _
  case indexWrite f ix e =>
    obtain ⟨r, hr, kv, _, key, _, i0, _, v, _, h⟩ := h
    split at h
    · split at h <;> cases h
      exact hi.write _ _ (hi.fresh (List.contains_iff_mem.mp hs) hr).2
    · cases h
  case append f es =>
    obtain ⟨r, hr, vs, _, h⟩ := h
    have hf := hi.fresh (List.contains_iff_mem.mp hs) hr
    split at h
    · split at h <;> cases h
      · exact ((hi.write _ _ hf.2).setRef f ⟨r.ptr, r.len + vs.length, r.cap⟩
          ((List.length_set (as := w.objs)).symm ▸ hf.1) hf.2).mono fun g hg => List.mem_cons_of_mem _ hg
      · exact (hi.alloc _ f _ _).mono fun g hg => List.mem_cons_of_mem _ hg
    · cases h
  case mapWrite m k lenOf =>
    obtain ⟨r, hr, rl, _, key, _, h⟩ := h
    split at h <;> cases h
    exact hi.write _ _ (hi.fresh (List.contains_iff_mem.mp hs) hr).2

theorem execEffs_inv {base a} (es : List Eff) : ∀ {fresh w w'}, Inv base fresh w →
    effsSafe fresh es = true → execEffs a w es = some w' → ∃ fresh', Inv base fresh' w' := by
  induction es with
  | nil =>
    intro fresh w w' hi _ h
    cases h
    exact ⟨fresh, hi⟩
  | cons e es ih =>
    intro fresh w w' hi hs h
    obtain ⟨w1, h1, h2⟩ := Option.bind_eq_some_iff.mp h
    obtain ⟨hs1, hs2⟩ := Bool.and_eq_true_iff.mp hs
    exact ih (execEff_inv e hi hs1 h1) hs2 h2

theorem cloneField_inv {base fresh w w'} (f : String) (hi : Inv base fresh w)
    (h : cloneField w f = some w') : Inv base (f :: fresh) w' := by
  simp only [cloneField, bind, Option.bind_eq_some_iff, pure, allocArr] at h
  obtain ⟨r, _, h⟩ := h
  split at h <;> cases h <;> exact hi.alloc _ f _ _

theorem cloneFields_inv {base} (fs : List String) : ∀ {fresh w w'}, Inv base fresh w →
    cloneFields w fs = some w' → Inv base (fs ++ fresh) w' := by
  induction fs with
  | nil =>
    intro fresh w w' hi h
    cases h
    exact hi
  | cons f fs ih =>
    intro fresh w w' hi h
    obtain ⟨w1, h1, h2⟩ := Option.bind_eq_some_iff.mp h
    refine (ih (cloneField_inv f hi h1) h2).mono fun g hg => ?_
    simp only [List.mem_append, List.mem_cons] at hg ⊢
    exact hg.elim (·.elim (.inr ∘ .inl) .inl) (.inr ∘ .inr)

theorem frame_of_inv {st : State} {fresh : List String} {w : Work} (hwf : WF st)
    (hi : Inv st.objs fresh w) :
    Frame st { objs := w.objs, nodes := st.nodes ++ [w.cfg] } ∧
      WF { objs := w.objs, nodes := st.nodes ++ [w.cfg] } := by
  refine ⟨⟨hi.pre, List.take_left⟩, fun c hc p hp => ?_⟩
  rcases List.mem_append.mp hc with hc | hc
  · exact Nat.lt_of_lt_of_le (hwf c hc p hp) hi.le
  · cases List.mem_singleton.mp hc
    exact (hi.refs p hp).1

theorem execPath_result {st st' : State} {recv id : Nat} {p : Path} {a : Args}
    (h : execPath st recv p a = some (st', id)) :
    (p.clone = .self ∧ id = recv ∧ recv < st.nodes.length ∧ st'.nodes.length = st.nodes.length) ∨
    (p.clone ≠ .self ∧ id = st.nodes.length ∧ st'.nodes.length = st.nodes.length + 1) := by
  simp only [execPath, bind, Option.bind_eq_some_iff] at h
  obtain ⟨c, hc, w1, _, w2, _, h⟩ := h
  cases hcl : p.clone <;> simp only [hcl, pure] at h <;> cases h
  · exact .inl ⟨rfl, rfl, (List.getElem?_eq_some_iff.mp hc).1, List.length_set⟩
  · exact .inr ⟨nofun, rfl, List.length_append⟩
  · exact .inr ⟨nofun, rfl, List.length_append⟩

theorem execPath_frame {st st' : State} {recv id : Nat} {p : Path} {a : Args}
    (hwf : WF st) (hs : pathSafe p = true) (h : execPath st recv p a = some (st', id)) :
    Frame st st' ∧ WF st' := by
  simp only [execPath, bind, Option.bind_eq_some_iff] at h
  obtain ⟨c, hc, w1, h1, w2, h2, h⟩ := h
  have hi1 := cloneFields_inv (fresh := []) (deepFields p.clone)
    ⟨List.take_length, fun q hq => ⟨hwf c (List.mem_of_getElem? hc) q hq, nofun⟩⟩ h1
  rw [List.append_nil] at hi1
  cases hcl : p.clone
  case self =>
    -- no effects and nothing cloned: the receiver is written back unchanged
    simp only [pathSafe, hcl, List.isEmpty_iff] at hs
    simp only [hcl, deepFields, cloneFields, hs, execEffs, pure] at h h1 h2
    cases h1; cases h2; cases h
    obtain ⟨hlt, rfl⟩ := List.getElem?_eq_some_iff.mp hc
    rw [List.set_getElem_self]
    exact ⟨Frame.refl st, hwf⟩
  all_goals
    simp only [pathSafe, hcl, deepFields, pure] at hs h hi1
    obtain ⟨fresh', hi2⟩ := execEffs_inv p.effs hi1 hs h2
    cases h
    exact frame_of_inv hwf hi2

theorem selectPath_mem {objs c a} (ps : List Path) : ∀ {p}, selectPath objs c a ps = some p → p ∈ ps := by
  induction ps with
  | nil => exact nofun
  | cons q qs ih =>
    intro p h
    simp only [selectPath] at h
    split at h
    · cases h; exact List.mem_cons_self
    · exact List.mem_cons_of_mem _ (ih h)
    · cases h

theorem call_some {tbl : List Method} {st : State} {recv : Nat} {name : String} {a : Args} {r : State × Nat}
    (h : call tbl st recv name a = some r) :
    ∃ m ps p, m ∈ tbl ∧ resolve tbl m = some ps ∧ p ∈ ps ∧ execPath st recv p a = some r := by
  simp only [call, bind, Option.bind_eq_some_iff] at h
  obtain ⟨c, _, m, hm, ps, hps, p, hp, h⟩ := h
  exact ⟨m, ps, p, List.mem_of_find?_eq_some hm, hps, selectPath_mem ps hp, h⟩

theorem call_frame {tbl : List Method} {st st' : State} {recv id : Nat} {name : String} {a : Args}
    (hall : allSafe tbl = true) (hwf : WF st) (h : call tbl st recv name a = some (st', id)) :
    Frame st st' ∧ WF st' := by
  obtain ⟨m, ps, p, hm, hps, hp, h⟩ := call_some h
  have hms := List.all_eq_true.mp hall m hm
  simp only [methodSafe, hps] at hms
  exact execPath_frame hwf (List.all_eq_true.mp hms p hp) h

theorem newFields_inv {base : List Obj} (fields : List (String × Init)) : ∀ (w : Work),
    Inv base [] w → Inv base [] (newFields w fields) := by
  induction fields with
  | nil => exact fun _ h => h
  | cons hd tl ih =>
    intro w h
    have push (x : Obj) (f : String) (len cap : Nat) : Inv base []
        { objs := w.objs ++ [x], cfg := { w.cfg with refs := w.cfg.refs ++ [(f, ⟨w.objs.length, len, cap⟩)] } } := by
      refine ⟨(List.take_append_of_le_length h.le).trans h.pre, fun q hq => ⟨?_, nofun⟩⟩
      rw [List.length_append]
      rcases List.mem_append.mp hq with hq | hq
      · exact Nat.lt_succ_of_lt (h.refs q hq).1
      · cases List.mem_singleton.mp hq
        exact Nat.lt_succ_self _
    obtain ⟨f, _ | _ | _⟩ := hd
    · exact ih _ ⟨h.pre, h.refs⟩
    · exact ih _ (push ..)
    · exact ih _ (push ..)

theorem newNode_frame (st : State) (kind : String) (fields : List (String × Init)) (hwf : WF st) :
    Frame st (newNode st kind fields).1 ∧ WF (newNode st kind fields).1 :=
  frame_of_inv hwf (newFields_inv fields _ ⟨List.take_length, nofun⟩)

theorem step_frame {tbl : List Method} {st st' : State} {s : Step}
    (hall : allSafe tbl = true) (hwf : WF st) (h : step tbl st s = some st') : Frame st st' ∧ WF st' := by
  cases s with
  | new k fs =>
    cases h
    exact newNode_frame st k fs hwf
  | call r n a =>
    simp only [step, Option.map_eq_some_iff] at h
    obtain ⟨⟨st1, id⟩, h, rfl⟩ := h
    exact call_frame hall hwf h

theorem run_frame {tbl : List Method} {st st' : State} {ss : List Step}
    (hall : allSafe tbl = true) (hwf : WF st) (h : run tbl st ss = some st') : Frame st st' ∧ WF st' := by
  induction ss generalizing st with
  | nil =>
    cases h
    exact ⟨Frame.refl _, hwf⟩
  | cons s ss ih =>
    obtain ⟨st1, h1, h2⟩ := Option.bind_eq_some_iff.mp h
    obtain ⟨hf1, hwf1⟩ := step_frame hall hwf h1
    obtain ⟨hf2, hwf2⟩ := ih hwf1 h2
    exact ⟨hf1.trans hf2, hwf2⟩

theorem view_take {objs objs' : List Obj} {n : Nat} (h : objs'.take n = objs) (r : Ref)
    (hr : r.ptr < n) : view objs' r = view objs r := by
  simp only [view, ← h, List.getElem?_take_of_lt hr]

theorem frame_obs {st st' : State} (hwf : WF st) (hf : Frame st st') (i : Nat) (hi : i < st.nodes.length) :
    obs st' i = obs st i := by
  have hnode : st'.nodes[i]? = st.nodes[i]? := by
    conv => rhs; rw [← hf.2]
    rw [List.getElem?_take_of_lt hi]
  simp only [obs, hnode]
  cases hc : st.nodes[i]? with
  | none => rfl
  | some c =>
    simp only [Option.map_some, obsCfg]
    congr 2
    exact List.map_congr_left fun p hp => by rw [view_take hf.1 p.2 (hwf c (List.mem_of_getElem? hc) p hp)]

theorem WF_init : WF ({} : State) := nofun

end Wz.Model.Config
