/- Lemmas for C15: the 22 functions of Wz.Model.Wasi — the loop-free ones and fd_write / fd_pwrite are `Fine`
whatever the arguments; what holds of the others only for one variant or only of a well-sized host is said by
`Fine1`. Core Lean only. -/
import Wz.Proofs.C15_Poll
import Wz.Proofs.C15_W1

namespace Wz.C15
open Wz.Model Wz.Model.Wasi Wz.Model.DescTable Wz.Gen.Wasi

theorem writeU64_fine (m : Mem) (p v : Nat) (hp : p < 4294967296) :
    Fine m [(p, 8)] (writeU64 m p v) := by
  unfold writeU64
  split
  · exact fine_err (by decide)
  · rename_i hh
    exact fine_lit nofun (List.forall_mem_singleton.2 (placed_has (has_of_not hh) hp (by decide) List.mem_cons_self
      (Nat.le_refl _) (Nat.le_refl _) (Nat.le_of_eq (congrArg (p + ·) (bytesLE_length 8 v)))))

theorem clock_cases {P : Res → Prop} (h : Host) (m : Mem) (id res : Nat) (he : P { err := einval })
    (hw : ∀ v, P (writeU64 m res v)) : P (clockResGet h m id res) ∧ P (clockTimeGet h m id res) := by
  unfold clockResGet clockTimeGet
  exact ⟨ifElim P (fun _ => hw _) (fun _ => ifElim P (fun _ => hw _) (fun _ => he)),
    ifElim P (fun _ => hw _) (fun _ => ifElim P (fun _ => hw _) (fun _ => he))⟩

theorem fdPrestatGet_fine (h : Host) (fds : Fds) (m : Mem) (fd res : Nat) (hr : res < 4294967296) :
    Fine m [(res, 8)] (fdPrestatGet h fds m fd res) := by
  unfold fdPrestatGet
  split
  · exact fine_err (by decide)
  · exact writeU64_fine m res _ hr

theorem write2xU32_fine (m : Mem) (p1 v1 p2 v2 : Nat) (h1 : p1 < 4294967296) (h2 : p2 < 4294967296) :
    Fine m [(p1, 4), (p2, 4)] (write2xU32 m p1 v1 p2 v2) := by
  unfold write2xU32
  refine ifElim (Fine m _) (fun _ => fine_err (by decide)) (fun hh1 => ?_)
  have c1 := cell_placed (d := [(p1, 4), (p2, 4)]) v1 (has_of_not hh1) h1 List.mem_cons_self
  dsimp only
  refine ifElim (Fine m _) (fun _ => fine_lit (by decide) (List.forall_mem_singleton.2 c1)) (fun hh2 => ?_)
  exact fine_lit nofun (List.forall_mem_cons.2 ⟨c1, List.forall_mem_singleton.2
    (cell_placed v2 (has_of_not hh2) h2 (List.mem_cons_of_mem _ List.mem_cons_self))⟩)

theorem randomGet_fine (m : Mem) (b l : Nat) (hb : b < 4294967296) (hl : l < 4294967296) :
    Fine m [(b, l)] (randomGet m b l) := by
  unfold randomGet
  split
  · exact fine_err (by decide)
  · rename_i hh
    refine fine_lit nofun ?_
    split
    · nofun
    · exact List.forall_mem_singleton.2 (placed_has (has_of_not hh) hb hl List.mem_cons_self (Nat.le_refl _) (Nat.le_refl _)
        (Nat.le_of_eq (by show b + ((List.range l).map (· % 256)).length = b + l; rw [List.length_map, List.length_range])))

theorem fdPrestatDirName_fine (h : Host) (fds : Fds) (m : Mem) (fd p l : Nat) (hp : p < 4294967296)
    (hl : l < 4294967296) : Fine m [(p, l)] (fdPrestatDirName h fds m fd p l) := by
  fun_cases fdPrestatDirName h fds m fd p l
  all_goals try exact fine_err (by decide)
  · -- `name[:pathLen]` is guarded by the ENAMETOOLONG check
    rename_i h1 h2
    exact absurd h2 (by unfold w32 at h1; omega)
  · rename_i name _ _ _ hh
    refine fine_lit nofun ?_
    split
    · nofun
    · exact List.forall_mem_singleton.2 (placed_has (has_of_not hh) hp hl List.mem_cons_self (Nat.le_refl _)
        (Nat.le_refl _) (by show p + (name.take l).length ≤ p + l; rw [List.length_take]; omega))

theorem statLike_fine (fds : Fds) (m : Mem) (fd res sz : Nat) (hr : res < 4294967296) (hz : sz < 4294967296) :
    Fine m [(res, sz)] (statLike fds m fd res sz) := by
  unfold statLike
  split
  · exact fine_err (by decide)
  · rename_i hh
    split
    · exact fine_lit (by decide) nofun
    · exact fine_lit nofun (List.forall_mem_singleton.2
        (placed_has (has_of_not hh) hr hz List.mem_cons_self (Nat.le_refl _) (Nat.le_refl _) (Nat.le_refl _)))

theorem seekLike_fine (fds : Fds) (m : Mem) (fd res : Nat) (hr : res < 4294967296) :
    Fine m [(res, 8)] (seekLike fds m fd res) := by
  unfold seekLike
  split
  · exact fine_err (by decide)
  · exact fine_lit nofun (optRegion_placed hr (by decide) List.mem_cons_self)

theorem fdClose_fine (fds : Fds) (m : Mem) (fd : Nat) : Fine m [] (fdClose fds fd) := by
  unfold fdClose
  split
  · exact fine_err (by decide)
  · exact ⟨nofun, nofun, fun h => absurd rfl h, Nat.zero_le _⟩

theorem fdRead_cases {P : Res → Prop} (fr : Bool) (h : Host) (fds : Fds) (m : Mem) (fd iovs cnt res : Nat)
    (he : P { err := ebadf }) (hc : ∀ rd, P (fdReadCommon fr rd m iovs cnt res)) :
    P (fdRead fr h fds m fd iovs cnt res) ∧ P (fdPread fr fds m fd iovs cnt res) := by
  unfold fdRead fdPread
  constructor
  all_goals
    split
    · exact he
    all_goals exact hc _

theorem fdWriteCommon_fine (w : Writer) (m : Mem) (iovs cnt res : Nat) (hr : res < 4294967296) :
    Fine m [(res, 4)] (fdWriteCommon w m iovs cnt res) := by
  fun_cases fdWriteCommon w m iovs cnt res
  · exact fine_err (by decide)
  · exact fine_lit nofun (optRegion_placed hr (by decide) List.mem_cons_self)
  · rename_i heq
    exact fine_lit (fun he => writevLoop_ne_panic w m iovs _ (stop8 cnt) (w32_lt _) _ 0 _ 0 rfl (by rw [heq, he])) nofun
  · exact fine_lit (by decide) nofun
  · rename_i hh
    exact fine_lit nofun (List.forall_mem_singleton.2 (cell_placed _ (has_of_not hh) hr List.mem_cons_self))

theorem fdWrite_fine (fds : Fds) (m : Mem) (fd iovs cnt res : Nat) (hr : res < 4294967296) :
    Fine m [(res, 4)] (fdWrite fds m fd iovs cnt res) ∧ Fine m [(res, 4)] (fdPwrite fds m fd iovs cnt res) := by
  unfold fdWrite fdPwrite
  constructor
  all_goals
    split
    · exact fine_err (by decide)
    all_goals exact fdWriteCommon_fine _ m iovs cnt res hr

theorem nulSize_cons (v : List Nat) (rest : List (List Nat)) : nulSize (v :: rest) = v.length + 1 + nulSize rest := by
  simp [nulSize]

/-- args_get / environ_get: when the sizes args_sizes_get reports do not wrap (fewer than 2^30 values, less than
4 GiB of text — host configuration, not guest input) the two buffers are exactly as long as the loop needs: no
length check of the loop fails, and every write lies in one of the two buffers (`W` = what holds of such writes) -/
theorem offsetsLoop_exact {W : Wr → Prop} (offsets offsetsLen bytes bytesLen : Nat) (hb : bytesLen < 4294967296)
    (ho : offsetsLen < 4294967296)
    (hW1 : ∀ w : Wr, offsets ≤ w.off → w.off + w.len ≤ offsets + offsetsLen → W w)
    (hW2 : ∀ w : Wr, bytes ≤ w.off → w.off + w.len ≤ bytes + bytesLen → W w) :
    ∀ (vs : List (List Nat)) (oI bI : Nat) (ws : List Wr), oI + 4 * vs.length = offsetsLen → bI + nulSize vs = bytesLen →
      (∀ w ∈ ws, W w) → (offsetsLoop offsets offsetsLen bytes bytesLen vs oI bI ws).2 = true ∧
        ∀ w ∈ (offsetsLoop offsets offsetsLen bytes bytesLen vs oI bI ws).1, W w := by
  intro vs
  induction vs with
  | nil => intro oI bI ws _ _ hws; exact ⟨rfl, hws⟩
  | cons v rest ih =>
    intro oI bI ws h1 h2 hws
    rw [nulSize_cons] at h2
    simp only [List.length_cons] at h1
    unfold offsetsLoop
    have a1 : ¬ oI ≥ offsetsLen := by omega
    have a2 : min 4 (offsetsLen - oI) = 4 := by omega
    have a3 : ¬ bI > bytesLen := by omega
    have a4 : w32 (bI + v.length) = bI + v.length := by unfold w32; omega
    have a5 : ¬ bI + v.length ≥ bytesLen := by omega
    have a6 : w32 (oI + 4) = oI + 4 := by unfold w32; omega
    have a7 : w32 (bI + v.length + 1) = bI + v.length + 1 := by unfold w32; omega
    have a8 : min v.length (bytesLen - bI) = v.length := by omega
    simp only [a1, if_false, a2, Nat.lt_irrefl, a3, a4, a5, a6, a7, a8, Nat.reduceEqDiff]
    refine ih _ _ _ (by omega) (by omega) (List.forall_mem_cons.2 ⟨hW2 _ (Nat.le_add_right _ _) ?_, ?_⟩)
    · show bytes + (bI + v.length) + 1 ≤ bytes + bytesLen
      omega
    · have hoff := List.forall_mem_cons.2 ⟨hW1 (Wr.bytes (offsets + oI) ((bytesLE 4 (w32 (bytes + bI))).take 4))
        (Nat.le_add_right _ _) (by
          show offsets + oI + ((bytesLE 4 (w32 (bytes + bI))).take 4).length ≤ offsets + offsetsLen
          rw [List.length_take, bytesLE_length]; omega), hws⟩
      refine ifElim (fun l : List Wr => ∀ w ∈ l, W w) (fun _ => hoff)
        (fun _ => List.forall_mem_cons.2 ⟨hW2 _ (Nat.le_add_right _ _) ?_, hoff⟩)
      show bytes + bI + (v.take v.length).length ≤ bytes + bytesLen
      rw [List.length_take]; omega

/-- the host's argument / environment lists have sizes that fit the 32-bit counters of args_sizes_get -/
def HostArgsOk (h : Host) : Prop :=
  h.args.length * 4 < 4294967296 ∧ nulSize h.args < 4294967296 ∧ h.env.length * 4 < 4294967296 ∧ nulSize h.env < 4294967296

theorem writeOffsetsAndValues_fine (m : Mem) (vs : List (List Nat)) (o b : Nat) (h1 : vs.length * 4 < 4294967296)
    (h2 : nulSize vs < 4294967296) (ho : o < 4294967296) (hb : b < 4294967296) :
    Fine m [(o, 4 * vs.length), (b, nulSize vs)] (writeOffsetsAndValues m vs o b (w32 (nulSize vs))) := by
  have e1 : w32 (vs.length * 4) = vs.length * 4 := by unfold w32; omega
  have e2 : w32 (nulSize vs) = nulSize vs := by unfold w32; omega
  unfold writeOffsetsAndValues
  rw [e1, e2]
  dsimp only
  split
  · exact fine_err (by decide)
  · rename_i hh1
    split
    · exact fine_lit (by decide) nofun
    · rename_i hh2
      have hl := offsetsLoop_exact (W := Placed m [(o, 4 * vs.length), (b, nulSize vs)]) o (vs.length * 4) b (nulSize vs)
        h2 h1 (fun w => placed_has (has_of_not hh1) ho h1 List.mem_cons_self (by omega))
        (fun w => placed_has (has_of_not hh2) hb h2 (List.mem_cons_of_mem _ List.mem_cons_self) (Nat.le_refl _))
        vs 0 0 [] (by omega) (by omega) nofun
      split
      · rename_i heq
        rw [heq] at hl
        exact fine_lit nofun (fun w hw => hl.2 w (List.mem_reverse.1 hw))
      · rename_i heq
        rw [heq] at hl
        cases hl.1

theorem writeOffsetsAndValues_quiet (m : Mem) (vs : List (List Nat)) (o b bl : Nat) :
    Quiet (writeOffsetsAndValues m vs o b bl) := by
  fun_cases writeOffsetsAndValues m vs o b bl <;> exact ⟨rfl, rfl⟩

/-- What holds of the answer `r` of function `f` of `Fn1`: only fd_renumber allocates by guest numbers
(F16); `fixed` is the repaired poll_oneoff, `fixedRead` the repaired `readv` (F62). -/
structure Fine1 (fixed fixedRead : Bool) (h : Host) (m : Mem) (d : List (Nat × Nat)) (f : Fn1) (r : Res) : Prop where
  table : r.err ≠ Err.errno 0 → r.fds = none
  alloc : f ≠ Fn1.fd_renumber → r.alloc ≤ 512
  noPanic : fixed = true → HostArgsOk h → r.err ≠ Err.panic
  placed : fixedRead = true → HostArgsOk h → ∀ w ∈ r.writes, Placed m d w

variable {fixed fixedRead : Bool} {h : Host} {m : Mem} {d : List (Nat × Nat)} {f : Fn1} {r : Res}

theorem Fine.fine1 (hf : Fine m d r) : Fine1 fixed fixedRead h m d f r :=
  ⟨hf.table, fun _ => hf.alloc, fun _ _ => hf.noPanic, fun _ _ => hf.placed⟩

theorem Quiet.fine1 (hq : Quiet r) (hp : fixed = true → HostArgsOk h → r.err ≠ Err.panic)
    (hw : fixedRead = true → HostArgsOk h → ∀ w ∈ r.writes, Placed m d w) : Fine1 fixed fixedRead h m d f r :=
  ⟨fun _ => hq.1, fun _ => Nat.le_trans (Nat.le_of_eq hq.2) (Nat.zero_le _), hp, hw⟩

theorem renumber_fine1 (b : Option Nat) (fds : Fds) (fr to : Nat) :
    Fine1 fixed fixedRead h m d Fn1.fd_renumber (renumber b fds fr to) := by
  have hc : renumberCheck b fds fr to ≠ .error Err.panic := by
    fun_cases renumberCheck b fds fr to <;> nofun
  unfold renumber
  split
  · rename_i e he
    exact ⟨fun _ => rfl, fun hf => absurd rfl hf, fun _ _ hp => hc (hp ▸ he), fun _ _ => nofun⟩
  · exact ⟨fun h => absurd rfl h, fun hf => absurd rfl hf, fun _ _ => nofun, fun _ _ => nofun⟩

theorem pollOneoff_fine1 (fds : Fds) (inp out n res : Nat) (hi : inp < 4294967296) (ho : out < 4294967296)
    (hr : res < 4294967296) :
    Fine1 fixed fixedRead h m [(out, 32 * n), (res, 4)] f (pollOneoff fixed fds m inp out n res) :=
  have t := pollOneoff_tame fixed fds m inp out n res hi ho hr
  t.quiet.fine1 (fun hf _ => pollOneoff_no_panic fixed fds m inp out n res (Or.inl hf)) (fun _ _ => t.placed)

theorem fdReadCommon_fine1 (rd : Reader) (iovs cnt res : Nat) (hi : iovs < 4294967296) (hr : res < 4294967296) :
    Fine1 fixed fixedRead h m (iovRegions m iovs cnt 0 ++ [(res, 4)]) f (fdReadCommon fixedRead rd m iovs cnt res) :=
  have k := fdReadCommon_fine fixedRead rd m iovs cnt res hi hr
  k.2.1.fine1 (fun _ _ => k.1) (fun hf _ => k.2.2 hf)

theorem writeOffsetsAndValues_fine1 (vs : List (List Nat)) (o b : Nat) (ho : o < 4294967296) (hb : b < 4294967296)
    (hvs : HostArgsOk h → vs.length * 4 < 4294967296 ∧ nulSize vs < 4294967296) :
    Fine1 fixed fixedRead h m [(o, 4 * vs.length), (b, nulSize vs)] f
      (writeOffsetsAndValues m vs o b (w32 (nulSize vs))) :=
  (writeOffsetsAndValues_quiet m vs o b _).fine1
    (fun _ ha => (writeOffsetsAndValues_fine m vs o b (hvs ha).1 (hvs ha).2 ho hb).noPanic)
    (fun _ ha => (writeOffsetsAndValues_fine m vs o b (hvs ha).1 (hvs ha).2 ho hb).placed)

end Wz.C15
