/-
What the regenerated bounds test of `wasm.MemoryInstance` says in arithmetic.  Shared by C02 (behind every
interpreter access) and C14 (the host API).
-/
import Wz.Gen.Memory

namespace Wz.Gen.Memory

/-- `hasSize off n` holds exactly when `off + n ≤ len` over the naturals (no wrap-around),
for every byte count below 2^63 (the API passes counts ≤ 2^32 or Go slice lengths). -/
theorem hasSize_iff (off : BitVec 32) (n len : BitVec 64) (hn : n.toNat < 2^63) :
    hasSize off n len = true ↔ off.toNat + n.toNat ≤ len.toNat := by
  have := off.isLt
  rw [hasSize, BitVec.ule, decide_eq_true_eq, BitVec.toNat_add, BitVec.toNat_setWidth_of_le (by decide),
    Nat.mod_eq_of_lt (by omega)]

end Wz.Gen.Memory
