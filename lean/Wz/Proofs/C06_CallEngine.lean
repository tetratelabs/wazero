/-
C06 — lemmas about the call-engine state machines (`Wz.Model.CallEngine`), as-is variant.
-/
import Wz.Model.CallEngine

namespace Wz.C06.CE
open Wz.Gen.ExitCodes Wz.Model.CallEngine

theorem ceiling_val : callStackCeiling = 50000000 := rfl

theorem growLen_asis (len req : Nat) :
    growLen false len req = if callStackCeiling < len then none else some (2 * len + req + 16) := by
  simp only [growLen, growOverflows, growNewLen, Bool.false_eq_true, if_false, decide_eq_true_eq]

theorem growLen_capped (len req : Nat) :
    growLen true len req =
      if callStackCeiling ≤ len then none else some (min (2 * len + req + 16) callStackCeiling) := by
  simp only [growLen, growNewLen, if_true]

theorem growLen_increases (c : Bool) (len req n : Nat) (h : growLen c len req = some n) : len < n := by
  cases c
  · rw [growLen_asis, Option.ite_none_left_eq_some] at h
    cases h.2
    omega
  · rw [growLen_capped, Option.ite_none_left_eq_some] at h
    cases h.2
    omega

theorem growLen_le (len req n : Nat) (h : growLen false len req = some n) :
    n ≤ 2 * callStackCeiling + req + 16 := by
  rw [growLen_asis, Option.ite_none_left_eq_some] at h
  cases h.2
  omega

/-- The stack part of the invariant (everything but `exitCode`). -/
def J (ce : CE) : Prop :=
  ce.top % 16 = 0 ∧ ce.base ≤ ce.top ∧ ce.top < ce.base + ce.len ∧ ce.required ≤ ce.len ∧ 16 ≤ ce.len ∧
    ce.base + ce.len ≤ ce.top + 16

theorem J_alloc (x base len req : Nat) (h16 : 16 ≤ len) (hreq : req ≤ len) :
    J { exitCode := x, base := base, len := len, top := alignedStackTop base len, required := req } := by
  unfold J alignedStackTop
  dsimp only
  omega

theorem J_realloc (alloc : Nat → Nat) (ce : CE) (n : Nat) (x : Nat) (h : J ce) (hn : ce.len < n) :
    J { (ce.realloc alloc n) with exitCode := x } :=
  J_alloc x (alloc n) n ce.required (by have := h.2.2.2.2.1; omega) (by have := h.2.2.2.1; omega)

theorem satisfy_succ (c : Bool) (alloc : Nat → Nat) (k : Nat) (ce : CE) (bytes : Option Nat) (req : Nat) :
    satisfy c alloc (k + 1) ce bytes req =
      if fits ce bytes then .ok ce
      else match growLen c ce.len req with
        | none => .error (.overflow, ce)
        | some n => satisfy c alloc k { (ce.realloc alloc n) with exitCode := 0 } bytes req := rfl

/-- How the growth loop can end, out of fuel (`.stuck`) not among them: a bounded demand is met, or overflow (of a
bounded demand only if it cannot fit below the ceiling). -/
def Ends (r : Except (Err × CE) CE) (ce : CE) (bytes : Option Nat) : Prop :=
  (∃ ce', r = .ok ce' ∧ J ce' ∧ (ce' = ce ∨ ce'.exitCode = 0) ∧ bytes ≠ none) ∨
  (∃ ce', r = .error (.overflow, ce') ∧ J ce' ∧ ∀ b, bytes = some b → callStackCeiling < b + 16)

theorem satisfy_stop (alloc : Nat → Nat) (k : Nat) (ce : CE) (bytes : Option Nat) (req : Nat) (hJ : J ce)
    (h : fits ce bytes = true ∨ callStackCeiling < ce.len) :
    Ends (satisfy false alloc (k + 1) ce bytes req) ce bytes := by
  rw [satisfy_succ]
  by_cases hfit : fits ce bytes = true
  · rw [if_pos hfit]
    refine Or.inl ⟨ce, rfl, hJ, Or.inl rfl, ?_⟩
    rintro rfl; cases hfit
  · have hlen := h.resolve_left hfit
    rw [if_neg hfit, growLen_asis, if_pos hlen]
    refine Or.inr ⟨ce, rfl, hJ, ?_⟩
    rintro b rfl
    have : ¬ b ≤ ce.top - ce.base := fun hb => hfit (decide_eq_true hb)
    unfold J at hJ
    omega

/-- With enough fuel (`2^k·(len+16)` beyond the ceiling) the loop never runs out of it: every round that does
not stop doubles the stack. -/
theorem satisfy_spec (alloc : Nat → Nat) (k : Nat) (ce : CE) (bytes : Option Nat) (req : Nat)
    (hJ : J ce) (hk : callStackCeiling + 16 < 2 ^ k * (ce.len + 16)) :
    Ends (satisfy false alloc (k + 1) ce bytes req) ce bytes := by
  induction k generalizing ce with
  | zero => exact satisfy_stop alloc 0 ce bytes req hJ (Or.inr (by omega))
  | succ k ih =>
    by_cases hstop : fits ce bytes = true ∨ callStackCeiling < ce.len
    · exact satisfy_stop alloc (k + 1) ce bytes req hJ hstop
    · obtain ⟨hfit, hlen⟩ := not_or.mp hstop
      rw [satisfy_succ, if_neg hfit, growLen_asis, if_neg hlen]
      have hk' : callStackCeiling + 16 < 2 ^ k * ((2 * ce.len + req + 16) + 16) :=
        Nat.lt_of_lt_of_le hk (by rw [Nat.pow_succ, Nat.mul_assoc]; exact Nat.mul_le_mul_left _ (by omega))
      rcases ih _ (J_realloc alloc ce _ 0 hJ (by omega)) hk' with ⟨ce', h, hJ', hc, hb⟩ | h
      · exact Or.inl ⟨ce', h, hJ', Or.inr (hc.elim (fun e => e ▸ rfl) id), hb⟩
      · exact Or.inr h

/-- The model's fuel: 63 doublings of even an empty stack pass the ceiling. -/
theorem satisfy_ends (alloc : Nat → Nat) (ce : CE) (bytes : Option Nat) (req : Nat) (hJ : J ce) :
    Ends (satisfy false alloc growFuel ce bytes req) ce bytes :=
  satisfy_spec alloc 63 ce bytes req hJ
    (Nat.lt_of_lt_of_le (by decide : callStackCeiling + 16 < 2 ^ 63 * 16) (Nat.mul_le_mul_left _ (Nat.le_add_left ..)))

theorem satisfy_small (alloc : Nat → Nat) (ce : CE) (b req : Nat) (hJ : J ce) (hb : b + 16 ≤ callStackCeiling) :
    ∃ ce', satisfy false alloc growFuel ce (some b) req = .ok ce' ∧ J ce' ∧ (ce' = ce ∨ ce'.exitCode = 0) := by
  rcases satisfy_ends alloc ce (some b) req hJ with ⟨ce', h, hJ', hc, _⟩ | ⟨_, _, _, hlt⟩
  · exact ⟨ce', h, hJ', hc⟩
  · exact absurd (hlt b rfl) (by omega)

theorem satisfy_unbounded (alloc : Nat → Nat) (ce : CE) (req : Nat) (hJ : J ce) :
    ∃ ce', satisfy false alloc growFuel ce none req = .error (.overflow, ce') ∧ J ce' := by
  rcases satisfy_ends alloc ce none req hJ with ⟨_, _, _, _, hb⟩ | ⟨ce', h, hJ', _⟩
  · exact absurd rfl hb
  · exact ⟨ce', h, hJ'⟩

theorem call_aligned (c : Bool) (alloc : Nat → Nat) (ce : CE) (closed : Option Nat) (evs : List Ev)
    (h : ce.top % 16 = 0) : call c alloc ce closed evs = deferred (loop c alloc evs ce closed) := by
  unfold call
  rw [h]
  rfl

/-- Native code never exits with `ExitCodeOK` (it writes a code only when it needs the Go side). -/
def NonOK (evs : List Ev) : Prop := ∀ code host, Ev.exit code host ∈ evs → actionOf code ≠ .ret

/-- Stack requests are described by `Ev.need` (the native prologue re-checks after every growth). -/
def NoRawGrow (evs : List Ev) : Prop := ∀ code host, Ev.exit code host ∈ evs → actionOf code ≠ .growStack

def Small (evs : List Ev) : Prop := ∀ b req, Ev.need (some b) req ∈ evs → b + 16 ≤ callStackCeiling

theorem actionOf_zero : actionOf 0 = .ret := by decide

theorem loop_spec (alloc : Nat → Nat) (evs : List Ev) (ce : CE) (closed : Option Nat)
    (hJ : J ce) (h0 : ce.exitCode = 0) (hn : NonOK evs) :
    J (loop false alloc evs ce closed).ce ∧
    ((loop false alloc evs ce closed).returned = none ∨ (loop false alloc evs ce closed).returned = some .overflow) ∧
    ((loop false alloc evs ce closed).recovered = none → (loop false alloc evs ce closed).returned = none →
      (loop false alloc evs ce closed).ce.exitCode = 0) := by
  induction evs generalizing ce closed with
  | nil =>
    rw [loop, h0, actionOf_zero]
    exact ⟨hJ, Or.inl rfl, fun _ _ => h0⟩
  | cons ev rest ih =>
    have hn' : NonOK rest := fun c h hm => hn c h (List.mem_cons_of_mem _ hm)
    cases ev with
    | need bytes req =>
      rw [loop]
      rcases satisfy_ends alloc ce bytes req hJ with ⟨ce', hs, hJ', hc, _⟩ | ⟨ce', hs, hJ', _⟩ <;> rw [hs]
      · exact ih ce' closed hJ' (hc.elim (fun e => e ▸ h0) id) hn'
      · exact ⟨hJ', Or.inr rfl, fun _ h => nomatch h⟩
    | exit code host =>
      -- `J` does not read `exitCode`, so `hJ` serves every engine below
      simp only [loop]
      split
      · exact absurd ‹_› (hn code host (List.mem_cons_self ..))
      · exact ⟨hJ, Or.inl rfl, fun h => nomatch h⟩
      · exact ⟨hJ, Or.inl rfl, fun h => nomatch h⟩
      · -- growStack
        split
        · exact ⟨hJ, Or.inr rfl, fun _ h => nomatch h⟩
        · exact ih _ closed (J_realloc alloc _ _ 0 hJ (growLen_increases _ _ _ _ ‹_›)) rfl hn'
      -- checkExit, resume, resumeOrPanic: a panic, or `exitCode` is reset and native code goes on
      all_goals
        split
        · exact ⟨hJ, Or.inl rfl, fun h => nomatch h⟩
        · exact ih _ _ hJ rfl hn'

/-- What a caller can observe of the loop's result. -/
def obs (r : LoopRes) : Option Err × Option Err × Option Nat := (r.recovered, r.returned, r.closed)

theorem loop_indep (a₁ a₂ : Nat → Nat) (evs : List Ev) (ce₁ ce₂ : CE) (closed : Option Nat)
    (hJ₁ : J ce₁) (hJ₂ : J ce₂) (h₁ : ce₁.exitCode = 0) (h₂ : ce₂.exitCode = 0)
    (hn : NonOK evs) (hg : NoRawGrow evs) (hs : Small evs) :
    obs (loop false a₁ evs ce₁ closed) = obs (loop false a₂ evs ce₂ closed) := by
  induction evs generalizing ce₁ ce₂ closed with
  | nil =>
    rw [loop, loop, h₁, h₂, actionOf_zero]
    rfl
  | cons ev rest ih =>
    have hn' : NonOK rest := fun c h hm => hn c h (List.mem_cons_of_mem _ hm)
    have hg' : NoRawGrow rest := fun c h hm => hg c h (List.mem_cons_of_mem _ hm)
    have hs' : Small rest := fun b r hm => hs b r (List.mem_cons_of_mem _ hm)
    cases ev with
    | need bytes req =>
      rw [loop, loop]
      cases bytes with
      | none =>
        obtain ⟨c₁, e₁, _⟩ := satisfy_unbounded a₁ ce₁ req hJ₁
        obtain ⟨c₂, e₂, _⟩ := satisfy_unbounded a₂ ce₂ req hJ₂
        rw [e₁, e₂]
        rfl
      | some b =>
        have hb := hs b req (List.mem_cons_self ..)
        obtain ⟨c₁, e₁, j₁, x₁⟩ := satisfy_small a₁ ce₁ b req hJ₁ hb
        obtain ⟨c₂, e₂, j₂, x₂⟩ := satisfy_small a₂ ce₂ b req hJ₂ hb
        rw [e₁, e₂]
        exact ih c₁ c₂ closed j₁ j₂ (x₁.elim (fun e => e ▸ h₁) id) (x₂.elim (fun e => e ▸ h₂) id) hn' hg' hs'
    | exit code host =>
      simp only [loop]
      split
      · exact absurd ‹_› (hn code host (List.mem_cons_self ..))
      · rfl
      · rfl
      · exact absurd ‹_› (hg code host (List.mem_cons_self ..))
      -- checkExit, resume, resumeOrPanic: what happens next depends on the module and the host function only
      all_goals
        split
        · rfl
        · exact ih _ _ _ hJ₁ hJ₂ rfl rfl hn' hg' hs'

end Wz.C06.CE
