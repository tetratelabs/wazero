/-
C01 (lowering), proof infrastructure: finite runs of the flat machine (`Reach`, `TrapsAt`, `RunsFor`), placement of
lowered code in the operation list (`At`, `Seg`), value typing, the drop-range arithmetic.
-/
import Wz.Model.FlatLower

namespace Wz.Proofs.FlatLower
open Wz.Spec Wz.Spec.Wasm Wz.Model.FlatLower

abbrev Cfg := Nat × List Nat

/-- `Reach code k a b`: the machine goes from `a` to `b` in exactly `k` steps (none of them traps, panics or
leaves the loop) -/
inductive Reach (code : List FlatOp) : Nat → Cfg → Cfg → Prop
  | refl (a) : Reach code 0 a a
  | cons {k pc stk op pc' stk' b} : code[pc]? = some op →
      Model.FlatLower.step op pc stk = .cont pc' stk' →
      Reach code k (pc', stk') b → Reach code (k + 1) (pc, stk) b

theorem Reach.trans {code k1 k2 a b c} (h1 : Reach code k1 a b) (h2 : Reach code k2 b c) :
    Reach code (k1 + k2) a c := by
  induction h1 with
  | refl a => simpa using h2
  | cons hop hst _ ih => exact Nat.add_right_comm _ _ _ ▸ Reach.cons hop hst (ih h2)

def TrapsAt (code : List FlatOp) (a : Cfg) (kind : String) : Prop :=
  ∃ k pc stk op, Reach code k a (pc, stk) ∧ code[pc]? = some op ∧ step op pc stk = .trap kind

def RunsFor (code : List FlatOp) (k : Nat) (a : Cfg) : Prop := ∃ b, Reach code k a b

theorem RunsFor.zero {code a} : RunsFor code 0 a := ⟨a, Reach.refl a⟩

theorem RunsFor.zero_sub {code : List FlatOp} {w : Nat} {a : Cfg} : RunsFor code (0 - w) a :=
  (Nat.zero_sub w).symm ▸ .zero

theorem Reach.prefix {code j k a b} (h : Reach code k a b) (hj : j ≤ k) : RunsFor code j a := by
  induction h generalizing j with
  | refl a => have : j = 0 := by omega
              subst this; exact .zero
  | cons hop hst _ ih =>
    cases j with
    | zero => exact .zero
    | succ j =>
      obtain ⟨b', hb'⟩ := ih (Nat.le_of_succ_le_succ hj)
      exact ⟨b', Reach.cons hop hst hb'⟩

theorem RunsFor.mono {code j k a} (h : RunsFor code k a) (hj : j ≤ k) : RunsFor code j a := by
  obtain ⟨b, hb⟩ := h; exact hb.prefix hj

theorem RunsFor.after {code j k a b} (h1 : Reach code k a b) (h2 : RunsFor code j b) : RunsFor code (k + j) a := by
  obtain ⟨c, hc⟩ := h2; exact ⟨c, h1.trans hc⟩

theorem TrapsAt.after {code k a b kind} (h1 : Reach code k a b) (h2 : TrapsAt code b kind) : TrapsAt code a kind := by
  obtain ⟨k2, pc, stk, op, hr, hop, hst⟩ := h2
  exact ⟨k + k2, pc, stk, op, h1.trans hr, hop, hst⟩

theorem runFrom_reach {code k a b} (h : Reach code k a b) (n : Nat) :
    runFrom code (k + n) a.1 a.2 = runFrom code n b.1 b.2 := by
  induction h with
  | refl a => simp
  | cons hop hst _ ih =>
    rw [Nat.add_right_comm]
    simp only [runFrom, hop, hst]
    exact ih

theorem runFrom_runsFor {code k a} (h : RunsFor code k a) : runFrom code k a.1 a.2 = .error .exhausted := by
  obtain ⟨b, hb⟩ := h
  have := runFrom_reach hb 0
  simpa [runFrom] using this

theorem Reach.runFrom_eq {code k a b r} (h : Reach code k a b) (hb : ∀ n, runFrom code (n + 1) b.1 b.2 = r) (m : Nat) :
    runFrom code m a.1 a.2 = if m ≤ k then .error .exhausted else r := by
  split
  · rename_i hm; exact runFrom_runsFor (h.prefix hm)
  · obtain ⟨n, rfl⟩ : ∃ n, m = k + (n + 1) := ⟨m - k - 1, by omega⟩
    rw [runFrom_reach h, hb]

theorem TrapsAt.runFrom_eq {code a kind} (h : TrapsAt code a kind) :
    ∃ k, ∀ m, runFrom code m a.1 a.2 = if m ≤ k then .error .exhausted else .error (.trap kind) := by
  obtain ⟨k, pc, stk, op, hr, hop, hst⟩ := h
  exact ⟨k, hr.runFrom_eq fun n => by simp only [runFrom, hop, hst]⟩

def At (sym : List SymOp) (pc : Nat) (ops : List SymOp) : Prop :=
  ∃ pre post, sym = pre ++ ops ++ post ∧ pre.length = pc

theorem At.lt {sym pc o rest} (h : At sym pc (o :: rest)) : pc < sym.length := by
  obtain ⟨pre, post, rfl, hl⟩ := h
  subst hl
  simp

/-- Lowered code is addressed through segments whose end points are variables: the positions inside a concatenation
come from `Seg.append`, they are never computed. -/
def Seg (sym : List SymOp) (pc : Nat) (ops : List SymOp) (pc' : Nat) : Prop :=
  At sym pc ops ∧ pc' = pc + ops.length

theorem Seg.whole (sym : List SymOp) : Seg sym 0 sym sym.length :=
  ⟨⟨[], [], by simp, rfl⟩, by simp⟩

theorem Seg.append {sym pc a b pc'} (h : Seg sym pc (a ++ b) pc') : ∃ mid, Seg sym pc a mid ∧ Seg sym mid b pc' := by
  obtain ⟨⟨pre, post, rfl, hl⟩, rfl⟩ := h
  exact ⟨pc + a.length, ⟨⟨pre, b ++ post, by simp, hl⟩, rfl⟩,
    ⟨⟨pre ++ a, post, by simp, by simp [hl]⟩, by simp; omega⟩⟩

theorem Seg.nil {sym pc pc'} (h : Seg sym pc [] pc') : pc' = pc := h.2

theorem Seg.cons {sym pc o rest pc'} (h : Seg sym pc (o :: rest) pc') : sym[pc]? = some o ∧ Seg sym (pc + 1) rest pc' := by
  obtain ⟨⟨pre, post, rfl, rfl⟩, rfl⟩ := h
  exact ⟨by simp, ⟨pre ++ [o], post, by simp, by simp⟩, by simp; omega⟩

theorem resolve_get {sym : List SymOp} {pc : Nat} {o : SymOp} (h : sym[pc]? = some o) :
    (resolve sym)[pc]? = some (Op.mapT (resolveT sym) o) := by
  simp [resolve, h]

theorem resolve_length (sym : List SymOp) : (resolve sym).length = sym.length := by simp [resolve]

def ValsOK : List Ty → List Nat → Prop
  | [], [] => True
  | t :: ts, v :: vs => v < 2 ^ t.bits ∧ ValsOK ts vs
  | _, _ => False

@[simp] theorem ValsOK_nil : ValsOK [] [] := trivial
@[simp] theorem ValsOK_cons {t ts v vs} : ValsOK (t :: ts) (v :: vs) ↔ v < 2 ^ t.bits ∧ ValsOK ts vs := Iff.rfl

theorem ValsOK.nil_left {vs} (h : ValsOK [] vs) : vs = [] := by
  cases vs <;> simp_all [ValsOK]

theorem ValsOK.cons_left {t ts vs} (h : ValsOK (t :: ts) vs) : ∃ v vs', vs = v :: vs' ∧ v < 2 ^ t.bits ∧ ValsOK ts vs' := by
  cases vs with
  | nil => simp [ValsOK] at h
  | cons v vs' => exact ⟨v, vs', rfl, h.1, h.2⟩

theorem ValsOK.length {ts vs} (h : ValsOK ts vs) : vs.length = ts.length := by
  induction ts generalizing vs with
  | nil => cases h.nil_left; rfl
  | cons t ts ih => obtain ⟨v, vs', rfl, -, hvs⟩ := h.cons_left; simp [ih hvs]

theorem ValsOK.append {a b va vb} (h1 : ValsOK a va) (h2 : ValsOK b vb) : ValsOK (a ++ b) (va ++ vb) := by
  induction a generalizing va with
  | nil => rw [h1.nil_left]; simpa using h2
  | cons t ts ih =>
    obtain ⟨v, vs', rfl, hv, hvs⟩ := h1.cons_left
    exact ⟨hv, ih hvs⟩

theorem ValsOK.split {a b vs} (h : ValsOK (a ++ b) vs) : ∃ va vb, vs = va ++ vb ∧ ValsOK a va ∧ ValsOK b vb := by
  induction a generalizing vs with
  | nil => exact ⟨[], vs, rfl, trivial, by simpa using h⟩
  | cons t ts ih =>
    obtain ⟨v, vs', rfl, hv, hvs⟩ := ValsOK.cons_left (by simpa using h)
    obtain ⟨va, vb, rfl, h1, h2⟩ := ih hvs
    exact ⟨v :: va, vb, rfl, ⟨hv, h1⟩, h2⟩

theorem ValsOK.get {ts : List Ty} {vs : List Nat} {i : Nat} {t : Ty} (h : ValsOK ts vs) (ht : ts[i]? = some t) :
    ∃ v, vs[i]? = some v ∧ v < 2 ^ t.bits := by
  induction ts generalizing vs i with
  | nil => simp at ht
  | cons t0 ts ih =>
    obtain ⟨v, vs', rfl, hv, hvs⟩ := h.cons_left
    cases i with
    | zero => simp at ht; subst ht; exact ⟨v, rfl, hv⟩
    | succ i => simpa using ih hvs (by simpa using ht)

theorem ValsOK.set {ts : List Ty} {vs : List Nat} {i : Nat} {t : Ty} {v : Nat} (h : ValsOK ts vs) (ht : ts[i]? = some t)
    (hv : v < 2 ^ t.bits) : ValsOK ts (vs.set i v) := by
  induction ts generalizing vs i with
  | nil => simp at ht
  | cons t0 ts ih =>
    obtain ⟨v0, vs', rfl, hv0, hvs⟩ := h.cons_left
    cases i with
    | zero => simp at ht; subst ht; exact ⟨hv, hvs⟩
    | succ i => exact ⟨hv0, ih hvs (by simpa using ht)⟩

theorem ValsOK.replicate_zero (ts : List Ty) : ValsOK ts (ts.map (fun _ => 0)) := by
  induction ts with
  | nil => trivial
  | cons t ts ih => exact ⟨Nat.pow_pos (by decide), ih⟩

theorem hasPrefix_iff {want st : List Ty} : hasPrefix want st = true ↔ ∃ rest, st = want ++ rest := by
  rw [hasPrefix, beq_iff_eq, eq_comm, ← List.prefix_iff_eq_take]
  exact exists_congr fun _ => eq_comm

/-- what the drop range of a branch leaves of the flat stack -/
def keepTop (a orig : Nat) (stk : List Nat) : List Nat := stk.take a ++ stk.drop (stk.length - orig)

theorem applyDrop_dropRange {F : Fr} {isEnd : Bool} {stk : List Nat} {a : Nat}
    (ha : (if !isEnd && F.kind == .loop then 0 else F.res) = a) (hle : a + F.orig ≤ stk.length) :
    applyDrop (dropRange F isEnd stk.length) stk = some (keepTop a F.orig stk) := by
  unfold dropRange
  simp only [ha]
  split
  · rename_i h
    simp only [applyDrop]
    rw [if_pos (by omega)]
    unfold keepTop
    congr 3; omega
  · rename_i h
    have : a + F.orig = stk.length := by omega
    simp only [applyDrop, keepTop]
    congr 1
    rw [show stk.length - F.orig = a by omega, List.take_append_drop]

/-- number of operands of a branch to the frame -/
def brArity (F : Fr) : Nat := if F.kind = .loop then 0 else F.res

theorem applyDrop_br {F : Fr} {stk : List Nat} (hle : brArity F + F.orig ≤ stk.length) :
    applyDrop (dropRange F false stk.length) stk = some (keepTop (brArity F) F.orig stk) := by
  apply applyDrop_dropRange _ hle
  unfold brArity
  cases F.kind <;> simp

theorem emitDrop_none {τ} : emitDrop (τ := τ) none = [] := rfl

end Wz.Proofs.FlatLower
