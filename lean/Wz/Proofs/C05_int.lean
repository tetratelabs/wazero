/- Helper lemmas for C05 (integer instructions): relate Go/BitVec primitives to the specification. -/
import Wz.Gen.InterpNum
import Wz.Proofs.Spec_Int

namespace Wz.C05
open Wz.Spec Wz.Go Wz.Proofs.SpecInt

theorem clzAux_eq {n} (a : BitVec n) (k : Nat) : Wz.Go.clzAux a k = Int.clzAux a k := by
  induction k with
  | zero => rfl
  | succ k ih => simp [Wz.Go.clzAux, Int.clzAux, ih]
theorem ctzAux_eq {n} (a : BitVec n) (i k : Nat) : Wz.Go.ctzAux a i k = Int.ctzAux a i k := by
  induction k generalizing i with
  | zero => rfl
  | succ k ih => simp [Wz.Go.ctzAux, Int.ctzAux, ih]
theorem popAux_eq {n} (a : BitVec n) (k : Nat) : Wz.Go.popAux a k = Int.popAux a k := by
  induction k with
  | zero => rfl
  | succ k ih => simp [Wz.Go.popAux, Int.popAux, ih]
/-- Go masks a shift count with `% w`; the specification takes the count modulo the width -/
theorem toNat_mod_width {w : Nat} (b : BitVec w) : (b % BitVec.ofNat w w).toNat = b.toNat % w := by
  rw [BitVec.toNat_umod, BitVec.toNat_ofNat, Nat.mod_eq_of_lt Nat.lt_two_pow_self]

theorem rotateLeft_neg {w : Nat} (hw : 0 < w) (x : BitVec w) (r : Nat) :
    x.rotateLeft ((w - r % w) % w) = x.rotateRight r := by
  rw [BitVec.rotateLeft_mod_eq_rotateLeft, BitVec.rotateLeft_def, BitVec.rotateRight_def, BitVec.or_comm]
  by_cases h0 : r % w = 0
  · simp [h0, BitVec.ushiftRight_eq_zero]
  · rw [Nat.mod_eq_of_lt (Nat.sub_lt hw (Nat.pos_of_ne_zero h0)), Nat.sub_sub_self (Nat.le_of_lt (Nat.mod_lt r hw))]

theorem toNat_neg_mod (k : BitVec 64) (j : Nat) (hj : j ≤ 64) :
    (-k).toNat % 2 ^ j = (2 ^ j - k.toNat % 2 ^ j) % 2 ^ j := by
  rw [← BitVec.toNat_setWidth, BitVec.setWidth_neg_of_le hj, BitVec.toNat_neg, BitVec.toNat_setWidth]

/-- Go rotates right by rotating left by the negated count (an `int`); sound for the widths 2^j that divide 2^64 -/
theorem rotateLeft_neg_count {w : Nat} (x : BitVec w) (k : BitVec 64) (j : Nat) (hw : w = 2 ^ j) (hj : j ≤ 64) :
    x.rotateLeft ((-k).toNat % w) = x.rotateRight (k.toNat % w) := by
  subst hw
  rw [toNat_neg_mod k j hj, rotateLeft_neg (Nat.two_pow_pos j), BitVec.rotateRight_mod_eq_rotateRight]

end Wz.C05
