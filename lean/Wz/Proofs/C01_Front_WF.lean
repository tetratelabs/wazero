/-
C01 (front end): a function of ONE basic block without branches (`sb ps is`: any parameters, any instructions;
nothing here mentions the front end), whose values are defined once and before their uses (`Scoped`), with the little
typing the shift rule needs (`ShiftTyped`), is `wellFormed` in the sense of `SsaPass` (`wellFormed_sb`).  The certificate
is the one `computeCert` computes.
-/
import Wz.Proofs.C01_SsaPass_Basic

namespace Wz.Proofs.Front
open Wz.Model.SsaPass

theorem assocD_mem {α} {l : List (Nat × α)} {d : α} {k : Nat} {a : α} (hnd : (l.map (·.1)).Nodup)
    (h : (k, a) ∈ l) : assocD l d k = a := by
  induction l with
  | nil => cases h
  | cons e rest ih =>
    obtain ⟨k', a'⟩ := e
    simp only [List.map_cons, List.nodup_cons] at hnd
    simp only [assocD]
    rcases List.mem_cons.mp h with h | h
    · cases h; simp
    · have hk : k ∈ rest.map (·.1) := List.mem_map.mpr ⟨(k, a), h, rfl⟩
      have : k' ≠ k := fun e => hnd.1 (e ▸ hk)
      rw [if_neg this]
      exact ih hnd.2 h

def sb (ps : List (Val × Ty)) (is : List Instr) : Func :=
  { blocks := [⟨0, 0, false, ps, is⟩], alias := [] }

variable {ps : List (Val × Ty)} {is : List Instr}

theorem succs_nil (h : ∀ i ∈ is, i.branch? = none) : (Block.mk 0 0 false ps is).succs = [] := by
  simp only [Block.succs]
  apply List.filterMap_eq_nil_iff.mpr
  intro i hi
  simp [h i hi]

theorem sortedSuccs_nil (h : ∀ i ∈ is, i.branch? = none) :
    (sb ps is).sortedSuccs (Block.mk 0 0 false ps is) = [] := by
  simp only [Func.sortedSuccs, succs_nil h, List.foldl_nil]

theorem blockAny_sb : (sb ps is).blockAny 0 = some (Block.mk 0 0 false ps is) := by
  simp [Func.blockAny, sb]

theorem findBlock_sb : (sb ps is).findBlock 0 = some (Block.mk 0 0 false ps is) := by
  simp [Func.findBlock, sb]

theorem reachLoop_sb (h : ∀ i ∈ is, i.branch? = none) (m : Nat) :
    reachLoop (sb ps is) (m + 2) [0] [] = some [0] := by
  simp [reachLoop, blockAny_sb, sortedSuccs_nil h]

theorem deadBlockElim_sb (h : ∀ i ∈ is, i.branch? = none) : deadBlockElim (sb ps is) = sb ps is := by
  have hr : reachable (sb ps is) = some [0] := reachLoop_sb h _
  simp only [deadBlockElim, hr]
  simp [sb]

theorem rpo_sb (h : ∀ i ∈ is, i.branch? = none) : rpo (sb ps is) = [0] := by
  have : ∀ m, rpoLoop (sb ps is) (m + 3) [0] [0] [] [] = [0] := by
    intro m
    simp [rpoLoop, findBlock_sb, sortedSuccs_nil h, List.eraseDups]
  exact this _

/-- the ranks `computeCert` gives on `sb ps is` (`cert_rank`) -/
def sbRanks (ps : List (Val × Ty)) (is : List Instr) : List (Nat × Nat) :=
  ps.map (fun p => (p.1, 0)) ++ (is.zipIdx).flatMap (fun x => x.1.results.map (fun r => (r, x.2 + 1)))

/-- the types `computeCert` gives on `sb ps is` (`cert_cty`) -/
def sbTys (ps : List (Val × Ty)) (is : List Instr) : List (Nat × Ty) := ps ++ is.flatMap (·.typedResults)

theorem validBlocks_sb : (sb ps is).validBlocks = [Block.mk 0 0 false ps is] := by
  simp [Func.validBlocks, sb]

theorem cert_M : (computeCert (sb ps is)).M = is.length + 2 := by
  simp [computeCert, validBlocks_sb]

theorem cert_bidx (h : ∀ i ∈ is, i.branch? = none) : (computeCert (sb ps is)).bidx 0 = 0 := by
  simp [computeCert, rpo_sb h, indexOfD]

theorem cert_avail : (computeCert (sb ps is)).avail 0 = [] := by
  simp [computeCert, Func.entry, sb]

theorem cert_pdefs : (computeCert (sb ps is)).pdefs 0 = ps.map (·.1) := by
  simp [computeCert, findBlock_sb]

theorem cert_rank (h : ∀ i ∈ is, i.branch? = none) :
    (computeCert (sb ps is)).rank = assocD (sbRanks ps is) 0 := by
  simp [computeCert, validBlocks_sb, rpo_sb h, indexOfD, sbRanks]

theorem cert_cty : (computeCert (sb ps is)).cty = assocD (sbTys ps is) .i64 := by
  simp [computeCert, validBlocks_sb, sbTys]

theorem flatMap_typed_fst (l : List Instr) : (l.flatMap (·.typedResults)).map (·.1) = l.flatMap (·.results) := by
  induction l with
  | nil => rfl
  | cons i l ih => simp only [List.flatMap_cons, List.map_append, typedResults_fst, ih]

theorem sbTys_keys : (sbTys ps is).map (·.1) = ps.map (·.1) ++ is.flatMap (·.results) := by
  simp only [sbTys, List.map_append, flatMap_typed_fst]

theorem sbRanks_keys : (sbRanks ps is).map (·.1) = ps.map (·.1) ++ is.flatMap (·.results) := by
  simp only [sbRanks, List.map_append, List.map_map]
  congr 1
  generalize 0 = k
  induction is generalizing k with
  | nil => rfl
  | cons i l ih =>
    simp only [List.zipIdx_cons, List.flatMap_cons, List.map_append, List.map_map, ih]
    congr 1
    exact List.map_id'' (fun _ => rfl) _

/-- the one typed rule of `wellFormed` -/
def ShiftTyped (D : List (Val × Ty)) : Instr → Prop
  | .bin op _ ty x _ => isShift op → (x, ty) ∈ D
  | _ => True

def Scoped : List (Val × Ty) → List Instr → Prop
  | _, [] => True
  | D, i :: is => (∀ o ∈ i.operands, o ∈ D.map (·.1)) ∧ ShiftTyped D i ∧ Scoped (D ++ i.typedResults) is

theorem rank_param (hbr : ∀ i ∈ is, i.branch? = none)
    (hnd : (ps.map (·.1) ++ is.flatMap (·.results)).Nodup) {q : Val} (hq : q ∈ ps.map (·.1)) :
    (computeCert (sb ps is)).rank q = 0 := by
  rw [cert_rank hbr]
  obtain ⟨p, hp, rfl⟩ := List.mem_map.mp hq
  exact assocD_mem (by rw [sbRanks_keys]; exact hnd)
    (List.mem_append_left _ (List.mem_map.mpr ⟨p, hp, rfl⟩))

theorem rank_result (hbr : ∀ i ∈ is, i.branch? = none)
    (hnd : (ps.map (·.1) ++ is.flatMap (·.results)).Nodup) {i : Instr} {k : Nat} (hk : is[k]? = some i)
    {r : Val} (hr : r ∈ i.results) : (computeCert (sb ps is)).rank r = k + 1 := by
  rw [cert_rank hbr]
  refine assocD_mem (by rw [sbRanks_keys]; exact hnd) (List.mem_append_right _ ?_)
  refine List.mem_flatMap.mpr ⟨(i, k), List.mem_zipIdx_iff_getElem?.mpr hk, ?_⟩
  exact List.mem_map.mpr ⟨r, hr, rfl⟩

theorem cty_mem (hnd : (ps.map (·.1) ++ is.flatMap (·.results)).Nodup) {p : Val × Ty} (hp : p ∈ sbTys ps is) :
    (computeCert (sb ps is)).cty p.1 = p.2 := by
  rw [cert_cty]
  exact assocD_mem (by rw [sbTys_keys]; exact hnd) hp

theorem bodyOK_suffix (hbr : ∀ i ∈ is, i.branch? = none)
    (hnd : (ps.map (·.1) ++ is.flatMap (·.results)).Nodup) :
    ∀ (suf pre : List Instr), is = pre ++ suf → Scoped (ps ++ pre.flatMap (·.typedResults)) suf →
      BodyOK (computeCert (sb ps is)) (sb ps is) (Block.mk 0 0 false ps is)
        (ps.map (·.1) ++ pre.flatMap (·.results)) suf := by
  intro suf
  induction suf with
  | nil => intro _ _ _; trivial
  | cons i suf ih =>
    intro pre his hsc
    obtain ⟨hops, hshift, hrest⟩ := hsc
    have hik : is[pre.length]? = some i := by rw [his, List.getElem?_append_right (Nat.le_refl _), Nat.sub_self]; rfl
    have hklt : pre.length < is.length := (List.getElem?_eq_some_iff.mp hik).1
    have hD : (ps ++ pre.flatMap (·.typedResults)).map (·.1) = ps.map (·.1) ++ pre.flatMap (·.results) := by
      rw [List.map_append, flatMap_typed_fst]
    have hsub : ∀ p, p ∈ ps ++ pre.flatMap (·.typedResults) → p ∈ sbTys ps is := by
      intro p hp
      rcases List.mem_append.mp hp with hp | hp
      · exact List.mem_append_left _ hp
      · refine List.mem_append_right _ ?_
        rw [his, List.flatMap_append]
        exact List.mem_append_left _ hp
    refine ⟨⟨?_, ?_, ?_, ?_, ?_, ?_⟩, ?_⟩
    · intro o ho
      exact ⟨o, hD ▸ hops o ho, rfl⟩
    · intro r _; exact .inl rfl
    · intro r hr
      rw [rank_result hbr hnd hik hr]
      refine ⟨?_, ?_⟩
      · intro v hv
        rcases List.mem_append.mp hv with hv | hv
        · rw [rank_param hbr hnd hv]; omega
        · obtain ⟨j, hj, hvj⟩ := List.mem_flatMap.mp hv
          obtain ⟨k', hk', hjk⟩ := List.getElem_of_mem hj
          have : is[k']? = some j := by
            rw [his, List.getElem?_append_left hk', List.getElem?_eq_getElem hk', hjk]
          rw [rank_result hbr hnd this hvj]; omega
      · rw [cert_bidx hbr, cert_M]; omega
    · intro p hp
      refine cty_mem hnd (List.mem_append_right _ ?_)
      rw [his, List.flatMap_append, List.flatMap_cons]
      exact List.mem_append_right _ (List.mem_append_left _ hp)
    · cases i <;> try trivial
      rename_i op r ty x y
      intro hs
      exact cty_mem hnd (p := (x, ty)) (hsub _ (hshift hs))
    · rw [hbr i (his ▸ List.mem_append_right _ (List.mem_cons_self ..))]; trivial
    · have := ih (pre ++ [i]) (his.trans (List.append_cons ..))
        (by rw [List.flatMap_append, List.flatMap_singleton, ← List.append_assoc]; exact hrest)
      rwa [List.flatMap_append, List.flatMap_singleton, ← List.append_assoc] at this

theorem wf_sb (hbr : ∀ i ∈ is, i.branch? = none)
    (hnd : (ps.map (·.1) ++ is.flatMap (·.results)).Nodup) (hsc : Scoped ps is) :
    WF (computeCert (sb ps is)) (sb ps is) := by
  have hblk : ∀ B ∈ (sb ps is).blocks, B = Block.mk 0 0 false ps is := fun B hB => List.mem_singleton.mp hB
  have hpd : ∀ {q}, q ∈ (computeCert (sb ps is)).pdefs 0 ↔ q ∈ ps.map (·.1) := by rw [cert_pdefs]
  refine
    { ids := by simp [UniqueIds, sb]
      nf := nofun
      alRank := nofun
      alTy := nofun
      constKey := fun i _ => by cases i <;> simp [ConstNoKey, sb, aliasGet]
      uniq := by simpa [Func.allDefs, sb] using hnd
      entryAvail := cert_avail
      entryGhost := fun B hB _ q hq => by cases hblk B hB; exact hpd.mp hq
      Mpos := by rw [cert_M]; omega
      blocks := fun B hB _ => ?_ }
  cases hblk B hB
  refine ⟨fun p hp => ⟨hpd.mpr (List.mem_map_of_mem hp), cty_mem hnd (List.mem_append_left _ hp), rfl⟩,
    fun q hq => ?_, fun q hq hq2 => absurd (hpd.mp hq) hq2, fun v hv => ?_, ?_, fun hne => absurd rfl hne⟩
  · show _ = (computeCert (sb ps is)).bidx 0 * _
    rw [rank_param hbr hnd (hpd.mp hq), cert_bidx hbr, Nat.zero_mul]
  · rw [show (computeCert (sb ps is)).avail (Block.mk 0 0 false ps is).id = [] from cert_avail] at hv; cases hv
  · show BodyOK _ _ _ ((computeCert (sb ps is)).avail 0 ++ (computeCert (sb ps is)).pdefs 0) is
    rw [cert_avail, cert_pdefs]
    have := bodyOK_suffix hbr hnd is [] rfl (by rwa [List.flatMap_nil, List.append_nil])
    rwa [List.flatMap_nil, List.append_nil] at this

theorem wellFormed_sb (hbr : ∀ i ∈ is, i.branch? = none)
    (hnd : (ps.map (·.1) ++ is.flatMap (·.results)).Nodup) (hsc : Scoped ps is) :
    wellFormed (sb ps is) = true := by
  simp only [wellFormed, deadBlockElim_sb hbr, decide_eq_true_eq]
  exact wf_sb hbr hnd hsc

end Wz.Proofs.Front
