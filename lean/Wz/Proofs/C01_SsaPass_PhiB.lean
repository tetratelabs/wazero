import Wz.Proofs.C01_SsaPass_PhiA
import Wz.Proofs.C01_SsaPass_Inv

/-! Removing one redundant block parameter (`removeParam`) preserves the semantics of a well-formed function, and
well-formedness: the parameter becomes an alias of its unique incoming value (`AliasStep.run`), then nothing reads it
(`run_dropParam`). -/
namespace Wz.Model.SsaPass

/-- every (resolved) incoming value of the parameter is the parameter itself or the unique value -/
def Redundant (f : Func) (b : BlockId) (idx : Nat) (p u : Val) : Prop :=
  ∀ a ∈ f.branchArgs b idx, a = p ∨ a = res f.alias u

theorem mem_branchArgs_iff {f : Func} {b : BlockId} {idx : Nat} {a : Val} :
    a ∈ f.branchArgs b idx ↔
      ∃ i ∈ f.allInstrs, ∃ as x, i.branch? = some (b, as) ∧ as[idx]? = some x ∧ res f.alias x = a := by
  simp only [Func.branchArgs, List.mem_filterMap]
  constructor
  · rintro ⟨i, hi, hsome⟩
    split at hsome
    · rename_i t as hbr
      split at hsome
      · rename_i ht
        obtain ⟨x, hx, rfl⟩ := Option.map_eq_some_iff.mp hsome
        exact ⟨i, hi, as, x, ht ▸ hbr, hx, rfl⟩
      · cases hsome
    · cases hsome
  · rintro ⟨i, hi, as, x, hbr, hx, rfl⟩
    exact ⟨i, hi, by simp [hbr, hx]⟩

structure ParamStep (c : Cert) (f : Func) (b : BlockId) (idx : Nat) (p u : Val) (pty : Ty) (B0 : Block) : Prop where
  wf : WF c f
  block : f.findBlock b = some B0
  notEntry : b ≠ f.entry
  param : B0.params[idx]? = some (p, pty)
  red : Redundant f b idx p u

section step
variable {c : Cert} {f : Func} {b : BlockId} {idx : Nat} {p u : Val} {pty : Ty} {B0 : Block}
  (h : ParamStep c f b idx p u pty B0)
include h

theorem ParamStep.B0_mem : B0 ∈ f.blocks := (findBlock_mem h.block).1

theorem ParamStep.B0_id : B0.id = b := (findBlock_mem h.block).2.1

theorem ParamStep.B0_valid : B0.invalid = false := (findBlock_mem h.block).2.2

theorem ParamStep.B0_ok : BlockOK c f B0 := h.wf.blocks B0 h.B0_mem h.B0_valid

theorem ParamStep.p_mem : p ∈ B0.params.map (·.1) :=
  List.mem_map_of_mem (f := (·.1)) (List.mem_of_getElem? h.param)

theorem ParamStep.p_idx : (B0.params.map (·.1))[idx]? = some p := by
  rw [List.getElem?_map, h.param]; rfl

theorem ParamStep.p_not_result {i : Instr} (hi : i ∈ f.allInstrs) : p ∉ i.results :=
  param_not_result h.wf.uniq h.B0_mem h.p_mem hi

theorem ParamStep.rp_params_B0 : (rpBlock b idx B0).params = B0.params.eraseIdx idx := by
  simp [rpBlock, h.B0_id, h.B0_valid]

/-- Among the blocks of `f`, the removal takes `p` from the parameters and nothing else: `p` is defined once. -/
theorem ParamStep.rp_params_iff {B : Block} (hB : B ∈ f.blocks) {q : Val} :
    q ∈ (rpBlock b idx B).params.map (·.1) ↔ q ∈ B.params.map (·.1) ∧ q ≠ p := by
  by_cases hBB : B = B0
  · -- in `B0`, `p` sits at the index `idx` only
    subst hBB
    rw [h.rp_params_B0, map_eraseIdx]
    exact mem_eraseIdx_nodup (params_nodup h.wf.uniq hB) h.p_idx
  · -- another block keeps its parameters, and `p` is not among them
    rw [rpBlock_params_of_ne fun e => hBB (block_eq_of_id h.wf.ids hB h.B0_mem (e.trans h.B0_id.symm))]
    exact ⟨fun hq => ⟨hq, fun e => hBB (param_block_unique h.wf.uniq hB h.B0_mem hq (e ▸ h.p_mem))⟩, And.left⟩

/-- what a branch to `b` in a valid block passes for the parameter -/
theorem ParamStep.branch_arg {B : Block} (hB : B ∈ f.blocks) {V : List Val} {i : Instr} (hiB : i ∈ B.instrs)
    (hok : InstrOK c f B V i) {as : List Val} (hbr : i.branch? = some (b, as)) :
    as.length = B0.params.length ∧ ∃ a, as[idx]? = some a ∧ (res f.alias a = p ∨ res f.alias a = res f.alias u) ∧
      (∃ v ∈ V, res f.alias a = res f.alias v) ∧ c.cty a = pty := by
  obtain ⟨T, hT, hlen, _, htys, _⟩ := hok.branch hbr
  obtain rfl := findBlock_unique h.block hT
  have hidx : idx < as.length := hlen ▸ lt_length_of_getElem? h.param
  have ha : as[idx]? = some as[idx] := List.getElem?_eq_getElem hidx
  exact ⟨hlen, as[idx], ha, h.red _ (mem_branchArgs_iff.mpr ⟨i, mem_allInstrs.mpr ⟨B, hB, hiB⟩, as, _, hbr, ha, rfl⟩),
    hok.operands _ (branch_args_operands hbr _ (List.mem_of_getElem? ha)),
    htys (as[idx], (p, pty)) (List.mem_of_getElem? (List.getElem?_zip_eq_some.mpr ⟨ha, h.param⟩))⟩

/-- The unique value lies below the parameter: the predecessor of `b` that comes earlier in the order cannot pass
the parameter itself, so it passes the unique value, which resolves like something available there. -/
theorem ParamStep.aliasStep : AliasStep c f p u := by
  have hok0 := h.B0_ok
  obtain rfl := h.B0_id
  -- `p` sits at the lower end of the band of its block
  obtain ⟨hpd, hpty, hpkey⟩ := hok0.param (p, pty) (List.mem_of_getElem? h.param)
  have hrkp := hok0.pdefRank p hpd
  have hu : c.rank (res f.alias u) < c.rank p ∧ c.cty (res f.alias u) = pty := by
    obtain ⟨P, hP, hPv, hlt, i, hiP, hbr⟩ := hok0.pred h.notEntry
    obtain ⟨⟨t', as⟩, hbr', rfl⟩ := Option.map_eq_some_iff.mp hbr
    obtain ⟨V, hok, hVb⟩ := h.wf.instrOK hP hPv hiP
    obtain ⟨_, a, ha, hcase, ⟨v, hv, hav⟩, hcty⟩ := h.branch_arg hP hiP hok hbr'
    have hvb := hVb v hv
    have hle : (c.bidx P.id + 1) * c.M ≤ c.bidx B0.id * c.M := Nat.mul_le_mul_right _ hlt
    have hrv := rank_res_le h.wf.alRank v
    rcases hcase with hp | hu
    · rw [hav] at hp; rw [hp] at hrv; omega
    · exact ⟨by rw [← hu, hav]; omega, by rw [← hu, cty_res h.wf.alTy a]; exact hcty⟩
  exact ⟨h.wf, hpkey, hu.1, hpty.trans hu.2.symm, fun _ _ hc => h.p_not_result hc (List.mem_singleton_self p)⟩

theorem ParamStep.run (w : World) (args : List Nat) (fuel : Nat) :
    run w (removeParam f b idx p u) args fuel = run w f args fuel := by
  have hst := h.aliasStep
  have hB0 : ∀ {T : Block}, T ∈ f.blocks → p ∈ T.params.map (·.1) → T = B0 := fun hTm hp =>
    param_block_unique h.wf.uniq hTm h.B0_mem hp h.p_mem
  refine (run_dropParam w { f with alias := aliasInsert f.alias p u } b idx p h.block ⟨pty, h.param⟩ h.notEntry
    (fun v => ?_) (fun B hB hBv i hiB as hbr => ?_) args fuel).trans
    (hst.run w (fun B hB i hiB _ _ _ _ hr => absurd hr (h.p_not_result (mem_allInstrs.mpr ⟨B, hB, hiB⟩)))
      (fun t T hT hp B hB i hiB V st as hok hinv hbr => ?_) (fun T hT hp => ?_) args fuel)
  · -- after the alias step nothing resolves to `p`
    show res (aliasInsert f.alias p u) v ≠ p
    rw [hst.res_new]
    split
    · exact hst.ne
    · assumption
  · -- a branch to `b` passes as many arguments as `B0` has parameters
    obtain ⟨V, hok, _⟩ := h.wf.instrOK hB hBv hiB
    exact (h.branch_arg hB hiB hok hbr).1
  · -- the branch passes for `p` a value of its type that resolves to `p` or to what `u` resolves to
    obtain ⟨hTm, hTid, _⟩ := findBlock_mem hT
    obtain rfl := hB0 hTm hp
    obtain ⟨_, a, ha, hcase, ⟨v, hv, hav⟩, hcty⟩ := h.branch_arg hB hiB hok (hTid.symm.trans h.B0_id ▸ hbr)
    have hlt := hinv.ty (res f.alias a)
    rw [cty_res h.wf.alTy a, hcty] at hlt
    rw [bindVals_at T.params idx _ st.env (p, pty) (params_nodup h.wf.uniq hTm) h.param, List.getElem?_map, ha,
      Option.map_some, Option.getD_some, norm_of_lt hlt]
    rcases hcase with hp | hu
    · rw [hp]; exact (hinv.post v hv).1 (hav ▸ hp)
    · rw [hu]
  · -- `p` is no parameter of the entry block
    obtain ⟨hTm, hTid, _⟩ := findBlock_mem hT
    exact h.notEntry (h.B0_id.symm.trans (hB0 hTm hp ▸ hTid))

private theorem ParamStep.instrOK_rp {B : Block} (hB : B ∈ f.blocks) {V : List Val} {i : Instr} (hiB : i ∈ B.instrs)
    (hok : InstrOK c f B V i) : InstrOK c (removeParam f b idx p u) (rpBlock b idx B) V (i.dropArg b idx) := by
  have hst := h.aliasStep
  -- first the new alias (`p` is not a result), then the dropped argument
  have hok1 : InstrOK c { f with alias := aliasInsert f.alias p u } B V i :=
    hst.instrOK hok (fun hr => absurd hr (h.p_not_result (mem_allInstrs.mpr ⟨B, hB, hiB⟩)))
  rw [dropArg_eq]
  refine ⟨fun o ho => hok1.operands o ((setBranchArgs_operands_sub (argsWithout_sublist b idx)).subset ho), ?_, ?_,
    ?_, ?_, ?_⟩
  · rw [setBranchArgs_results]; exact hok1.results
  · rw [setBranchArgs_results]; exact hok.rank
  · rw [setBranchArgs_typedResults]; exact hok.typed
  · -- an instruction with a shift clause is no branch
    cases i <;> exact hok.shiftClause
  · rw [← dropArg_eq, dropArg_branch]
    cases hbr : i.branch? with
    | none => trivial
    | some q =>
      obtain ⟨t', as⟩ := q
      obtain ⟨T, hT, hlen, hav, htys, hrem⟩ := hok1.branch hbr
      obtain ⟨hTm, hTid, hTv⟩ := findBlock_mem hT
      simp only [Option.map_some, findBlock_removeParam, show f.findBlock t' = some T from hT]
      by_cases hb : t' = b
      · subst hb
        obtain rfl := findBlock_unique h.block hT
        rw [h.rp_params_B0]
        simp only [if_true]
        refine ⟨length_eraseIdx_eq idx hlen, hav,
          fun pr hpr => htys pr (List.mem_of_mem_eraseIdx (zip_eraseIdx .. ▸ hpr)), fun q hq hqn => ?_⟩
        by_cases hqp : p = q
        · -- the parameter that is removed now: `p` and the argument both resolve to what `u` resolves to
          subst hqp
          obtain ⟨_, a, ha, hcase, ⟨v, hv, hav'⟩, _⟩ := h.branch_arg hB hiB hok hbr
          refine ⟨v, hv, ?_⟩
          show res (aliasInsert f.alias p u) p = res (aliasInsert f.alias p u) v
          rw [hst.res_new, hst.res_new, res_of_none hst.key, if_pos rfl, ← hav']
          rcases hcase with hp | hu
          · rw [if_pos hp]
          · rw [hu, if_neg hst.ne]
        · exact hrem q hq fun hqT => hqn (h.rp_params_B0 ▸ (h.rp_params_iff hTm).mpr ⟨hqT, Ne.symm hqp⟩)
      · rw [rpBlock_params_of_ne (hTid ▸ hb)]
        simp only [hb, if_false]
        exact ⟨hlen, hav, htys, hrem⟩

/-- Not by way of `AliasStep.wf_new`: between the two steps of `ParamStep.run` the parameter `p` is still there and has
an alias, which `BlockOK` forbids, so the new entry and the removal are checked together. -/
theorem ParamStep.wf_new : WF c (removeParam f b idx p u) := by
  have hst := h.aliasStep
  refine ⟨?_, hst.nf, hst.alRank, hst.alTy, ?_, ?_, ?_, ?_, h.wf.Mpos, ?_⟩
  · show ((f.blocks.map (rpBlock b idx)).map (·.id)).Nodup
    rw [List.map_map]
    exact h.wf.ids
  · -- constants
    intro i' hi'
    rw [allInstrs_removeParam] at hi'
    obtain ⟨i, hi, rfl⟩ := List.mem_map.mp hi'
    rw [dropArg_eq, setBranchArgs_constNoKey]
    exact hst.constKey hi
  · -- unique definitions
    apply List.Nodup.sublist _ h.wf.uniq
    show ((f.blocks.map (rpBlock b idx)).flatMap _).Sublist _
    rw [List.flatMap_map]
    refine sublist_flatMap _ (fun B _ => List.Sublist.append ((rpBlock_params_sublist b idx B).map _) ?_)
    simp only [rpBlock, List.flatMap_map, dropArg_results]
    exact List.Sublist.refl _
  · rw [entry_removeParam]; exact h.wf.entryAvail
  · -- the entry block keeps its parameters
    intro B' hB' hid q hq
    rw [entry_removeParam] at hid hq
    rw [removeParam_blocks] at hB'
    obtain ⟨B, hB, rfl⟩ := List.mem_map.mp hB'
    rw [rpBlock_params_of_ne (T := B) (fun e => h.notEntry (e.symm.trans hid))]
    exact h.wf.entryGhost B hB hid q hq
  · -- blocks
    intro B' hB' hBv'
    rw [removeParam_blocks] at hB'
    obtain ⟨B, hB, rfl⟩ := List.mem_map.mp hB'
    have hBv : B.invalid = false := hBv'
    have hok := h.wf.blocks B hB hBv
    refine ⟨?_, hok.pdefRank, ?_, hok.availRank,
      BodyOK.map (dropArg_results b idx) (fun i hiB V => h.instrOK_rp hB hiB) (fun _ hi => hi) hok.body, ?_⟩
    · -- a parameter that stays is not `p`, so it gets no alias
      intro p' hp'
      have hp'' := hok.param p' ((rpBlock_params_sublist b idx B).subset hp')
      exact ⟨hp''.1, hp''.2.1, aliasGet_insert_none hp''.2.2 ((h.rp_params_iff hB).mp (List.mem_map_of_mem hp')).2⟩
    · intro q hq hqn
      show aliasGet (aliasInsert f.alias p u) q ≠ none
      by_cases hqp : q = p
      · -- the parameter that goes has its alias now
        rw [hqp, aliasGet_insert hst.ne hst.key, if_pos rfl]
        exact Option.some_ne_none _
      · exact aliasGet_insert_ne_none (hok.removed q hq fun hqB => hqn ((h.rp_params_iff hB).mpr ⟨hqB, hqp⟩))
    · intro hne
      rw [entry_removeParam] at hne
      obtain ⟨P, hP, hPv, hlt, i, hiP, hbr⟩ := hok.pred hne
      exact ⟨rpBlock b idx P, List.mem_map_of_mem hP, hPv, hlt, i.dropArg b idx, List.mem_map_of_mem hiP,
        (dropArg_branch_target b idx i).trans hbr⟩

/-- A parameter with a smaller index that was redundant stays redundant after the removal (its unique value is
resolved through the new table by `aliasInsert`). -/
theorem ParamStep.redundant_after {idx' : Nat} {p' u' : Val} {ty' : Ty} (hlt : idx' < idx)
    (hp' : B0.params[idx']? = some (p', ty')) (hred' : Redundant f b idx' p' u') :
    Redundant (removeParam f b idx p u) b idx' p' u' := by
  have hst := h.aliasStep
  intro a' ha'
  obtain ⟨_, hi', as', a, hbr', ha, rfl⟩ := mem_branchArgs_iff.mp ha'
  rw [allInstrs_removeParam] at hi'
  obtain ⟨i, hi, rfl⟩ := List.mem_map.mp hi'
  -- the branch had the argument at the same index before
  rw [dropArg_branch] at hbr'
  obtain ⟨⟨t, as⟩, hbr, heq⟩ := Option.map_eq_some_iff.mp hbr'
  cases heq
  rw [if_pos rfl, List.getElem?_eraseIdx, if_pos hlt] at ha
  show res (aliasInsert f.alias p u) a = p' ∨ res (aliasInsert f.alias p u) a = res (aliasInsert f.alias p u) u'
  rw [hst.res_new a, hst.res_new u']
  rcases hred' _ (mem_branchArgs_iff.mpr ⟨i, hi, as, a, hbr, ha, rfl⟩) with hh | hh
  · -- distinct indices of the parameter list hold distinct values
    have hp1 : (B0.params.map (·.1))[idx']? = some p' := by rw [List.getElem?_map, hp']; rfl
    have hne : p' ≠ p := fun he => Nat.ne_of_lt hlt
      ((List.getElem?_inj (lt_length_of_getElem? hp1) (params_nodup h.wf.uniq h.B0_mem)).mp
        (by rw [hp1, h.p_idx, he]))
    exact Or.inl (by rw [hh, if_neg hne])
  · exact Or.inr (by rw [hh])

end step

end Wz.Model.SsaPass
