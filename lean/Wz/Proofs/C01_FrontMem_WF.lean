/-
C01 (front end with memory accesses): what the translation guarantees statically — `lowerMem f` is strict SSA in
one block (`WellFormedM`): no branch, the values defined are 0, 1, 2, … in order, every operand (also the cached
memory base / length / absolute addresses that `memOpSetup` reuses) is defined before its use.
The values declared are exactly those below `next`, so "defined before its use" is `operand < next` at the time of
emission, and the pieces of `memOpSetup` compose as in `C01_FrontMem_Setup` (`Emit` here, `Piece` there).  `Emit` for
the whole instruction list, from the block parameters, is `WellFormedM` (`Emit.wellFormed`); `static_bodyM` is the
statement for a body from any state.
-/
import Wz.Proofs.C01_Front_WFLower
import Wz.Proofs.C01_FrontMem_Basic

namespace Wz.Proofs.FrontMem
open Wz.Spec Wz.Model.SsaPass Wz.Model.FrontendSL Wz.Model.FrontendMem Wz.Proofs.Front

theorem scopedM_append : ∀ (a b : List MInstr) (D : List (Val × Ty)),
    ScopedM D (a ++ b) ↔ ScopedM D a ∧ ScopedM (D ++ a.flatMap (·.typedResults)) b := by
  intro a
  induction a with
  | nil => intro b D; simp [ScopedM]
  | cons i a ih =>
    intro b D
    simp only [List.cons_append, ScopedM, ih, List.flatMap_cons, List.append_assoc]
    constructor
    · rintro ⟨h1, h2, h3, h4⟩; exact ⟨⟨h1, h2, h3⟩, h4⟩
    · rintro ⟨⟨h1, h2, h3⟩, h4⟩; exact ⟨h1, h2, h3, h4⟩

theorem scopedM_base : ∀ (is : List Instr) (D : List (Val × Ty)), ScopedM D (is.map .base) ↔ Scoped D is := by
  intro is
  induction is with
  | nil => intro D; simp [ScopedM, Scoped]
  | cons i is ih =>
    intro D
    show (_ ∧ _ ∧ ScopedM _ (is.map .base)) ↔ (_ ∧ _ ∧ Scoped _ is)
    rw [ih]
    cases i <;> exact Iff.rfl

theorem flatMap_base (is : List Instr) :
    (is.map MInstr.base).flatMap (·.typedResults) = is.flatMap (·.typedResults) :=
  List.flatMap_map ..

/-- the static invariant: that of the base fragment, and everything the memory cache mentions has been defined
(the values defined are exactly those below `next`: `SInv.dom`) -/
structure SInvM (lt : List Ty) (D : List (Val × Ty)) (s : MS) (tys : List Ty) : Prop where
  sinv : SInv lt D s.ls tys
  ge : 2 ≤ s.ls.next
  mb : ∀ v : Nat, s.memBase = some v → v < s.ls.next
  ml : ∀ v : Nat, s.memLen = some v → v < s.ls.next
  bd : ∀ b bound a : Nat, (b, bound, a) ∈ s.bounds → b < s.ls.next ∧ a < s.ls.next

/-- `ShiftTyped` on the wrapped instructions, as `ScopedM` spells it -/
def ShiftTypedM (D : List (Val × Ty)) : MInstr → Prop
  | .base (.bin op _ ty x _) => isShift op → (x, ty) ∈ D
  | _ => True

/-- a piece of emitted code, statically: `Piece` of `C01_FrontMem_Setup` without the run -/
structure Emit (lt : List Ty) (D : List (Val × Ty)) (l : List MInstr) (s' : MS) (tys' : List Ty) : Prop where
  nobr : ∀ j ∈ l, j.isBranch = false
  sc : ScopedM D l
  inv : SInvM lt (D ++ l.flatMap (·.typedResults)) s' tys'

variable {lt : List Ty} {D : List (Val × Ty)} {s : MS} {tys tys' : List Ty}

theorem SInvM.dom_lt (h : SInvM lt D s tys) {v : Nat} (hv : v < s.ls.next) : v ∈ D.map (·.1) := by
  rw [h.sinv.dom]; exact List.mem_range.mpr hv

theorem SInvM.grow (h : SInvM lt D s tys) {D' : List (Val × Ty)} {s' : MS} (hs : SInv lt D' s'.ls tys')
    (hn : s.ls.next ≤ s'.ls.next) (hb : s'.memBase = s.memBase) (hl : s'.memLen = s.memLen)
    (hbd : s'.bounds = s.bounds) : SInvM lt D' s' tys' :=
  ⟨hs, Nat.le_trans h.ge hn, fun v hv => Nat.lt_of_lt_of_le (h.mb v (hb ▸ hv)) hn,
    fun v hv => Nat.lt_of_lt_of_le (h.ml v (hl ▸ hv)) hn,
    fun b bound a hm => ⟨Nat.lt_of_lt_of_le (h.bd b bound a (hbd ▸ hm)).1 hn,
      Nat.lt_of_lt_of_le (h.bd b bound a (hbd ▸ hm)).2 hn⟩⟩

theorem SInvM.fresh (h : SInvM lt D s tys) (t : Ty) : SInvM lt (D ++ [(s.ls.next, t)]) (s.bump 1) tys :=
  h.grow (h.sinv.fresh t) (Nat.le_succ _) rfl rfl rfl

theorem SInvM.pushNew (h : SInvM lt D s tys) (t : Ty) :
    SInvM lt (D ++ [(s.ls.next, t)]) { s with ls := s.ls.pushNew t } (t :: tys) :=
  h.grow (h.sinv.pushNew t) (Nat.le_succ _) rfl rfl rfl

theorem SInvM.addBound (h : SInvM lt D s tys) {b ceil a : Nat} (hb : b < s.ls.next) (ha : a < s.ls.next) :
    SInvM lt D { s with bounds := (b, ceil, a) :: s.bounds } tys := by
  refine ⟨h.sinv, h.ge, h.mb, h.ml, ?_⟩
  intro b' bound' a' hm
  rcases List.mem_cons.mp hm with heq | hm
  · cases heq; exact ⟨hb, ha⟩
  · exact h.bd b' bound' a' hm

theorem Emit.nil (h : SInvM lt D s tys) : Emit lt D [] s tys :=
  ⟨fun _ hj => (nomatch hj), trivial, by rw [List.flatMap_nil, List.append_nil]; exact h⟩

theorem Emit.comp {l1 l2 : List MInstr} {s1 s2 : MS} {tys1 tys2 : List Ty} (e1 : Emit lt D l1 s1 tys1)
    (e2 : Emit lt (D ++ l1.flatMap (·.typedResults)) l2 s2 tys2) : Emit lt D (l1 ++ l2) s2 tys2 := by
  refine ⟨?_, (scopedM_append _ _ _).mpr ⟨e1.sc, e2.sc⟩, ?_⟩
  · intro j hj
    rcases List.mem_append.mp hj with h | h
    · exact e1.nobr j h
    · exact e2.nobr j h
  · rw [List.flatMap_append, ← List.append_assoc]; exact e2.inv

/-- the values are numbered in the order of their definitions, so `next` only grows -/
theorem Emit.next_le {l : List MInstr} {s' : MS} (h : SInvM lt D s tys) (e : Emit lt D l s' tys') :
    s.ls.next ≤ s'.ls.next := by
  have h1 := congrArg List.length h.sinv.dom
  have h2 := congrArg List.length e.inv.sinv.dom
  simp only [List.length_map, List.length_append, List.length_range] at h1 h2
  omega

theorem Emit.single (h : SInvM lt D s tys) (j : MInstr) (hshift : ShiftTypedM D j)
    (hbr : j.isBranch = false) (hops : ∀ o ∈ j.operands, o < s.ls.next) {s' : MS}
    (hinv : SInvM lt (D ++ j.typedResults) s' tys') : Emit lt D [j] s' tys' := by
  refine ⟨?_, ⟨fun o ho => h.dom_lt (hops o ho), hshift, trivial⟩, ?_⟩
  · intro j' hj'; rw [List.mem_singleton.mp hj']; exact hbr
  · rw [List.flatMap_cons, List.flatMap_nil, List.append_nil]; exact hinv

theorem Emit.snoc {l : List MInstr} {s1 : MS} {tys1 : List Ty} (e : Emit lt D l s1 tys1) (j : MInstr)
    (hshift : ShiftTypedM (D ++ l.flatMap (·.typedResults)) j)
    (hbr : j.isBranch = false) (hops : ∀ o ∈ j.operands, o < s1.ls.next) {s' : MS}
    (hinv : SInvM lt (D ++ l.flatMap (·.typedResults) ++ j.typedResults) s' tys') : Emit lt D (l ++ [j]) s' tys' :=
  e.comp (Emit.single e.inv j hshift hbr hops hinv)

theorem lt_mem₂ {n x y : Nat} (hx : x < n) (hy : y < n) : ∀ o ∈ [x, y], o < n :=
  List.forall_mem_cons.mpr ⟨hx, List.forall_mem_singleton.mpr hy⟩

theorem not_shift_iadd : ¬ isShift .iadd := by
  intro h; rcases h with h | h | h <;> cases h

/-- `m` is what a piece returns that computes a value (instructions, the value, state): `getMemLen`, `getMemBase`,
`memCheck`, `memOpSetup`; the value has been defined -/
def SetupStatic (lt : List Ty) (D : List (Val × Ty)) (tys : List Ty) (m : List MInstr × Val × MS) : Prop :=
  Emit lt D m.1 m.2.2 tys ∧ m.2.1 < m.2.2.ls.next

theorem static_getMemLen (h : SInvM lt D s tys) : SetupStatic lt D tys (getMemLen s) := by
  unfold getMemLen
  cases hm : s.memLen with
  | some v => exact ⟨Emit.nil h, h.ml v hm⟩
  | none =>
    have h1 := h.fresh .i64
    exact ⟨Emit.single h (.extload .uload32 s.ls.next .i64 moduleCtx offMemLen) trivial rfl (List.forall_mem_singleton.mpr h.ge)
      ⟨h1.sinv, h1.ge, h1.mb, fun _ e => by cases e; exact Nat.lt_succ_self _, h1.bd⟩, Nat.lt_succ_self _⟩

theorem static_getMemBase (h : SInvM lt D s tys) : SetupStatic lt D tys (getMemBase s) := by
  unfold getMemBase
  cases hm : s.memBase with
  | some v => exact ⟨Emit.nil h, h.mb v hm⟩
  | none =>
    have h1 := h.fresh .i64
    exact ⟨Emit.single h (.base (.load s.ls.next .i64 moduleCtx offMemBase)) trivial rfl (List.forall_mem_singleton.mpr h.ge)
      ⟨h1.sinv, h1.ge, fun _ e => by cases e; exact Nat.lt_succ_self _, h1.ml, h1.bd⟩, Nat.lt_succ_self _⟩

theorem static_check (h : SInvM lt D s tys) (b : Nat) (hb : b < s.ls.next) (ceil : Nat) :
    Emit lt D (checkInstrs s b ceil) (checkState s) tys ∧ s.ls.next + 2 ≤ (checkState s).ls.next := by
  have hge := h.ge
  have e1 := Emit.single h (.base (.iconst s.ls.next .i64 ceil)) trivial rfl (fun _ ho => nomatch ho) (h.fresh .i64)
  have e2 := e1.snoc (.base (.un .uextend (s.ls.next + 1) .i64 b)) trivial rfl (List.forall_mem_singleton.mpr (Nat.lt_succ_of_lt hb))
    (e1.inv.fresh .i64)
  obtain ⟨e3, hlen3⟩ := static_getMemLen (s := s.bump 2) e2.inv
  have hk : s.ls.next + 2 ≤ (getMemLen (s.bump 2)).2.2.ls.next := e3.next_le e2.inv
  unfold checkInstrs checkState
  generalize getMemLen (s.bump 2) = L at e3 hlen3 hk
  have e123 := e2.comp e3
  have e4 := e123.snoc (.base (.bin .iadd L.2.2.ls.next .i64 (s.ls.next + 1) s.ls.next))
    (fun hsh => absurd hsh not_shift_iadd) rfl (lt_mem₂ (by omega) (by omega)) (e123.inv.fresh .i64)
  have e5 := e4.snoc (.base (.icmp (L.2.2.ls.next + 1) .i64 .ult L.2.1 L.2.2.ls.next)) trivial rfl
    (lt_mem₂ (Nat.lt_succ_of_lt hlen3) (Nat.lt_succ_self _)) (e4.inv.fresh .i32)
  have e6 := e5.snoc (.base (.exitIf execCtx (L.2.2.ls.next + 1) codeMemOOB)) trivial rfl
    (lt_mem₂ (show (0 : Nat) < L.2.2.ls.next + 2 by omega) (show L.2.2.ls.next + 1 < L.2.2.ls.next + 2 by omega))
    (by simpa only [MInstr.typedResults, Instr.typedResults, List.append_nil] using e5.inv)
  exact ⟨e6, Nat.le_trans hk (Nat.le_add_right _ 2)⟩

theorem static_memCheck (h : SInvM lt D s tys) (b : Nat) (hb : b < s.ls.next) (ceil : Nat) (addr? : Option Val)
    (ha : ∀ a0 : Nat, addr? = some a0 → a0 < s.ls.next) :
    SetupStatic lt D tys (memCheck s b ceil addr?) := by
  obtain ⟨e, hn⟩ := static_check h b hb ceil
  have hb6 : b < (checkState s).ls.next := by omega
  cases addr? with
  | some a0 =>
    rw [memCheck_some]
    have ha6 : a0 < (checkState s).ls.next := Nat.lt_of_lt_of_le (ha a0 rfl) (by omega)
    exact ⟨⟨e.nobr, e.sc, e.inv.addBound (ceil := ceil) hb6 ha6⟩, ha6⟩
  | none =>
    rw [memCheck_none]
    obtain ⟨e7, hbase7⟩ := static_getMemBase e.inv
    have hj : (checkState s).ls.next ≤ (getMemBase (checkState s)).2.2.ls.next := e7.next_le e.inv
    generalize getMemBase (checkState s) = G at e7 hbase7 hj
    have e17 := e.comp e7
    have e18 := e17.snoc (.base (.bin .iadd G.2.2.ls.next .i64 G.2.1 (s.ls.next + 1)))
      (fun hsh => absurd hsh not_shift_iadd) rfl (lt_mem₂ hbase7 (by omega)) (e17.inv.fresh .i64)
    exact ⟨⟨e18.nobr, e18.sc, e18.inv.addBound (ceil := ceil) (a := G.2.2.ls.next)
      (show b < G.2.2.ls.next + 1 by omega) (Nat.lt_succ_self _)⟩, Nat.lt_succ_self _⟩

theorem static_memOpSetup (h : SInvM lt D s tys) (b : Nat) (hb : b < s.ls.next) (ceil : Nat) :
    SetupStatic lt D tys (memOpSetup s b ceil) := by
  fun_cases memOpSetup s b ceil
  case case1 bound a0 hl _ => exact ⟨Emit.nil h, (h.bd b bound a0 (lookupBound_mem _ _ _ hl)).2⟩
  case case2 bound a0 hl _ =>
    exact static_memCheck h b hb ceil _ (fun _ h0 => by cases h0; exact (h.bd b bound a0 (lookupBound_mem _ _ _ hl)).2)
  case case3 => exact static_memCheck h b hb ceil _ nofun

theorem static_baseM (j : SI) (h : SInvM lt D s tys) (htc : tcStep lt j tys = some tys') :
    Emit lt D (lowerMI (.base j) s).1 (lowerMI (.base j) s).2 tys' := by
  obtain ⟨h2, h3⟩ := static_step j h.sinv htc
  refine ⟨?_, (scopedM_base _ _).mpr h2, ?_⟩
  · intro i hi
    obtain ⟨i0, hi0, rfl⟩ := List.mem_map.mp hi
    simp only [MInstr.isBranch, lowerI_noBranch j s.ls i0 hi0, Option.isSome_none]
  · simp only [lowerMI, flatMap_base]
    exact h.grow h3 (lowerI_next j s.ls) rfl rfl rfl

theorem static_memSize (h : SInvM lt D s tys) : Emit lt D (lowerMI .memSize s).1 (lowerMI .memSize s).2 (.i32 :: tys) := by
  have hge := h.ge
  have e1 := Emit.single h (.base (.load s.ls.next .i32 moduleCtx offMemLen)) trivial rfl (List.forall_mem_singleton.mpr hge)
    (h.fresh .i32)
  have e2 := e1.snoc (.base (.iconst (s.ls.next + 1) .i32 pageBits)) trivial rfl (fun _ ho => nomatch ho)
    (e1.inv.fresh .i32)
  have e3 := e2.snoc (.base (.bin .ushr (s.ls.next + 2) .i32 s.ls.next (s.ls.next + 1)))
    (fun _ => by simp [MInstr.typedResults, Instr.typedResults]) rfl
    (lt_mem₂ (show s.ls.next < s.ls.next + 1 + 1 by omega) (show s.ls.next + 1 < s.ls.next + 1 + 1 by omega))
    (e2.inv.pushNew .i32)
  simpa [lowerMI, LS.pushNew, MS.bump, Nat.add_assoc] using e3

theorem loadInstr_static (k : LoadK) (r addr off : Nat) :
    (loadInstr k r addr off).isBranch = false ∧ (loadInstr k r addr off).typedResults = [(r, k.ty)] ∧
    (loadInstr k r addr off).operands = [addr] ∧
    ∀ D : List (Val × Ty), ShiftTypedM D (loadInstr k r addr off) := by
  cases k <;> exact ⟨rfl, rfl, rfl, fun _ => trivial⟩

theorem static_load (k : LoadK) (off : Nat) (h : SInvM lt D s tys) (htc : tcStepM lt (.load k off) tys = some tys') :
    Emit lt D (lowerMI (.load k off) s).1 (lowerMI (.load k off) s).2 tys' := by
  obtain ⟨tys0, rfl, rfl, _⟩ := tcStepM_load htc
  obtain ⟨vb, ls0, hls, hvD, h1⟩ := h.sinv.pop
  have hm1 : SInvM lt D { s with ls := ls0 } tys0 := h.grow h1 (by rw [hls]; exact Nat.le_refl _) rfl rfl rfl
  obtain ⟨eS, haddr⟩ := static_memOpSetup hm1 vb (h1.lt_next hvD) (off + k.bytes)
  simp only [lowerMI, hls, LS.peek_push, LS.pop_push]
  generalize memOpSetup { s with ls := ls0 } vb (off + k.bytes) = M at eS haddr
  obtain ⟨hl1, hl2, hl3, hl4⟩ := loadInstr_static k M.2.2.ls.next M.2.1 off
  exact eS.snoc (loadInstr k M.2.2.ls.next M.2.1 off) (hl4 _) hl1 (hl3 ▸ List.forall_mem_singleton.mpr haddr) (hl2 ▸ eS.inv.pushNew k.ty)

theorem static_store (k : StoreK) (off : Nat) (h : SInvM lt D s tys)
    (htc : tcStepM lt (.store k off) tys = some tys') :
    Emit lt D (lowerMI (.store k off) s).1 (lowerMI (.store k off) s).2 tys' := by
  obtain ⟨rfl, _⟩ := tcStepM_store htc
  obtain ⟨vv, ls1, hls, hvvD, h1⟩ := h.sinv.pop
  obtain ⟨vb, ls0, rfl, hvbD, h2⟩ := h1.pop
  have hm1 : SInvM lt D { s with ls := ls0 } tys' := h.grow h2 (by rw [hls]; exact Nat.le_refl _) rfl rfl rfl
  obtain ⟨eS, haddr⟩ := static_memOpSetup hm1 vb (h2.lt_next hvbD) (off + k.bytes)
  have hvv' := Nat.lt_of_lt_of_le (h2.lt_next hvvD) (eS.next_le hm1)
  simp only [lowerMI, hls, LS.peek_push, LS.pop_push]
  generalize memOpSetup { s with ls := ls0 } vb (off + k.bytes) = M at eS haddr hvv'
  exact eS.snoc (.base (.store k.op k.ty vv M.2.1 off)) trivial rfl (lt_mem₂ hvv' haddr)
    (by simpa only [MInstr.typedResults, Instr.typedResults, List.append_nil] using eS.inv)

theorem static_stepM (i : MI) (h : SInvM lt D s tys) (htc : tcStepM lt i tys = some tys') :
    Emit lt D (lowerMI i s).1 (lowerMI i s).2 tys' := by
  cases i with
  | base j => exact static_baseM j h htc
  | load k off => exact static_load k off h htc
  | store k off => exact static_store k off h htc
  | memSize =>
    simp only [tcStepM, Option.some.injEq] at htc
    subst htc
    exact static_memSize h

/-- the three parts of `WellFormedM` are the three fields of `Emit` for the whole instruction list, from the parameters -/
theorem Emit.wellFormed {ps : List (Val × Ty)} {l : List MInstr} {s' : MS} (e : Emit lt ps l s' tys') :
    WellFormedM ⟨ps, l⟩ :=
  ⟨e.nobr, ⟨s'.ls.next, e.inv.sinv.dom⟩, e.sc⟩

theorem static_retM (nres : Nat) (h : SInvM lt D s tys) : Emit lt D [.base (.ret (s.ls.peekN nres))] s tys := by
  refine Emit.single h (.base (.ret (s.ls.peekN nres))) trivial rfl (fun o ho => ?_)
    ((List.append_nil D).symm ▸ h)  -- `ret` defines nothing
  obtain ⟨p, hp, rfl⟩ := List.mem_map.mp (List.mem_reverse.mp ho)
  exact h.sinv.lt_next (h.sinv.stk p (List.mem_of_mem_take hp))

theorem static_bodyM (res : List Ty) (nres : Nat) : ∀ (body : List MI) (s : MS) (tys : List Ty)
    (D : List (Val × Ty)), SInvM lt D s tys → tcBodyM lt res body tys = true →
    ∃ s' tys', Emit lt D (lowerBodyM nres body s) s' tys' := by
  intro body
  induction body with
  | nil => intro s tys D h _; exact ⟨_, _, static_retM nres h⟩
  | cons i is ih =>
    intro s tys D h htc
    by_cases hi : i = .base .ret
    · subst hi; exact ⟨_, _, static_retM nres h⟩
    · obtain ⟨tys', hstep, hrest⟩ := tcBodyM_cons hi htc
      have e1 := static_stepM i h hstep
      obtain ⟨s', tys'', e2⟩ := ih _ _ _ e1.inv hrest
      rw [lowerBodyM_cons nres hi]
      exact ⟨s', tys'', e1.comp e2⟩

/-- the function's entry (`entry_static` of the base fragment) in front of its body -/
theorem lowerMem_wellFormed (f : FnM) (hwt : wellTypedM f = true) : WellFormedM (lowerMem f) := by
  obtain ⟨hd2, hinv⟩ := entry_static f.sig
  have e0 : Emit (f.params ++ f.locals) (entryParams f.sig) ((initLS f.sig).1.map .base) { ls := (initLS f.sig).2 } [] := by
    refine ⟨fun j hj => ?_, (scopedM_base _ _).mpr hd2, ?_⟩
    · obtain ⟨j0, hj0, rfl⟩ := List.mem_map.mp hj
      simp only [MInstr.isBranch, declLocals_noBranch f.locals (f.params.length + 2) {} j0 hj0, Option.isSome_none]
    · rw [flatMap_base]
      exact ⟨hinv, Nat.le_trans (Nat.le_add_left ..) (initLS_next f.sig), nofun, nofun, nofun⟩
  obtain ⟨s', tys', e⟩ := static_bodyM f.results f.results.length f.body _ _ _ e0.inv hwt
  exact (e0.comp e).wellFormed

end Wz.Proofs.FrontMem
