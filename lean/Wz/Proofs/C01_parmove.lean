import Wz.Model.ParMove

/-! Lemmas for the temporaries branch of `lowerBlockArguments` (see `Wz.Model.ParMove`). -/
namespace Wz.Model.ParMove

/-- the other branch of `lowerBlockArguments`: every source goes to a fresh temporary first, then every temporary
to its destination -/
def viaTemps (es : List (Nat × Nat)) (temps : List Nat) (ρ : Env) : Env :=
  seqMoves (List.zipWith (fun e t => (t, e.2)) es temps)
    (seqMoves (List.zipWith (fun e t => (e.1, t)) es temps) ρ)

theorem parMoves_getElem (es : List (Nat × Nat)) (ρ : Env) (h : es.Pairwise fun e e' => e'.2 ≠ e.2) (i : Nat) (hi : i < es.length) :
    parMoves es ρ es[i].2 = ρ es[i].1 := by
  have : es.find? (fun e => e.2 == es[i].2) = some es[i] :=
    List.find?_eq_some_iff_getElem.mpr ⟨beq_self_eq_true _, i, hi, rfl, fun j hj => by
      simpa using Ne.symm (List.pairwise_iff_getElem.mp h j i (Nat.lt_trans hj hi) hi hj)⟩
  simp only [parMoves, this]

end Wz.Model.ParMove
