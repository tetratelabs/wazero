/-
C13 — proofs about the file-system model of `fileCache.Add` (Wz.Model.FileCache).

Safety. `Inv` holds of the initial system (`Inv.init`), is kept by every event (`Inv.step`) and bounds what a final name
shows, also after a power loss (`Inv.allowed`). A writer is `Fresh`, `Live` or `Quiet` (`WInv.phase`). The events where
one writer and the file system change together are instances of `Inv.update` (`Inv.writerOnly`, `Inv.createTemp`,
`Inv.inoUpdate`); where the directory changes, of `Inv.remove` and `Inv.link`, and `Rename` is `writerOnly`, then
`remove` of the temp name, then `link` of the final one.
Progress: a writer scheduled alone publishes its content (`copy_completes`).
Core Lean only (no Mathlib in this project).
-/
import Wz.Model.FileCache

namespace Wz.C13.FS
open Wz.Model.FileCache
open Wz.Gen.FileCache (AddStep)

/-- what may be visible under the final name of `key`: nothing, what was there before, or the COMPLETE
content of some writer of that key -/
def Allowed (fs0 : FS) (spec : Nat → Nat × Bytes) (key : Nat) (c : Option Bytes) : Prop :=
  c = none ∨ c = fs0.content (.final key) ∨ ∃ w, (spec w).1 = key ∧ c = some (spec w).2

/-- the regenerated step list is the one the proofs below are about (tie A: breaks when `Add` changes) -/
theorem steps_as_modelled :
    Wz.Gen.FileCache.addSteps = [.createTemp, .copy, .sync, .close, .rename] ∧
    Wz.Gen.FileCache.addCleanup = [.close, .remove] := by
  constructor <;> rfl

theorem start_eq (k : Nat) (c : Bytes) :
    Writer.start k c = { key := k, content := c, cleanup := [.close, .remove],
                         prog := .createTemp :: (c.map MOp.write ++ [.sync, .close, .rename]) } := by
  simp [Writer.start, Writer.startWith, expand, Wz.Gen.FileCache.addSteps, Wz.Gen.FileCache.addCleanup, expandStep]

theorem execOp_nil {fs : FS} {W : Writer} (h : W.prog = []) : execOp fs W = (fs, W) := by
  simp [execOp, h]

theorem execOp_createTemp {fs : FS} {W : Writer} {rest : List MOp} (h : W.prog = .createTemp :: rest) :
    execOp fs W = ((fs.createTemp W.key).1,
      { W with prog := rest, tmp := some (fs.createTemp W.key).2.1,
               ino := some (fs.createTemp W.key).2.2, isOpen := true }) := by
  simp [execOp, h]

theorem execOp_write {fs : FS} {W : Writer} {b : Nat} {rest : List MOp} {i : Nat}
    (h : W.prog = .write b :: rest) (hi : W.ino = some i) (ho : W.isOpen = true) :
    execOp fs W = (fs.append i b, { W with prog := rest }) := by
  simp [execOp, h, hi, ho]

theorem execOp_sync {fs : FS} {W : Writer} {rest : List MOp} {i : Nat}
    (h : W.prog = .sync :: rest) (hi : W.ino = some i) (ho : W.isOpen = true) :
    execOp fs W = (fs.sync i, { W with prog := rest }) := by
  simp [execOp, h, hi, ho]

theorem execOp_close {fs : FS} {W : Writer} {rest : List MOp} (h : W.prog = .close :: rest) :
    execOp fs W = (fs, if W.isOpen then { W with prog := rest, isOpen := false } else W.fail rest) := by
  simp only [execOp, h]
  split <;> rfl

theorem execOp_rename {fs fs' : FS} {W : Writer} {rest : List MOp} {t : Name}
    (h : W.prog = .rename :: rest) (ht : W.tmp = some t) (hr : fs.rename t (.final W.key) = some fs') :
    execOp fs W = (fs', { W with prog := rest }) := by
  simp [execOp, h, ht, hr]

theorem execOp_remove_none {fs : FS} {W : Writer} {rest : List MOp}
    (h : W.prog = .remove :: rest) (ht : W.tmp = none) :
    execOp fs W = (fs, W.fail rest) := by
  simp [execOp, h, ht]

theorem execOp_remove {fs : FS} {W : Writer} {rest : List MOp} {t : Name}
    (h : W.prog = .remove :: rest) (ht : W.tmp = some t) :
    execOp fs W = (fs.remove t, { W with prog := rest }) := by
  simp [execOp, h, ht]

theorem step_run (s : Sys) (w : Nat) :
    s.step (.run w) = ⟨(execOp s.fs (s.ws w)).1,
      fun j => if j = w then (execOp s.fs (s.ws w)).2 else s.ws j⟩ := rfl

/-- the writer will never write, sync or rename again -/
def Quiet (W : Writer) : Prop :=
  (∀ op ∈ W.prog, op = MOp.close ∨ op = MOp.remove) ∧ (W.failed = true ∨ W.prog = [])

/-- the writer has not called `CreateTemp` yet -/
def Fresh (content : Bytes) (W : Writer) : Prop :=
  W.prog = .createTemp :: (content.map MOp.write ++ [.sync, .close, .rename]) ∧ W.failed = false

/-- where a writer that owns the file `f` is in its program -/
def LiveData (f : File) (content : Bytes) (W : Writer) : Prop :=
  (∃ rest, W.prog = rest.map MOp.write ++ [.sync, .close, .rename] ∧ W.isOpen = true ∧
      f.data ++ rest = content) ∨
  (W.prog = [.close, .rename] ∧ W.isOpen = true ∧ f.data = content ∧ f.synced = f.data.length) ∨
  (W.prog = [.rename] ∧ W.isOpen = false ∧ f.data = content ∧ f.synced = f.data.length)

/-- the writer is on its main path and owns an inode that is reachable by its temp name only -/
def Live (fs : FS) (key : Nat) (content : Bytes) (W : Writer) : Prop :=
  ∃ i n, W.ino = some i ∧ W.tmp = some (.temp key n) ∧ fs.dir (.temp key n) = some i ∧
    (∀ k, fs.dir (.final k) ≠ some i) ∧ W.failed = false ∧ LiveData (fs.ino i) content W

/-- `fs` started as `fs0`. `inoB`: the writer's inode was allocated after the start and before now (so it is none of the
initial files, and differs from any inode allocated later); `tmpB`: its temp name carries a nonce already used (so a
later `CreateTemp` cannot return it). -/
structure WInv (fs0 fs : FS) (key : Nat) (content : Bytes) (W : Writer) : Prop where
  key_eq : W.key = key
  cleanup_eq : W.cleanup = [.close, .remove]
  inoB : ∀ i, W.ino = some i → fs0.nextIno ≤ i ∧ i < fs.nextIno
  tmpB : ∀ t, W.tmp = some t → ∃ k n, t = .temp k n ∧ n < fs.nextNonce
  phase : Fresh content W ∨ Live fs key content W ∨ Quiet W

/-- the inode under a final name is durable and is the old entry or a complete new one -/
def GoodFinal (fs0 : FS) (spec : Nat → Nat × Bytes) (f : File) (k i : Nat) : Prop :=
  f.synced = f.data.length ∧ (fs0.dir (.final k) = some i ∨ ∃ w, (spec w).1 = k ∧ f.data = (spec w).2)

/-- Writer `w` adds `(spec w).2` under `(spec w).1`; the file system started as `fs0`. The first three fields: the
allocation counters only grow and are above everything in use; `orig`: the initial inodes are never written. -/
structure Inv (fs0 : FS) (spec : Nat → Nat × Bytes) (s : Sys) : Prop where
  nextIno_le : fs0.nextIno ≤ s.fs.nextIno
  inoBound : ∀ n i, s.fs.dir n = some i → i < s.fs.nextIno
  nonceBound : ∀ k n, s.fs.nextNonce ≤ n → s.fs.dir (.temp k n) = none
  orig : ∀ i, i < fs0.nextIno → s.fs.ino i = fs0.ino i
  finals : ∀ k i, s.fs.dir (.final k) = some i → GoodFinal fs0 spec (s.fs.ino i) k i
  writers : ∀ w, WInv fs0 s.fs (spec w).1 (spec w).2 (s.ws w)
  tmpInj : ∀ w w' t, (s.ws w).tmp = some t → (s.ws w').tmp = some t → w = w'
  inoInj : ∀ w w' i, (s.ws w).ino = some i → (s.ws w').ino = some i → w = w'

/-- an inode/file-system change that does not touch what a writer owns preserves its invariant -/
theorem WInv.frame {fs0 fs fs' : FS} {key : Nat} {content : Bytes} {W : Writer}
    (h : WInv fs0 fs key content W)
    (hI : fs.nextIno ≤ fs'.nextIno) (hN : fs.nextNonce ≤ fs'.nextNonce)
    (hL : ∀ i n, W.ino = some i → W.tmp = some (.temp key n) → fs.dir (.temp key n) = some i →
      (∀ k, fs.dir (.final k) ≠ some i) →
      fs'.dir (.temp key n) = some i ∧ (∀ k, fs'.dir (.final k) ≠ some i) ∧ fs'.ino i = fs.ino i) :
    WInv fs0 fs' key content W := by
  refine ⟨h.key_eq, h.cleanup_eq, fun i hi => ⟨(h.inoB i hi).1, Nat.lt_of_lt_of_le (h.inoB i hi).2 hI⟩, ?_, ?_⟩
  · intro t ht
    obtain ⟨k, n, e, hn⟩ := h.tmpB t ht
    exact ⟨k, n, e, Nat.lt_of_lt_of_le hn hN⟩
  · rcases h.phase with hf | ⟨i, n, hi, ht, hd, hp, hfl, hdata⟩ | hq
    · exact Or.inl hf
    · obtain ⟨a, b, c⟩ := hL i n hi ht hd hp
      exact Or.inr (Or.inl ⟨i, n, hi, ht, a, b, hfl, by rw [c]; exact hdata⟩)
    · exact Or.inr (Or.inr hq)

/-- a writer whose call failed is quiet -/
theorem WInv.fail {fs0 fs : FS} {key : Nat} {content : Bytes} {W : Writer}
    (h : WInv fs0 fs key content W) (rest : List MOp)
    (hr : W.failed = true → ∀ op ∈ rest, op = MOp.close ∨ op = MOp.remove) :
    WInv fs0 fs key content (W.fail rest) := by
  unfold Writer.fail
  by_cases hf : W.failed = true
  · rw [if_pos hf]
    exact { h with phase := Or.inr (Or.inr ⟨hr hf, Or.inl hf⟩) }
  · rw [if_neg hf]
    refine { h with phase := Or.inr (Or.inr ⟨?_, Or.inl rfl⟩) }
    show ∀ op ∈ W.cleanup, _
    rw [h.cleanup_eq]
    simp

theorem fail_tmp (W : Writer) (rest : List MOp) : (W.fail rest).tmp = W.tmp := by
  unfold Writer.fail; split <;> rfl

theorem fail_ino (W : Writer) (rest : List MOp) : (W.fail rest).ino = W.ino := by
  unfold Writer.fail; split <;> rfl

theorem upd_inj {α : Type} {ws : Nat → Writer} {f : Writer → Option α}
    (hinj : ∀ a b x, f (ws a) = some x → f (ws b) = some x → a = b) {w : Nat} {W' : Writer}
    (hne : ∀ w' x, w' ≠ w → f W' = some x → f (ws w') ≠ some x) (a b : Nat) (x : α) :
    f (if a = w then W' else ws a) = some x → f (if b = w then W' else ws b) = some x → a = b := by
  by_cases ha : a = w <;> by_cases hb : b = w <;> simp only [ha, hb]
  · intros; trivial
  · intro h1 h2; exact absurd h2 (hne b x hb h1)
  · intro h1 h2; exact absurd h1 (hne a x ha h2)
  · exact hinj a b x

/-- common part of all preservation proofs: writer `w` becomes `W'`, the file system becomes `fs'` -/
theorem Inv.update {fs0 : FS} {spec : Nat → Nat × Bytes} {s : Sys} (h : Inv fs0 spec s)
    (w : Nat) (fs' : FS) (W' : Writer)
    (hI : s.fs.nextIno ≤ fs'.nextIno)
    (inoBound : ∀ n i, fs'.dir n = some i → i < fs'.nextIno)
    (nonceBound : ∀ k n, fs'.nextNonce ≤ n → fs'.dir (.temp k n) = none)
    (orig : ∀ i, i < fs0.nextIno → fs'.ino i = fs0.ino i)
    (finals : ∀ k i, fs'.dir (.final k) = some i → GoodFinal fs0 spec (fs'.ino i) k i)
    (hW : WInv fs0 fs' (spec w).1 (spec w).2 W')
    (hothers : ∀ w', w' ≠ w → WInv fs0 fs' (spec w').1 (spec w').2 (s.ws w'))
    (htmp : ∀ w' t, w' ≠ w → W'.tmp = some t → (s.ws w').tmp ≠ some t)
    (hino : ∀ w' i, w' ≠ w → W'.ino = some i → (s.ws w').ino ≠ some i) :
    Inv fs0 spec ⟨fs', fun j => if j = w then W' else s.ws j⟩ := by
  refine ⟨Nat.le_trans h.nextIno_le hI, inoBound, nonceBound, orig, finals, ?_,
    upd_inj (f := Writer.tmp) h.tmpInj htmp, upd_inj (f := Writer.ino) h.inoInj hino⟩
  intro j
  show WInv _ _ _ _ (if j = w then W' else s.ws j)
  by_cases hj : j = w
  · rw [if_pos hj, hj]; exact hW
  · rw [if_neg hj]; exact hothers j hj

theorem Inv.tmp_ne {fs0 : FS} {spec : Nat → Nat × Bytes} {s : Sys} (h : Inv fs0 spec s) {w w' : Nat}
    (hne : w' ≠ w) {t : Name} (ht : (s.ws w).tmp = some t) : (s.ws w').tmp ≠ some t :=
  fun h' => hne (h.tmpInj w' w t h' ht)

theorem Inv.ino_ne {fs0 : FS} {spec : Nat → Nat × Bytes} {s : Sys} (h : Inv fs0 spec s) {w w' : Nat}
    (hne : w' ≠ w) {i : Nat} (hi : (s.ws w).ino = some i) : (s.ws w').ino ≠ some i :=
  fun h' => hne (h.inoInj w' w i h' hi)

theorem Inv.writerOnly {fs0 : FS} {spec : Nat → Nat × Bytes} {s : Sys} (h : Inv fs0 spec s)
    (w : Nat) (W' : Writer) (ht : W'.tmp = (s.ws w).tmp) (hi : W'.ino = (s.ws w).ino)
    (hW : WInv fs0 s.fs (spec w).1 (spec w).2 W') :
    Inv fs0 spec ⟨s.fs, fun j => if j = w then W' else s.ws j⟩ :=
  h.update w s.fs W' (Nat.le_refl _) h.inoBound h.nonceBound h.orig h.finals hW
    (fun w' _ => h.writers w')
    (fun _ _ hne e => h.tmp_ne hne (ht ▸ e)) (fun _ _ hne e => h.ino_ne hne (hi ▸ e))

@[simp] theorem createTemp_dir (fs : FS) (k : Nat) (x : Name) :
    (fs.createTemp k).1.dir x = if x = Name.temp k fs.nextNonce then some fs.nextIno else fs.dir x := rfl
@[simp] theorem createTemp_ino (fs : FS) (k j : Nat) :
    (fs.createTemp k).1.ino j = if j = fs.nextIno then {} else fs.ino j := rfl
@[simp] theorem createTemp_nextIno (fs : FS) (k : Nat) :
    (fs.createTemp k).1.nextIno = fs.nextIno + 1 := rfl
@[simp] theorem createTemp_nextNonce (fs : FS) (k : Nat) :
    (fs.createTemp k).1.nextNonce = fs.nextNonce + 1 := rfl
@[simp] theorem createTemp_name (fs : FS) (k : Nat) :
    (fs.createTemp k).2.1 = .temp k fs.nextNonce := rfl
@[simp] theorem createTemp_inode (fs : FS) (k : Nat) : (fs.createTemp k).2.2 = fs.nextIno := rfl

theorem Inv.createTemp {fs0 : FS} {spec : Nat → Nat × Bytes} {s : Sys} (h : Inv fs0 spec s)
    (w : Nat) (hf : Fresh (spec w).2 (s.ws w)) :
    Inv fs0 spec ⟨(s.fs.createTemp (s.ws w).key).1, fun j => if j = w then
      { s.ws w with prog := (spec w).2.map MOp.write ++ [.sync, .close, .rename],
                    tmp := some (s.fs.createTemp (s.ws w).key).2.1,
                    ino := some (s.fs.createTemp (s.ws w).key).2.2, isOpen := true } else s.ws j⟩ := by
  have hw := h.writers w
  -- the new inode and nonce are the allocation counters; whatever the directory or a writer holds is below them
  apply h.update
  case hI => exact Nat.le_succ _
  case inoBound =>
    intro n i
    rw [createTemp_dir, createTemp_nextIno]
    split
    · intro e; cases e; exact Nat.lt_succ_self _
    · exact fun e => Nat.lt_succ_of_lt (h.inoBound n i e)
  case nonceBound =>
    intro k n hn
    rw [createTemp_nextNonce] at hn
    rw [createTemp_dir, if_neg (by intro e; cases e; omega)]
    exact h.nonceBound k n (by omega)
  case orig =>
    intro i hi
    have := h.nextIno_le
    rw [createTemp_ino, if_neg (by omega)]
    exact h.orig i hi
  case finals =>
    intro k i e
    rw [createTemp_dir, if_neg nofun] at e
    rw [createTemp_ino, if_neg (Nat.ne_of_lt (h.inoBound _ _ e))]
    exact h.finals k i e
  case hW =>
    refine ⟨hw.key_eq, hw.cleanup_eq, ?_, ?_,
      Or.inr (Or.inl ⟨s.fs.nextIno, s.fs.nextNonce, rfl, ?_, ?_, ?_, hf.2, Or.inl ⟨(spec w).2, rfl, rfl, ?_⟩⟩)⟩
    · intro i e; cases e; exact ⟨h.nextIno_le, Nat.lt_succ_self _⟩
    · intro t e; cases e; exact ⟨_, _, rfl, Nat.lt_succ_self _⟩
    · exact congrArg (fun k => some (Name.temp k s.fs.nextNonce)) hw.key_eq
    · rw [createTemp_dir, hw.key_eq, if_pos rfl]
    · intro k e
      rw [createTemp_dir, if_neg nofun] at e
      exact Nat.lt_irrefl _ (h.inoBound _ _ e)
    · rw [createTemp_ino, if_pos rfl]; rfl
  case hothers =>
    intro w' _
    refine (h.writers w').frame (Nat.le_succ _) (Nat.le_succ _) fun i n hi ht hd hp => ⟨?_, fun k => ?_, ?_⟩
    · obtain ⟨_, _, e, hn⟩ := (h.writers w').tmpB _ ht
      cases e
      rw [createTemp_dir, if_neg (fun e => Nat.ne_of_lt hn (Name.temp.inj e).2)]
      exact hd
    · rw [createTemp_dir, if_neg nofun]
      exact hp k
    · rw [createTemp_ino, if_neg (Nat.ne_of_lt ((h.writers w').inoB i hi).2)]
  case htmp =>
    intro w' t _ e e'
    obtain ⟨_, _, e2, hn⟩ := (h.writers w').tmpB _ e'
    cases e; cases e2
    exact Nat.lt_irrefl _ hn
  case hino =>
    intro w' i _ e e'
    cases e
    exact Nat.lt_irrefl _ ((h.writers w').inoB _ e').2

theorem Inv.inoUpdate {fs0 : FS} {spec : Nat → Nat × Bytes} {s : Sys} (h : Inv fs0 spec s)
    (w i n : Nat) (f' : File) (prog : List MOp)
    (hi : (s.ws w).ino = some i) (ht : (s.ws w).tmp = some (.temp (spec w).1 n))
    (hd : s.fs.dir (.temp (spec w).1 n) = some i) (hp : ∀ k, s.fs.dir (.final k) ≠ some i)
    (hfl : (s.ws w).failed = false) (hL : LiveData f' (spec w).2 { s.ws w with prog := prog }) :
    Inv fs0 spec ⟨{ s.fs with ino := fun j => if j = i then f' else s.fs.ino j },
      fun j => if j = w then { s.ws w with prog := prog } else s.ws j⟩ := by
  have hw := h.writers w
  apply h.update
  case hI => exact Nat.le_refl _
  case inoBound => exact h.inoBound
  case nonceBound => exact h.nonceBound
  case orig =>
    intro j hj
    have := (hw.inoB i hi).1
    dsimp only
    rw [if_neg (by omega)]
    exact h.orig j hj
  case finals =>
    intro k j e
    dsimp only
    rw [if_neg (by rintro rfl; exact hp k e)]
    exact h.finals k j e
  case hW =>
    refine { hw with phase := Or.inr (Or.inl ⟨i, n, hi, ht, hd, hp, hfl, ?_⟩) }
    dsimp only
    rw [if_pos rfl]
    exact hL
  case hothers =>
    intro w' hne
    refine (h.writers w').frame (Nat.le_refl _) (Nat.le_refl _) fun i' _ hi2 _ hd2 hp2 => ⟨hd2, hp2, ?_⟩
    dsimp only
    rw [if_neg (by rintro rfl; exact h.ino_ne hne hi hi2)]
  case htmp => exact fun _ _ hne => h.tmp_ne hne
  case hino => exact fun _ _ hne => h.ino_ne hne

theorem rename_eq {fs : FS} {src dst : Name} {i : Nat} (h : fs.dir src = some i) :
    fs.rename src dst =
      some { fs with dir := fun x => if x = dst then some i else if x = src then none else fs.dir x } := by
  simp [FS.rename, h]

theorem remove_dir (fs : FS) (x n : Name) : (fs.remove x).dir n = if n = x then none else fs.dir n := rfl

theorem quiet_upd {α : Type} {ws : Nat → Writer} {w : Nat} {W' : Writer} (hq : Quiet W') {f : Writer → Option α}
    {a : α} (hne : ∀ w', w' ≠ w → f (ws w') ≠ some a) (w' : Nat)
    (e : f (if w' = w then W' else ws w') = some a) : Quiet (if w' = w then W' else ws w') := by
  by_cases hw : w' = w
  · rw [if_pos hw]; exact hq
  · rw [if_neg hw] at e; exact absurd e (hne w' hw)

theorem Inv.remove {fs0 : FS} {spec : Nat → Nat × Bytes} {s : Sys} (h : Inv fs0 spec s) (x : Name)
    (hx : ∀ w, (s.ws w).tmp = some x → Quiet (s.ws w)) : Inv fs0 spec ⟨s.fs.remove x, s.ws⟩ := by
  have sub : ∀ {n j}, (s.fs.remove x).dir n = some j → s.fs.dir n = some j := by
    intro n j
    rw [remove_dir]
    split
    · nofun
    · exact id
  refine ⟨h.nextIno_le, fun n j e => h.inoBound n j (sub e), ?_, h.orig, fun k j e => h.finals k j (sub e), ?_,
    h.tmpInj, h.inoInj⟩
  · intro k m hm
    rw [remove_dir, h.nonceBound k m hm, ite_self]
  · intro w
    by_cases hw : (s.ws w).tmp = some x
    · exact { h.writers w with phase := Or.inr (Or.inr (hx w hw)) }
    · refine (h.writers w).frame (Nat.le_refl _) (Nat.le_refl _) fun i n _ ht hd hp =>
        ⟨?_, fun k e => hp k (sub e), rfl⟩
      rw [remove_dir, if_neg (by rintro rfl; exact hw ht), hd]

theorem Inv.link {fs0 : FS} {spec : Nat → Nat × Bytes} {s : Sys} (h : Inv fs0 spec s) (key i : Nat)
    (hi : i < s.fs.nextIno) (hg : GoodFinal fs0 spec (s.fs.ino i) key i)
    (hfree : ∀ w, (s.ws w).ino = some i → Quiet (s.ws w)) :
    Inv fs0 spec ⟨{ s.fs with dir := fun x => if x = Name.final key then some i else s.fs.dir x }, s.ws⟩ := by
  refine ⟨h.nextIno_le, ?_, ?_, h.orig, ?_, ?_, h.tmpInj, h.inoInj⟩
  · intro n j
    dsimp only
    split
    · intro e; cases e; exact hi
    · exact h.inoBound n j
  · intro k m hm
    dsimp only
    rw [if_neg nofun]
    exact h.nonceBound k m hm
  · intro k j
    dsimp only
    split
    · rename_i e
      intro e'
      cases e; cases e'
      exact hg
    · exact h.finals k j
  · intro w
    by_cases hw : (s.ws w).ino = some i
    · exact { h.writers w with phase := Or.inr (Or.inr (hfree w hw)) }
    · refine (h.writers w).frame (Nat.le_refl _) (Nat.le_refl _) fun i' n hi' _ hd hp => ⟨?_, fun k => ?_, rfl⟩
      · dsimp only
        rw [if_neg nofun]
        exact hd
      · dsimp only
        split
        · intro e; cases e; exact hw hi'
        · exact hp k

theorem Inv.delete {fs0 : FS} {spec : Nat → Nat × Bytes} {s : Sys} (h : Inv fs0 spec s) (key : Nat) :
    Inv fs0 spec ⟨s.fs.remove (.final key), s.ws⟩ :=
  h.remove (.final key) fun w ht => by
    obtain ⟨_, _, e, _⟩ := (h.writers w).tmpB _ ht
    cases e

theorem Inv.rename {fs0 : FS} {spec : Nat → Nat × Bytes} {s : Sys} (h : Inv fs0 spec s)
    (w i n : Nat) (W' : Writer)
    (hi : (s.ws w).ino = some i) (ht : (s.ws w).tmp = some (.temp (spec w).1 n))
    (hdata : (s.fs.ino i).data = (spec w).2) (hsync : (s.fs.ino i).synced = (s.fs.ino i).data.length)
    (hk : W'.key = (s.ws w).key) (hc : W'.cleanup = (s.ws w).cleanup)
    (hi' : W'.ino = (s.ws w).ino) (ht' : W'.tmp = (s.ws w).tmp)
    (hq : Quiet W') :
    Inv fs0 spec ⟨{ s.fs with dir := fun x => if x = Name.final (spec w).1 then some i
        else (if x = Name.temp (spec w).1 n then none else s.fs.dir x) },
      fun j => if j = w then W' else s.ws j⟩ := by
  have hw := h.writers w
  have h1 := h.writerOnly w W' ht' hi' ⟨hk.trans hw.key_eq, hc.trans hw.cleanup_eq, hi' ▸ hw.inoB, ht' ▸ hw.tmpB,
    Or.inr (Or.inr hq)⟩
  exact (h1.remove (.temp (spec w).1 n) (quiet_upd hq fun _ hne => h.tmp_ne hne ht)).link (spec w).1 i
    (hw.inoB i hi).2 ⟨hsync, Or.inr ⟨w, rfl, hdata⟩⟩ (quiet_upd hq fun _ hne => h.ino_ne hne hi)

theorem Inv.exec {fs0 : FS} {spec : Nat → Nat × Bytes} {s : Sys} (h : Inv fs0 spec s) (w : Nat) :
    Inv fs0 spec ⟨(execOp s.fs (s.ws w)).1,
      fun j => if j = w then (execOp s.fs (s.ws w)).2 else s.ws j⟩ := by
  have hw := h.writers w
  rcases hw.phase with hf | ⟨i, n, hi, ht, hd, hp, hfl, hL⟩ | hq
  · -- `CreateTemp`
    rw [execOp_createTemp hf.1]
    exact h.createTemp w hf
  · rcases hL with ⟨rest, hprog, hopen, hdata⟩ | ⟨hprog, hopen, hdata, hsync⟩ |
      ⟨hprog, hopen, hdata, hsync⟩
    · cases rest with
      | nil =>
        -- `Sync`
        rw [execOp_sync hprog hi hopen]
        exact h.inoUpdate w i n _ _ hi ht hd hp hfl
          (Or.inr (Or.inl ⟨rfl, hopen, by simpa using hdata, rfl⟩))
      | cons b rest =>
        -- one byte of `io.Copy`
        rw [execOp_write hprog hi hopen]
        exact h.inoUpdate w i n _ _ hi ht hd hp hfl
          (Or.inl ⟨rest, rfl, hopen, by simpa using hdata⟩)
    · -- `Close`
      rw [execOp_close hprog, if_pos hopen]
      exact h.writerOnly w _ rfl rfl { hw with
        phase := Or.inr (Or.inl ⟨i, n, hi, ht, hd, hp, hfl, Or.inr (Or.inr ⟨rfl, rfl, hdata, hsync⟩)⟩) }
    · -- `Rename`
      rw [execOp_rename hprog ht (rename_eq hd), hw.key_eq]
      exact h.rename w i n _ hi ht hdata hsync hw.key_eq.symm rfl rfl rfl ⟨nofun, Or.inr rfl⟩
  · -- the deferred cleanup, or nothing left to do
    cases hprog : (s.ws w).prog with
    | nil =>
      rw [execOp_nil hprog]
      exact h.writerOnly w _ rfl rfl hw
    | cons op rest =>
      rw [Quiet, hprog] at hq
      obtain ⟨hop, hrest⟩ := List.forall_mem_cons.mp hq.1
      have hfailed := hq.2.resolve_right (List.cons_ne_nil _ _)
      rcases hop with rfl | rfl
      · rw [execOp_close hprog]
        by_cases ho : (s.ws w).isOpen = true
        · rw [if_pos ho]
          exact h.writerOnly w _ rfl rfl { hw with phase := Or.inr (Or.inr ⟨hrest, Or.inl hfailed⟩) }
        · rw [if_neg ho]
          exact h.writerOnly w _ (fail_tmp _ _) (fail_ino _ _) (hw.fail rest (fun _ => hrest))
      · cases htmp : (s.ws w).tmp with
        | none =>
          rw [execOp_remove_none hprog htmp]
          exact h.writerOnly w _ (fail_tmp _ _) (fail_ino _ _) (hw.fail rest (fun _ => hrest))
        | some t =>
          rw [execOp_remove hprog htmp]
          have hq' : Quiet { s.ws w with prog := rest } := ⟨hrest, Or.inl hfailed⟩
          exact (h.writerOnly w { s.ws w with prog := rest } rfl rfl { hw with phase := Or.inr (Or.inr hq') }).remove t
            (quiet_upd hq' fun _ hne => h.tmp_ne hne htmp)

theorem Inv.step {fs0 : FS} {spec : Nat → Nat × Bytes} {s : Sys} (h : Inv fs0 spec s) (e : Ev) :
    Inv fs0 spec (s.step e) := by
  cases e with
  | run w => rw [step_run]; exact h.exec w
  | fail w =>
    have hw := h.writers w
    cases hprog : (s.ws w).prog with
    | nil => simp only [Sys.step, hprog]; exact h
    | cons op rest =>
      simp only [Sys.step, hprog]
      refine h.writerOnly w _ (fail_tmp _ _) (fail_ino _ _) (hw.fail rest ?_)
      intro hfailed
      rcases hw.phase with hf | ⟨_, _, _, _, _, _, hfl, _⟩ | hq
      · rw [hf.2] at hfailed; cases hfailed
      · rw [hfl] at hfailed; cases hfailed
      · exact fun o ho => hq.1 o (hprog ▸ List.mem_cons_of_mem _ ho)
  | delete k => exact h.delete k

theorem Inv.run {fs0 : FS} {spec : Nat → Nat × Bytes} (evs : List Ev) :
    ∀ {s : Sys}, Inv fs0 spec s → Inv fs0 spec (s.run evs) := by
  induction evs with
  | nil => intro s h; exact h
  | cons e evs ih => intro s h; exact ih (h.step e)

theorem Inv.init {fs0 : FS} (h0 : fs0.WF0) (spec : Nat → Nat × Bytes) :
    Inv fs0 spec (Sys.init fs0 spec) := by
  refine ⟨Nat.le_refl _, h0.inoBound, h0.nonceBound, fun _ _ => rfl, ?_, ?_, ?_, ?_⟩
  · exact fun k i e => ⟨h0.finalsDurable k i e, Or.inl e⟩
  · intro w
    refine ⟨rfl, congrArg Writer.cleanup (start_eq _ _), ?_, ?_,
      Or.inl ⟨congrArg Writer.prog (start_eq _ _), rfl⟩⟩
    · intro i e; cases e
    · intro t e; cases e
  · intro w w' t e; cases e
  · intro w w' i e; cases e

theorem Inv.final_allowed {fs0 : FS} (h0 : fs0.WF0) {spec : Nat → Nat × Bytes} {s : Sys}
    (h : Inv fs0 spec s) (key : Nat) : Allowed fs0 spec key (s.fs.content (.final key)) := by
  unfold FS.content
  cases hd : s.fs.dir (.final key) with
  | none => exact Or.inl rfl
  | some i =>
    rcases (h.finals key i hd).2 with h1 | ⟨w, hk, hdat⟩
    · refine Or.inr (Or.inl ?_)
      rw [FS.content, h1]
      exact congrArg (fun f : File => some f.data) (h.orig i (h0.inoBound _ _ h1))
    · exact Or.inr (Or.inr ⟨w, hk, congrArg some hdat⟩)

theorem Inv.powerLoss_final {fs0 : FS} {spec : Nat → Nat × Bytes} {s : Sys} (h : Inv fs0 spec s)
    (keep : Nat → Nat) (key : Nat) :
    (s.fs.powerLoss keep).content (.final key) = s.fs.content (.final key) := by
  show (s.fs.dir (.final key)).map (fun i => (s.fs.ino i).data.take (max (s.fs.ino i).synced (keep i))) =
    (s.fs.dir (.final key)).map (fun i => (s.fs.ino i).data)
  cases hd : s.fs.dir (.final key) with
  | none => rfl
  | some i =>
    have hs := (h.finals key i hd).1
    exact congrArg some (List.take_of_length_le (by omega))

/-- what the invariant says about a final name, also after a power loss -/
theorem Inv.allowed {fs0 : FS} (h0 : fs0.WF0) {spec : Nat → Nat × Bytes} {s : Sys}
    (h : Inv fs0 spec s) (keep : Nat → Nat) (key : Nat) :
    Allowed fs0 spec key ((s.fs.powerLoss keep).content (.final key)) := by
  rw [h.powerLoss_final]
  exact h.final_allowed h0 key

/-- MAIN: any number of writers, any interleaving, any injected call failures, any deletes, stopped at any
point (every prefix of a schedule is a schedule), followed by a power loss that drops an arbitrary part of
all unsynced data: the final name shows nothing, the old entry, or a complete entry of some writer. -/
theorem add_concurrent_powerloss (fs0 : FS) (h0 : fs0.WF0) (spec : Nat → Nat × Bytes)
    (evs : List Ev) (keep : Nat → Nat) (key : Nat) :
    Allowed fs0 spec key
      ((((Sys.init fs0 spec).run evs).fs.powerLoss keep).content (.final key)) :=
  ((Inv.init h0 spec).run evs).allowed h0 keep key

/-- the same without power loss (process deaths only) -/
theorem add_concurrent (fs0 : FS) (h0 : fs0.WF0) (spec : Nat → Nat × Bytes)
    (evs : List Ev) (key : Nat) :
    Allowed fs0 spec key (((Sys.init fs0 spec).run evs).fs.content (.final key)) :=
  ((Inv.init h0 spec).run evs).final_allowed h0 key

theorem run_cons (s : Sys) (e : Ev) (evs : List Ev) : s.run (e :: evs) = (s.step e).run evs := rfl

/-- a writer that has created its temp file and is scheduled alone publishes what it has written plus
what is left to write (the writer's state is given in full, so that the model runs by evaluation) -/
theorem copy_completes (w i key : Nat) (t : Name) (content : Bytes) (cleanup : List MOp) :
    ∀ (rest : Bytes) (s : Sys),
    s.ws w = { key := key, content := content, prog := rest.map MOp.write ++ [.sync, .close, .rename],
               cleanup := cleanup, tmp := some t, ino := some i, isOpen := true } →
    s.fs.dir t = some i →
    (s.run (List.replicate (rest.length + 3) (Ev.run w))).fs.content (.final key) =
      some ((s.fs.ino i).data ++ rest) := by
  intro rest
  induction rest with
  | nil =>
    intro s hw hd
    simp [Sys.run, Sys.step, hw, execOp, FS.sync, FS.rename, hd, FS.content]
  | cons b rest ih =>
    intro s hw hd
    rw [List.length_cons, List.replicate_succ, run_cons,
      ih (s.step (.run w)) (by simp [Sys.step, hw, execOp]) (by simpa [Sys.step, hw, execOp, FS.append] using hd)]
    simp [Sys.step, hw, execOp, FS.append]

/-- TEST: the real step list, one writer of `[1,2,3]` stopped after `CreateTemp` and one byte, then a power
loss that keeps nothing unsynced: nothing under the final name -/
example :
    (((Sys.init FS.empty (fun _ => (0, [1, 2, 3]))).run [.run 0, .run 0]).fs.powerLoss
      (fun _ => 0)).content (.final 0) = none := by decide +kernel

/-- TEST: the real step list run to completion, then a power loss that keeps nothing unsynced: the complete
entry -/
example :
    (((Sys.init FS.empty (fun _ => (0, [1, 2, 3]))).run (List.replicate 7 (.run 0))).fs.powerLoss
      (fun _ => 0)).content (.final 0) = some [1, 2, 3] := by decide +kernel

/-- TEST: a call fails during the copy: the cleanup removes the temp file, nothing is published -/
example :
    ((Sys.init FS.empty (fun _ => (0, [1, 2, 3]))).run
      [.run 0, .run 0, .fail 0, .run 0, .run 0, .run 0]).fs.content (.final 0) = none ∧
    ((Sys.init FS.empty (fun _ => (0, [1, 2, 3]))).run
      [.run 0, .run 0, .fail 0, .run 0, .run 0, .run 0]).fs.content (.temp 0 0) = none := by decide +kernel

/-- WITNESS (test): the theorem is about the order of the calls. `Rename` before `Sync`: after
`CreateTemp`, three writes and `Rename`, a power loss that keeps one unsynced byte leaves a PARTIAL entry
under the final name. -/
theorem rename_before_sync_breaks :
    (((Sys.initWith [.createTemp, .copy, .rename, .sync, .close] [.close, .remove] FS.empty
        (fun _ => (0, [1, 2, 3]))).run (List.replicate 5 (.run 0))).fs.powerLoss
      (fun _ => 1)).content (.final 0) = some [1] := by decide +kernel

/-- WITNESS (test): without `Sync` the complete run followed by a power loss leaves an EMPTY entry under the
final name. -/
theorem no_sync_breaks :
    (((Sys.initWith [.createTemp, .copy, .close, .rename] [.close, .remove] FS.empty
        (fun _ => (0, [1, 2, 3]))).run (List.replicate 7 (.run 0))).fs.powerLoss
      (fun _ => 0)).content (.final 0) = some [] := by decide +kernel

end Wz.C13.FS
