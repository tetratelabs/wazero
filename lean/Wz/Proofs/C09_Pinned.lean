/-
C09 helper lemmas for the repaired variant (`pinRefs`): a reference stored together with a permanent
pointer holder → record always passes the shadow check.
-/
import Wz.Proofs.C09_Graph

namespace Wz.C09
open Wz.Model.Lifetime

theorem mem_sweep_of_mem (L : List Edge) (S : List Node) (v : Node) (hv : v ∈ S) : v ∈ sweep L S := by
  unfold sweep
  refine List.foldlRecOn L _ hv fun acc hacc e _ => ?_
  split
  · exact List.mem_cons_of_mem _ hacc
  · exact hacc

theorem reachB_head_edge (E : List Edge) (x y : Node) : reachB ((x, y) :: E) x y = true := by
  unfold reachB reachSet
  apply List.contains_iff_mem.2
  have hy : y ∈ sweep ((x, y) :: E) [x] := by
    unfold sweep
    rw [List.foldl_cons]
    apply mem_sweep_of_mem
    by_cases h : y = x
    · subst h; simp
    · simp [h]
  unfold closure
  simp only
  split
  · exact hy
  · exact closure_induction (Q := fun S => y ∈ S) (fun S => mem_sweep_of_mem _ S y) _ _ hy

/-- repaired variant, primitive level: pin + store never clears `shadowOk` when the pin succeeds -/
theorem pinned_store_keeps_shadow (g : G) (h t : Node) (hok : primOk g (.perm h t) = true) :
    (applyPrims g [.perm h t, .raw h t]).shadowOk = g.shadowOk := by
  simp only [applyPrims, List.foldl_cons, List.foldl_nil]
  have e1 : applyPrim g (.perm h t) = { g with perm := (h, t) :: g.perm } := by
    simp [applyPrim, hok]
  rw [e1]
  unfold applyPrim
  split
  · simp [guardB, reachB_head_edge]
  · rfl

theorem primsOk_head {g : G} {p : Prim} {ps : List Prim} (h : primsOk g (p :: ps) = true) : primOk g p = true := by
  unfold primsOk at h
  exact (Bool.and_eq_true_iff.1 h).1

/-- repaired variant, operation level: what a reference-passing op does to the graph is nothing, or pin + store -/
theorem pass_prims (w : W) (hp : w.pinRefs = true) (s d : Nat) (how : How) (wh : Where) :
    (stepPrims w (.pass s how d wh)).1 = [] ∨
    ∃ h t, (stepPrims w (.pass s how d wh)).1 = [.perm h t, .raw h t] := by
  cases hs : w.find s <;> cases hd : w.find d <;> simp only [stepPrims, hs, hd]
  case some.some rs rd =>
    cases rs.held <;> cases rs.closed <;> cases rd.held <;>
      simp only [Bool.not_true, Bool.not_false, Bool.false_eq_true, if_true, if_false, hp, true_or]
    split <;> simp
  all_goals simp

end Wz.C09
