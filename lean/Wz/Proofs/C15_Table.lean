/- Lemmas for C15 about the descriptor-table model: shape invariant and space. Core Lean only. -/
import Wz.Model.DescTable

namespace Wz.C15
open Wz.Model.DescTable

/-- shape part of the representation invariant -/
def Shape {α} (t : Table α) : Prop := t.items.length = 64 * t.masks.length

theorem shape_empty {α} : Shape (empty : Table α) := by simp [Shape, empty]

theorem shape_grow {α} (t : Table α) (n : Nat) (h : Shape t) : Shape (grow t n) := by
  simp only [Shape, grow, List.length_append, List.length_replicate] at *
  omega

theorem slots_grow {α} (t : Table α) (n : Nat) : slots (grow t n) = slots t + n * 64 := by
  simp [slots, grow]

theorem Shape.of_lengths {α} {t t' : Table α} (hm : t'.masks.length = t.masks.length)
    (hi : t'.items.length = t.items.length) (h : Shape t) : Shape t' := by
  unfold Shape
  rw [hm, hi]
  exact h

theorem shape_setBit {α} (t : Table α) (i s : Nat) (x : α) (h : Shape t) : Shape (setBit t i s x) :=
  h.of_lengths List.length_set List.length_set

theorem slots_setBit {α} (t : Table α) (i s : Nat) (x : α) : slots (setBit t i s x) = slots t := by
  simp [slots, setBit]

theorem shape_insert {α} (t : Table α) (x : α) (h : Shape t) : Shape (insert t x).1 := by
  unfold Wz.Model.DescTable.insert
  split
  · exact shape_setBit _ _ _ _ h
  · exact shape_setBit _ _ _ _ (shape_grow _ _ h)

theorem slots_insert_le {α} (t : Table α) (x : α) : slots (insert t x).1 ≤ slots t + 64 := by
  unfold Wz.Model.DescTable.insert
  split
  · simp only [slots_setBit]; omega
  · simp only [slots_setBit, slots_grow]; omega

theorem shape_insertAt {α} (t : Table α) (x : α) (k : Int) (h : Shape t) : Shape (insertAt t x k).1 := by
  unfold insertAt
  split
  · exact h
  · simp only
    split
    · exact shape_setBit _ _ _ _ (shape_grow _ _ h)
    · exact shape_setBit _ _ _ _ h

theorem delete_lengths {α} (t : Table α) (k : Int) :
    (delete t k).masks.length = t.masks.length ∧ (delete t k).items.length = t.items.length := by
  -- only the arm that clears a bit and an item touches the two lists, and `set` keeps a length
  fun_cases delete t k
  all_goals try exact ⟨rfl, rfl⟩
  exact ⟨List.length_set, List.length_set⟩

theorem shape_delete {α} (t : Table α) (k : Int) (h : Shape t) : Shape (delete t k) :=
  h.of_lengths (delete_lengths t k).1 (delete_lengths t k).2

theorem slots_delete {α} (t : Table α) (k : Int) : slots (delete t k) = slots t :=
  (delete_lengths t k).2

theorem shape_reset {α} (t : Table α) (h : Shape t) : Shape (reset t) :=
  h.of_lengths (List.length_map _) (List.length_map _)

theorem slots_reset {α} (t : Table α) : slots (reset t) = slots t := by simp [slots, reset]

theorem shape_apply {α} (t : Table α) (op : Op α) (h : Shape t) : Shape (apply t op) := by
  cases op with
  | insert it => exact shape_insert t it h
  | insertAt it k => exact shape_insertAt t it k h
  | delete k => exact shape_delete t k h
  | reset => exact shape_reset t h

theorem shape_applyAll {α} (ops : List (Op α)) : ∀ (t : Table α), Shape t → Shape (applyAll t ops) := by
  induction ops with
  | nil => intro t h; exact h
  | cons op rest ih => intro t h; exact ih _ (shape_apply t op h)

def Op.isInsertAt {α} : Op α → Bool
  | .insertAt _ _ => true
  | _ => false

def countInserts {α} : List (Op α) → Nat
  | [] => 0
  | .insert _ :: r => countInserts r + 1
  | _ :: r => countInserts r

theorem space_applyAll {α} (ops : List (Op α)) :
    ∀ (t : Table α), (∀ op ∈ ops, Op.isInsertAt op = false) → slots (applyAll t ops) ≤ slots t + 64 * countInserts ops := by
  induction ops with
  | nil => intro t _; simp [applyAll, countInserts]
  | cons op rest ih =>
    intro t hno
    have hrest : ∀ o ∈ rest, Op.isInsertAt o = false := fun o ho => hno o (List.mem_cons_of_mem _ ho)
    have h := ih (apply t op) hrest
    have hop := hno op (List.mem_cons_self ..)
    simp only [applyAll, List.foldl_cons] at *
    cases op with
    | insert it =>
      have := slots_insert_le t it
      simp only [apply, countInserts] at *
      omega
    | insertAt it k => simp [Op.isInsertAt] at hop
    | delete k =>
      simp only [apply, countInserts, slots_delete] at *
      exact h
    | reset =>
      simp only [apply, countInserts, slots_reset] at *
      exact h

end Wz.C15
