/-
C03: soundness of the validator model (`check` ⇒ declarative typing) and progress of well-typed code
under the reference semantics (`Wz.Spec.Wasm`): no internal `"stack"` / `"unsupported"` outcome. All of W0.

Soundness (`validate_sound_W0`), under the side condition `alignSane` (quirk Q3 of the model; `hasType_load_align` and
the examples at the end of the file show that the condition is necessary). The part of the algorithm's stack above the
current limit (`Rep`), possibly ending in the unknown marker, is related to declarative stack types by `Match`; every
step of the algorithm is reflected BACKWARDS (`Back`): each stack type admitted after the step is reached by the
instruction from a stack type admitted before it. The pops of the algorithm compose as `Pops`; an instruction is then
a pop of its operand types followed by pushes (`Pops.back`), by the unreachable marker (`Pops.back_unreachable`) or by
a frame (`Pops.back_end`). Every lemma about a function of the algorithm goes through the case (or induction) principle
that Lean derives from that function: the answer of each path is in the goal as `… = .ok s' → …`, the paths that end
in an error are dismissed alike, and what is left are the accepting paths (`sound`: `checkInstr` and `checkSeq` at once).

Progress (`welltyped_progress_seq`; for calls `Wz.C03.welltyped_progress`, `_invoke`). It does not look at the
algorithm: every declarative rule holds of the reference semantics at stack heights, that is, well-typed code `Runs`
(`Wz.Proofs.C03_Runs`) at its stack type (`seq_ok`, the height invariant, by induction on the typing derivation). So for a
module satisfying `ModuleOK m tm` every call behaves (`callOK_all`, by induction on the fuel), `"unsupported"` being
excluded under `NumOK tm`.
-/
import Wz.Model.Validator
import Wz.Proofs.C03_Runs

namespace Wz.C03v
open Wz.Spec Wz.Spec.Wasm Wz.Model.Validator

/-- The part `above` of the algorithm's stack that lies above the current limit (top first, possibly with the
unknown marker as its last element) admits the declarative stack type `ts`. -/
def Match : List OT → List OT → Prop
  | [], ts => ts = []
  | x :: xs, ts => (x = none ∧ xs = []) ∨ ∃ t r, ts = t :: r ∧ OT.le x t ∧ Match xs r

def Rep (s : VS) (above below : List OT) : Prop :=
  s.stack = above ++ below ∧ s.limit = below.length

theorem match_nil {ts} : Match [] ts ↔ ts = [] := Iff.rfl

theorem match_marker (ts) : Match [none] ts := Or.inl ⟨rfl, rfl⟩

theorem match_inhabited : ∀ above : List OT, ∃ ts, Match above ts
  | [] => ⟨[], rfl⟩
  | x :: xs => by
    obtain ⟨r, hr⟩ := match_inhabited xs
    exact ⟨x :: r, Or.inr ⟨x, r, rfl, Or.inr rfl, hr⟩⟩

theorem match_cons_of {x : OT} {xs t r} (hle : OT.le x t) (hm : Match xs r) : Match (x :: xs) (t :: r) :=
  Or.inr ⟨t, r, rfl, hle, hm⟩

theorem match_push {x : OT} {xs ts} (hne : x = none → xs ≠ []) (h : Match (x :: xs) ts) :
    ∃ t r, ts = t :: r ∧ OT.le x t ∧ Match xs r :=
  h.resolve_left fun ⟨h1, h2⟩ => hne h1 h2

theorem match_cons_nonempty {x : OT} {xs ts} (hne : xs ≠ []) (h : Match (x :: xs) ts) :
    ∃ t r, ts = t :: r ∧ OT.le x t ∧ Match xs r :=
  match_push (fun _ => hne) h

theorem match_cons_some {t : VT} {xs ts} (h : Match (some t :: xs) ts) :
    ∃ r, ts = some t :: r ∧ Match xs r := by
  obtain ⟨t', r, rfl, hle, hm⟩ := match_push (x := some t) nofun h
  obtain rfl : some t = t' := (hle : _ ∨ _).resolve_left nofun
  exact ⟨r, rfl, hm⟩

theorem match_somes_append {l : List VT} {xs ts} (h : Match (somes l ++ xs) ts) :
    ∃ r, ts = somes l ++ r ∧ Match xs r := by
  induction l generalizing ts with
  | nil => exact ⟨ts, rfl, h⟩
  | cons t l ih =>
    obtain ⟨r, rfl, hm⟩ := match_cons_some h
    obtain ⟨r', rfl, hm'⟩ := ih hm
    exact ⟨r', rfl, hm'⟩

/-- `s'` is `s` with operands of the types `p` (top first) popped off the part above the limit. -/
def Pops (s : VS) (above below p : List OT) (s' : VS) (above' : List OT) : Prop :=
  Rep s' above' below ∧ s'.limits = s.limits ∧ ∀ r, Match above' r → Match above (p ++ r)

section
variable {s s' : VS} {above below : List OT}

theorem Pops.refl (h : Rep s above below) : Pops s above below [] s above :=
  ⟨h, rfl, fun _ hm => hm⟩

theorem Pops.trans {s1 s2 a1 a2 p q} (h1 : Pops s above below p s1 a1)
    (h2 : Pops s1 a1 below q s2 a2) : Pops s above below (p ++ q) s2 a2 :=
  ⟨h2.1, h2.2.1.trans h1.2.1, fun r hm => List.append_assoc p q r ▸ h1.2.2 _ (h2.2.2 r hm)⟩

/-- `tryPop` on the abstract view -/
def popA (s : VS) (below : List OT) : List OT → Option (OT × VS)
  | [] => none
  | x :: r => if r = [] ∧ x = none then some (none, s) else some (x, { s with stack := r ++ below })

theorem tryPop_spec (h : Rep s above below) : s.tryPop = popA s below above := by
  unfold VS.tryPop
  rw [h.1, h.2]
  match above with
  | [] => exact if_pos (Nat.le_refl _)
  | x :: r =>
    have h1 : ¬ (r.length + below.length + 1 ≤ below.length) := by omega
    simp [popA, h1]

/-- The second part (quirk Q1 of the model): an unknown that is popped is the marker, which stays in place, or a value
lying on something else; either way what is left is not empty, which `select` needs to push an unknown type. -/
theorem tryPop_back {x : OT} (h : Rep s above below) : s.tryPop = some (x, s') →
    ∃ above', (∀ t, OT.le x t → Pops s above below [t] s' above') ∧ (x = none → above' ≠ []) := by
  rw [tryPop_spec h]
  fun_cases popA s below above <;> intro hp <;> cases hp
  · next hm =>
    obtain ⟨rfl, rfl⟩ := hm
    exact ⟨[none], fun t _ => ⟨h, rfl, fun _ _ => match_marker _⟩, by simp⟩
  · next r hm =>
    exact ⟨r, fun t hle => ⟨⟨rfl, h.2⟩, rfl, fun _ => match_cons_of hle⟩, fun hx hr => hm ⟨hr, hx⟩⟩

theorem pop_ok {r} (h : s.pop = .ok r) : s.tryPop = some r := by
  unfold VS.pop at h
  split at h <;> cases h
  assumption

theorem popAndVerifyType_back {t : VT} (h : Rep s above below) :
    s.popAndVerifyType t = .ok s' → ∃ above', Pops s above below [some t] s' above' := by
  fun_cases VS.popAndVerifyType s t <;> intro hp <;> cases hp
  next x hc hr =>
    obtain ⟨above', h1, _⟩ := tryPop_back h hr
    exact ⟨above', h1 _ hc.symm⟩

theorem push_rep (v : OT) (h : Rep s above below) : Rep (s.push v) (v :: above) below :=
  ⟨congrArg (v :: ·) h.1, h.2⟩

theorem popAll_back {l : List VT} (h : Rep s above below) :
    s.popAll l = .ok s' → ∃ above', Pops s above below (somes l) s' above' := by
  fun_induction VS.popAll s l generalizing above <;> intro hp
  next => cases hp; exact ⟨above, .refl h⟩
  next h1 ih =>
    obtain ⟨a1, hp1⟩ := popAndVerifyType_back h h1
    obtain ⟨a2, hp2⟩ := ih hp1.1 hp
    exact ⟨a2, hp1.trans hp2⟩
  next => cases hp

theorem pushAll_rep {l : List VT} (h : Rep s above below) :
    Rep (s.pushAll l) (somes l.reverse ++ above) below ∧ (s.pushAll l).limits = s.limits := by
  induction l generalizing s above with
  | nil => exact ⟨h, rfl⟩
  | cons t l ih =>
    obtain ⟨h1, h2⟩ := ih (push_rep (some t) h)
    exact ⟨by simpa [somes, VS.pushAll] using h1, h2⟩

theorem applySig_back {ps rs : List VT} (h : Rep s above below) :
    s.applySig ps rs = .ok s' → ∃ s1 a1, Pops s above below (somes ps.reverse) s1 a1 ∧ s' = s1.pushAll rs := by
  fun_cases VS.applySig s ps rs <;> intro hp <;> cases hp
  next s1 h1 =>
    obtain ⟨a1, hp1⟩ := popAll_back h h1
    exact ⟨s1, a1, hp1, rfl⟩

theorem stkLe_of_typesOK : ∀ {xs : List OT} {ws : List VT}, xs.length = ws.length →
    VS.typesOK xs ws = true → StkLe xs (somes ws)
  | [], [], _, _ => trivial
  | x :: xs, w :: ws, hl, ht => by
    simp only [VS.typesOK, Bool.and_eq_true, Bool.or_eq_true, beq_iff_eq] at ht
    exact ⟨ht.1.symm, stkLe_of_typesOK (Nat.succ.inj hl) ht.2⟩

theorem popN_back {n : Nat} {xs : List OT} (h : Rep s above below) :
    s.popN n = some (xs, s') →
    ∃ above', xs.length = n ∧ ∀ ws, StkLe xs ws → Pops s above below ws s' above' := by
  fun_induction VS.popN s n generalizing above xs <;> intro hp <;> cases hp
  next => exact ⟨above, rfl, fun | [], _ => .refl h⟩
  next n x s1 h1 ys ih h2 =>
    obtain ⟨a1, hb1, _⟩ := tryPop_back h h1
    obtain ⟨a2, hlen, hb2⟩ := ih (hb1 x (.inr rfl)).1 h2
    exact ⟨a2, congrArg (· + 1) hlen, fun | w :: ws, hle => (hb1 w hle.1).trans (hb2 ws hle.2)⟩

/-- the `checkAboveLimit` test of `requireStackValues` -/
theorem match_nil_of_atLimit (h : Rep s above below)
    (hc : s.limit = s.stack.length ∨ (s.limit + 1 = s.stack.length ∧ s.stack.head? = some none)) :
    Match above [] := by
  rw [h.1, h.2] at hc
  match above with
  | [] => rfl
  | x :: r =>
    have h1 : ¬ below.length = r.length + below.length + 1 := by omega
    simpa [Match, h1, and_comm] using hc

theorem requireStackValues_back {want : List VT} {chk : Bool} (h : Rep s above below) :
    s.requireStackValues want chk = .ok s' →
    ∃ above', Pops s above below (somes want.reverse) s' above' ∧ (chk = true → Match above' []) := by
  fun_cases VS.requireStackValues s want chk <;> intro hp <;> cases hp
  next popped ht h1 hc =>
    obtain ⟨a1, hlen, hb1⟩ := popN_back h h1
    have hp1 := hb1 _ (stkLe_of_typesOK (by simp [hlen]) ht)
    exact ⟨a1, hp1, fun hchk => match_nil_of_atLimit hp1.1 (Classical.not_not.1 fun hn => hc ⟨hchk, hn⟩)⟩

theorem reset_rep (h : Rep s above below) :
    Rep s.resetAtStackLimit [] below ∧ s.resetAtStackLimit.limits = s.limits := by
  refine ⟨⟨?_, h.2⟩, rfl⟩
  simp [VS.resetAtStackLimit, h.1, h.2]

theorem unreachable_rep (h : Rep s above below) :
    Rep s.unreachable [none] below ∧ s.unreachable.limits = s.limits :=
  ⟨push_rep none (reset_rep h).1, rfl⟩

theorem pushStackLimit_rep (h : Rep s above below) :
    Rep (s.pushStackLimit 0) [] (above ++ below) :=
  ⟨h.1, congrArg List.length h.1⟩

end

def labels (cs : List CF) : List (List VT) := cs.map CF.labelTypes

theorem labels_get {cs : List CF} {l : Nat} {f : CF} (h : cs[l]? = some f) : (labels cs)[l]? = some f.labelTypes := by
  simp [labels, List.getElem?_map, h]

/-- One step of the algorithm from `s` (whose part above the limit is `above`) to `s'`: the part below the limit
and the limits are untouched, and every stack type admitted afterwards is reached by `is` from a stack type
admitted before. -/
def Back (C : Ctx) (ls : List (List VT)) (is : List TI) (s : VS) (above below : List OT) (s' : VS) : Prop :=
  ∃ above', Rep s' above' below ∧ s'.limits = s.limits ∧
    ∀ ts', Match above' ts' → ∃ ts, Match above ts ∧ HasType C ls is ts ts'

section
variable {C : Ctx} {ls : List (List VT)} {s s' : VS} {above below : List OT}

theorem Pops.back {is} {s1 : VS} {p a1} {q : List VT} (hp : Pops s above below p s1 a1)
    (hr : Rep s' (somes q ++ a1) below) (hl : s'.limits = s1.limits) (ht : HasType C ls is p (somes q)) :
    Back C ls is s above below s' := by
  refine ⟨_, hr, hl.trans hp.2.1, fun ts' hm => ?_⟩
  obtain ⟨r, rfl, hm'⟩ := match_somes_append hm
  exact ⟨p ++ r, hp.2.2 r hm', .frame r ht⟩

theorem Pops.back_pushAll {is} {s1 : VS} {p a1} {q : List VT} (hp : Pops s above below p s1 a1)
    (ht : HasType C ls is p (somes q.reverse)) : Back C ls is s above below (s1.pushAll q) :=
  hp.back (pushAll_rep hp.1).1 (pushAll_rep hp.1).2 ht

theorem Pops.back_unreachable {is} {s1 : VS} {p a1} (hp : Pops s above below p s1 a1)
    (ht : ∀ ts1 ts2, HasType C ls is (p ++ ts1) ts2) : Back C ls is s above below s1.unreachable := by
  obtain ⟨r, hm⟩ := match_inhabited a1
  exact ⟨_, (unreachable_rep hp.1).1, hp.2.1, fun ts' _ => ⟨_, hp.2.2 r hm, ht r ts'⟩⟩

theorem sig_case {i} {ps rs : List VT} (h : Rep s above below)
    (hp : s.applySig ps rs = .ok s') (ht : HasType C ls [i] (somes ps.reverse) (somes rs.reverse)) :
    Back C ls [i] s above below s' := by
  obtain ⟨s1, a1, hp1, rfl⟩ := applySig_back h hp
  exact hp1.back_pushAll ht

/-- The rules `HasType.block`, `.loop`, `.ite` give a frame the results `btResults bt` as they stand, the algorithm
finds them reversed (`endBlock_back`): the same for the block types of W0, which have at most one result. -/
theorem btResults_reverse (bt : Option VT) : (btResults bt).reverse = btResults bt := by
  cases bt <;> rfl

/-- The check that ends a body: at `end`, and at `else` for the then-branch. -/
theorem endCheck_back {body} {s0 s1 s2 : VS} {rs : List VT} {bel : List OT}
    (hb : Back C ls body s0 [] bel s1) (h2 : s1.requireStackValues rs true = .ok s2) :
    HasType C ls body [] (somes rs.reverse) ∧ ∃ a2, Rep s2 a2 bel ∧ s2.limits = s0.limits := by
  obtain ⟨a1, hr1, hl1, hb1⟩ := hb
  obtain ⟨a2, hp2, hc2⟩ := requireStackValues_back hr1 h2
  obtain ⟨_, rfl, hty⟩ := hb1 _ (List.append_nil _ ▸ hp2.2.2 [] (hc2 rfl))
  exact ⟨hty, a2, hp2.1, hp2.2.1.trans hl1⟩

theorem endBlock_back {body} {s0 s1 : VS} {rs : List VT} {bel : List OT} (hb : Back C ls body s0 [] bel s1) :
    s1.endBlock rs = .ok s' →
    HasType C ls body [] (somes rs.reverse) ∧ s'.stack = somes rs.reverse ++ bel ∧ s'.limits = s0.limits.tail := by
  fun_cases VS.endBlock s1 rs <;> intro hp <;> cases hp
  next s2 h2 =>
    obtain ⟨hty, a2, hr2, hl2⟩ := endCheck_back hb h2
    obtain ⟨hr3, hl3⟩ := pushAll_rep (l := rs) (reset_rep hr2).1
    exact ⟨hty, by simpa [VS.popStackLimit] using hr3.1, by rw [← hl2]; exact congrArg List.tail hl3⟩

/-- The `end` of `block`, `loop` and `if`: `p` was popped, the frame entered in state `e` (limit pushed, nothing
above it) and the body checked. -/
theorem Pops.back_end {lsb i body} {s0 e s2 : VS} {p a0} {bt : Option VT}
    (hp : Pops s above below p s0 a0) (hb : Back C lsb body e [] (a0 ++ below) s2) (hl : e.limits.tail = s0.limits)
    (hc : s2.endBlock (btResults bt) = .ok s')
    (ht : HasType C lsb body [] (somes (btResults bt)) → HasType C ls [i] p (somes (btResults bt))) :
    Back C ls [i] s above below s' := by
  obtain ⟨hty, hst, hlim⟩ := endBlock_back hb hc
  rw [btResults_reverse] at hty hst
  rw [hl] at hlim
  exact hp.back ⟨by rw [hst, List.append_assoc], by rw [VS.limit, hlim]; exact hp.1.2⟩ hlim (ht hty)

/-- below 63 the Go test `1<<align > width/8` is the specification's (quirk Q3) -/
theorem align_le {al w : Nat} (hs : decide (al < 63) = true) (h : alignOK al w = true) : 2 ^ al ≤ w / 8 := by
  simp only [alignOK, Bool.or_eq_true, decide_eq_true_eq] at h hs
  omega

theorem stkLe_refl : ∀ ts : List OT, StkLe ts ts
  | [] => trivial
  | _ :: ts => ⟨Or.inr rfl, stkLe_refl ts⟩

theorem stkLe_of_labelAgrees : ∀ {ds : List OT} {ts : List VT}, labelAgrees ds ts = true → StkLe ds (somes ts)
  | [], [], _ => trivial
  | d :: ds, t :: ts, h => by
    simp only [labelAgrees, Bool.and_eq_true, Bool.or_eq_true, beq_iff_eq] at h
    exact ⟨h.1, stkLe_of_labelAgrees h.2⟩

theorem brTablePop_back {l : List VT} {dt : List OT} (h : Rep s above below) :
    brTablePop s l = .ok (dt, s') → ∃ above', StkLe dt (somes l) ∧ Pops s above below dt s' above' := by
  fun_induction brTablePop s l generalizing above dt <;> intro hp <;> cases hp
  next => exact ⟨above, trivial, .refl h⟩
  -- an unknown operand, or one of the expected type: either way the operand itself is recorded
  next h1 ih h2 =>
    obtain ⟨a1, hb1, _⟩ := tryPop_back h (pop_ok h1)
    obtain ⟨a2, hle2, hp2⟩ := ih (hb1 _ (.inr rfl)).1 h2
    exact ⟨a2, ⟨.inl rfl, hle2⟩, (hb1 _ (.inr rfl)).trans hp2⟩
  next h1 _ ih h2 =>
    obtain ⟨a1, hb1, _⟩ := tryPop_back h (pop_ok h1)
    obtain ⟨a2, hle2, hp2⟩ := ih (hb1 _ (.inr rfl)).1 h2
    exact ⟨a2, ⟨.inr rfl, hle2⟩, (hb1 _ (.inr rfl)).trans hp2⟩

theorem brTable_labels {cs : List CF} {tbl : List Nat} {d dflt} {dt : List OT} {ok : CF → Bool}
    (hd : cs[d]? = some dflt) (hdt : StkLe dt (somes dflt.labelTypes.reverse))
    (hall : tbl.all (fun l => match cs[l]? with | none => false | some f => ok f) = true)
    (hok : ∀ f, ok f = true → StkLe dt (somes f.labelTypes.reverse)) :
    ∀ l, l ∈ d :: tbl → ∃ lt, (labels cs)[l]? = some lt ∧ StkLe dt (somes lt.reverse) := by
  intro l hl
  rcases List.mem_cons.1 hl with rfl | hl
  · exact ⟨_, labels_get hd, hdt⟩
  · have := List.all_eq_true.1 hall l hl
    split at this
    · cases this
    · next f hf => exact ⟨_, labels_get hf, hok f this⟩

/-- `select` pushes `v`, the type of the first operand unless that is unknown (quirk Q2) -/
theorem select_back {s1 s2 s3 : VS} {v1 v2 v : OT} (hr : Rep s above below)
    (h1 : s.popAndVerifyType .i32 = .ok s1) (h2 : s1.pop = .ok (v1, s2)) (h3 : s2.pop = .ok (v2, s3))
    (hcond : ¬ (v1 ≠ v2 ∧ v1 ≠ none ∧ v2 ≠ none)) (hv : (if v1 = none then v2 else v1) = v) :
    Back C ls [.select] s above below (s3.push v) := by
  obtain ⟨a1, hp1⟩ := popAndVerifyType_back hr h1
  obtain ⟨a2, hb2, _⟩ := tryPop_back hp1.1 (pop_ok h2)
  obtain ⟨a3, hb3, hn3⟩ := tryPop_back (hb2 v1 (.inr rfl)).1 (pop_ok h3)
  have hp : ∀ {t1 t2}, OT.le v1 t1 → OT.le v2 t2 → Pops s above below [some .i32, t1, t2] s3 a3 :=
    fun h1 h2 => hp1.trans ((hb2 _ h1).trans (hb3 _ h2))
  -- `v` is a type that every type matching both operands' types matches
  have key : (v = none → a3 ≠ []) → (∀ t, OT.le v t → OT.le v1 t ∧ OT.le v2 t) →
      Back C ls [.select] s above below (s3.push v) := fun hne hle =>
    ⟨_, push_rep v (hp (.inr rfl) (.inr rfl)).1, (hp (.inr rfl) (.inr rfl)).2.1, fun ts' hm => by
      obtain ⟨t, r, rfl, hvt, hm3⟩ := match_push hne hm
      exact ⟨_, (hp (hle t hvt).1 (hle t hvt).2).2.2 r hm3, .frame r (.select t)⟩⟩
  split at hv <;> subst hv
  · next hv1 => exact key hn3 fun t hle => ⟨.inl hv1, hle⟩
  · next hv1 =>
    refine key (absurd · hv1) fun t hle => ⟨hle, ?_⟩
    obtain rfl := (hle : _ ∨ _).resolve_left hv1
    exact Decidable.or_iff_not_imp_left.2 fun h2n =>
      Decidable.byContradiction fun h12 => hcond ⟨Ne.symm h12, hv1, h2n⟩

end

/-- Soundness of one instruction and of a sequence, by the induction principle that Lean derives from the mutual
definition of `checkInstr` and `checkSeq`: one case per path through them, in the order of the model, with what each
`match` and `if` on the path found and, for the bodies of `block`, `loop`, `if` and for `i :: is`, the induction
hypotheses. `hc` says that the answer of the path is `.ok s'`: a path that ends in an error goes at once. -/
theorem sound (C : Ctx) :
    (∀ cs i s, ∀ s' above below, alignSaneI i = true → checkInstr C cs i s = .ok s' → Rep s above below →
      Back C (labels cs) [i] s above below s') ∧
    (∀ cs is s, ∀ s' above below, alignSane is = true → checkSeq C cs is s = .ok s' → Rep s above below →
      Back C (labels cs) is s above below s') := by
  apply checkInstr.mutual_induct_unfolding C
    (motive_1 := fun cs i s r => ∀ s' above below, alignSaneI i = true → r = .ok s' → Rep s above below →
      Back C (labels cs) [i] s above below s')
    (motive_2 := fun cs is s r => ∀ s' above below, alignSane is = true → r = .ok s' → Rep s above below →
      Back C (labels cs) is s above below s')
  all_goals (intros; rename_i s' above below hal hc hr; try (cases hc; done))
  -- `const`; then `num`, `local.*`, `global.*`, `load`, `store`, `memory.*`: a fixed signature
  next => cases hc; exact (Pops.refl hr).back_pushAll (q := [_]) .const
  next hs => exact sig_case hr hc (.num hs)
  next ht => exact sig_case hr hc (.localGet ht)
  next ht => exact sig_case hr hc (.localSet ht)
  next ht => exact sig_case hr hc (.localTee ht)
  next ht => exact sig_case hr hc (.globalGet ht)
  next ht => exact sig_case hr hc (.globalSet ht)
  next hm hw ha =>
    exact sig_case hr hc
      (.load (Bool.of_not_eq_false hm) (Bool.of_not_eq_false hw) (align_le hal (Bool.of_not_eq_false ha)))
  next hm hw ha =>
    exact sig_case hr hc
      (.store (Bool.of_not_eq_false hm) (Bool.of_not_eq_false hw) (align_le hal (Bool.of_not_eq_false ha)))
  next hm => exact sig_case hr hc (.memSize (Bool.of_not_eq_false hm))
  next hm => exact sig_case hr hc (.memGrow (Bool.of_not_eq_false hm))
  next hm => exact sig_case hr hc (.memCopy (Bool.of_not_eq_false hm))
  next hm => exact sig_case hr hc (.memFill (Bool.of_not_eq_false hm))
  -- `drop`; `select`, whichever operand's type is pushed
  next x _ h1 =>
    cases hc
    obtain ⟨a1, hb1, _⟩ := tryPop_back hr (pop_ok h1)
    exact (hb1 x (.inr rfl)).back_pushAll (q := []) (.drop x)
  next h1 _ _ _ h3 h2 hcond => cases hc; exact select_back hr h1 h2 h3 hcond (if_pos rfl)
  next h1 _ _ h2 _ _ h3 hcond hv1 => cases hc; exact select_back hr h1 h2 h3 hcond (if_neg hv1)
  -- `unreachable`, `nop`; `return`, `br`: the operands of the target, then nothing is reachable
  next => cases hc; exact (Pops.refl hr).back_unreachable .unreachable
  next => cases hc; exact (Pops.refl hr).back_pushAll (q := []) .nop
  next h1 =>
    cases hc
    obtain ⟨a1, hp1, _⟩ := requireStackValues_back hr h1
    exact hp1.back_unreachable .ret
  next htg _ h1 =>
    cases hc
    obtain ⟨a1, hp1, _⟩ := requireStackValues_back hr h1
    exact hp1.back_unreachable fun ts1 ts2 => .br ts1 ts2 (labels_get htg)
  -- `br_if`: the operands of the target are put back
  next htg _ h1 _ h2 =>
    cases hc
    obtain ⟨a1, hp1⟩ := popAndVerifyType_back hr h1
    obtain ⟨a2, hp2, _⟩ := requireStackValues_back hp1.1 h2
    exact (hp1.trans hp2).back_pushAll (.brIf (labels_get htg))
  -- `br_table` with reference types (quirk Q4: the operands found decide), and without
  next hd _ h1 _ dt _ h2 hall =>
    cases hc
    obtain ⟨a1, hp1⟩ := popAndVerifyType_back hr h1
    obtain ⟨a2, hle2, hp2⟩ := brTablePop_back hp1.1 h2
    exact (hp1.trans hp2).back_unreachable fun ts1 ts2 =>
      .brTable dt ts1 ts2 (brTable_labels hd hle2 hall fun _ => stkLe_of_labelAgrees)
  next hd _ h1 _ _ h2 hall =>
    cases hc
    obtain ⟨a1, hp1⟩ := popAndVerifyType_back hr h1
    obtain ⟨a2, hp2, _⟩ := requireStackValues_back hp1.1 h2
    exact (hp1.trans hp2).back_unreachable fun ts1 ts2 =>
      .brTable _ ts1 ts2 (brTable_labels hd (stkLe_refl _) hall fun f hf => by
        rw [beq_iff_eq.1 hf]; exact stkLe_refl _)
  -- `call`, `call_indirect`
  next hti _ hft => exact sig_case hr hc (.call hti hft)
  next hft htab _ h1 =>
    obtain ⟨a1, hp1⟩ := popAndVerifyType_back hr h1
    obtain ⟨s2, a2, hp2, rfl⟩ := applySig_back hp1.1 hc
    exact (hp1.trans hp2).back_pushAll (.callIndirect (Bool.of_not_eq_false htab) hft)
  -- `block`, `loop`, `if`: the bodies were checked (`h2`; `h1`, `h3`) in a frame of their own
  next h2 ih =>
    exact (Pops.refl hr).back_end (ih _ _ _ hal h2 (pushStackLimit_rep hr)) rfl hc .block
  next h2 ih =>
    exact (Pops.refl hr).back_end (ih _ _ _ hal h2 (pushStackLimit_rep hr)) rfl hc .loop
  next h0 _ h1 _ h2 _ h3 ih1 ih2 =>
    simp only [alignSaneI, Bool.and_eq_true] at hal
    obtain ⟨a0, hp0⟩ := popAndVerifyType_back hr h0
    have hb1 := ih1 _ _ _ hal.1 h1 (pushStackLimit_rep hp0.1)
    -- the `else`: the end check of the then-branch without the pushes
    obtain ⟨hty1, a2, hr2, hl2⟩ := endCheck_back hb1 h2
    rw [btResults_reverse] at hty1
    exact hp0.back_end (ih2 _ _ _ hal.2 h3 (reset_rep hr2).1) (congrArg List.tail hl2) hc (.ite hty1)
  next => cases hc; exact (Pops.refl hr).back_pushAll (q := []) .nil
  next h1 ih1 ih2 =>
    simp only [alignSane, Bool.and_eq_true] at hal
    obtain ⟨a1, hr1, hl1, hb1⟩ := ih1 _ _ _ hal.1 h1 hr
    obtain ⟨a2, hr2, hl2, hb2⟩ := ih2 _ _ _ hal.2 hc hr1
    refine ⟨a2, hr2, hl2.trans hl1, fun ts' hm => ?_⟩
    obtain ⟨t1, hm1, hty1⟩ := hb2 ts' hm
    obtain ⟨t0, hm0, hty0⟩ := hb1 t1 hm1
    exact ⟨t0, hm0, .cons hty0 hty1⟩

theorem sound_instr (C : Ctx) : (i : TI) → ∀ (cs : List CF) (s s' : VS) (above below : List OT),
    alignSaneI i = true → checkInstr C cs i s = .ok s' → Rep s above below →
    Back C (labels cs) [i] s above below s' :=
  fun i cs s => (sound C).1 cs i s

/-- **Soundness of the validator model** for all W0 bodies: what `check` accepts is well typed by the
declarative rules, provided no load/store uses an alignment exponent ≥ 63 (quirk Q3: those are accepted by the
Go code although the specification rejects them). -/
theorem validate_sound_W0 (C : Ctx) (body : List TI) (hal : alignSane body = true)
    (h : check C body = .ok ()) : WellTyped C body := by
  revert h
  fun_cases check C body <;> intro h <;> cases h
  next s hs _ he => exact (endBlock_back ((sound C).2 _ body _ _ _ _ hal hs ⟨rfl, rfl⟩) he).1

/-- the reference semantics knows the numeric instruction `name` at its arity -/
def NumOKName (name : String) : Prop :=
  ∀ ps r, numSig name = some (ps, r) → ∀ args : List Nat, args.length = ps.length → (Num.scalar name args).isSome

section
variable {m : Module} {U : Prop} {nf : Nat} {ls : List (List VT)} {nres : Nat}

theorem runs_num {name ps r} (hsig : numSig name = some (ps, r)) (hn : U → NumOKName name) :
    Runs m U nf ls nres (execInstr m · (eraseI (.num name))) ps.length 1 :=
  .of_succ fun k _ ⟨stk, loc⟩ st b hb => by
    have hsc := fun hu args => hn hu ps r hsig args
    unfold numSig at hsig
    simp only [eraseI]
    split at hsig <;> cases hsig <;> (rename_i hsh; rw [hsh])
    · match stk, hb with
      | x :: s, hb => exact execInstr_num1 .. ▸ good_num (Nat.succ.inj hb) fun hu => hsc hu [x] rfl
    · match stk, hb with
      | y :: x :: s, hb =>
        exact execInstr_num2 .. ▸ good_num (Nat.add_right_cancel (m := 2) hb) fun hu => hsc hu [x, y] rfl

end

structure TFunc where
  type : Nat
  locals : List VT
  body : List TI

/-- a module with typed function bodies (only what validation and the semantics of calls look at) -/
structure TModule where
  types : List FuncType := []
  imports : List Nat := []              -- type index of each host import
  funcs : List TFunc := []
  globals : List (VT × Bool) := []
  hasMem : Bool := false
  hasTable : Bool := false
  table : List Nat := []

/-- type index per function index, imports first -/
def TModule.funcIdx (tm : TModule) : List Nat := tm.imports ++ tm.funcs.map (·.type)

def TModule.ctx (tm : TModule) (f : TFunc) : Ctx :=
  { types := tm.types, funcs := tm.funcIdx, globals := tm.globals, hasMem := tm.hasMem, hasTable := tm.hasTable,
    locals := (tm.types.getD f.type default).params ++ f.locals,
    results := (tm.types.getD f.type default).results }

/-- `m` is the erasure of the typed module `tm`, all of whose functions are well typed; host imports have at
most one result (`hostResult` produces at most one value) and the table only holds function indices. -/
structure ModuleOK (m : Module) (tm : TModule) : Prop where
  types : m.types = tm.types
  imports : m.imports = tm.imports
  funcs : m.funcs = tm.funcs.map (fun f => ⟨f.type, f.locals, erase f.body⟩)
  table : m.table = tm.table
  importResults : ∀ ti, ti ∈ tm.imports → (tm.types.getD ti default).results.length ≤ 1
  wellTyped : ∀ f, f ∈ tm.funcs → WellTyped (tm.ctx f) f.body
  tableOK : ∀ fi, fi ∈ tm.table → fi < tm.funcIdx.length

mutual
def numOKI : TI → Prop
  | .num name => NumOKName name
  | .block _ body => numOK body
  | .loop _ body => numOK body
  | .ite _ th el => numOK th ∧ numOK el
  | _ => True
def numOK : List TI → Prop
  | [] => True
  | i :: is => numOKI i ∧ numOK is
end

/-- `NumOK`: every numeric instruction name occurring in the code of the module is known to `Num.scalar` -/
def NumOK (tm : TModule) : Prop := ∀ f, f ∈ tm.funcs → numOK f.body

theorem stkLe_length : ∀ {a b : List OT}, StkLe a b → a.length = b.length
  | [], [], _ => rfl
  | _ :: _, _ :: _, h => congrArg Nat.succ (stkLe_length h.2)

@[simp] theorem somes_length (l : List VT) : (somes l).length = l.length := List.length_map ..

theorem arity_eq (bt : Option VT) : arity bt = (btResults bt).length := by cases bt <;> rfl

/-- **The height invariant**: well-typed code `Runs` at the heights of its stack type, in a module `m` that agrees with
the context (`hfun`, `htyp`, `htab`). -/
theorem seq_ok {m : Module} {U : Prop} {nf : Nat} {C : Ctx}
    (hfun : ∀ f ti ft, C.funcs[f]? = some ti → C.types[ti]? = some ft → f < nf ∧ funcType m f = ft)
    (htyp : ∀ ti ft, C.types[ti]? = some ft → m.types.getD ti default = ft)
    (htab : ∀ fi, fi ∈ m.table → fi < nf)
    {ls is ts1 ts2} (ht : HasType C ls is ts1 ts2) (hn : U → numOK is) :
    Runs m U nf ls C.results.length (execSeq m · (erase is)) ts1.length ts2.length := by
  induction ht with
  | nil => exact runs_nil
  | cons _ _ ih1 ih2 => exact (ih1 fun hu => ⟨(hn hu).1, trivial⟩).cons (ih2 fun hu => (hn hu).2)
  | frame ts _ ih => simpa only [List.length_append] using (ih hn).frame ts.length
  | sub _ h1 h2 ih => rw [stkLe_length h1, ← stkLe_length h2]; exact ih hn
  | num hsig => simpa [erase] using (runs_num hsig fun hu => (hn hu).1).single
  | nop => exact runs_nop.single
  | unreachable => exact runs_unreachable.single
  | ret => exact (runs_ret (by simp)).single
  | br _ _ hl => exact (runs_br hl (by simp)).single
  | brIf hl => simpa [erase, eraseI] using (runs_brIf hl).single
  | brTable ts _ _ hall =>
    refine (runs_brTable (n := ts.length) (fun l hl => ?_) (by simp)).single
    obtain ⟨lt, h1, h2⟩ := hall l hl
    exact ⟨lt, h1, by simpa using (stkLe_length h2).symm⟩
  | call hti hft =>
    obtain ⟨hf, rfl⟩ := hfun _ _ _ hti hft
    simpa [erase, eraseI] using (runs_call hf).single
  | callIndirect _ hft => simpa [erase, eraseI] using (runs_callIndirect (htyp _ _ hft) htab).single
  | block _ ih => simpa [erase, eraseI, arity_eq] using (Runs.block (by simpa using ih fun hu => (hn hu).1)).single
  | loop _ ih => exact (Runs.loop (ih fun hu => (hn hu).1)).single
  | ite _ _ ih1 ih2 =>
    simpa [erase, eraseI, arity_eq] using
      (Runs.ite (by simpa using ih1 fun hu => (hn hu).1.1) (by simpa using ih2 fun hu => (hn hu).1.2)).single
  -- const, local.*, global.*, load, store, memory.*, drop, select: the rule's heights are `plainSig`
  | _ => exact (runs_plain rfl).single

theorem funcIdx_length (tm : TModule) : tm.funcIdx.length = tm.imports.length + tm.funcs.length := by
  simp [TModule.funcIdx]

theorem funcType_import {m tm} (hok : ModuleOK m tm) {f} (hf : f < tm.imports.length) :
    funcType m f = tm.types.getD tm.imports[f] default := by
  simp [funcType, hok.types, hok.imports, hf]

theorem funcType_defined {m tm} (hok : ModuleOK m tm) {i} (hi : i < tm.funcs.length) :
    funcType m (tm.imports.length + i) = tm.types.getD tm.funcs[i].type default ∧
    m.funcs.getD i default = ⟨tm.funcs[i].type, tm.funcs[i].locals, erase tm.funcs[i].body⟩ := by
  simp [funcType, hok.types, hok.imports, hok.funcs, hi, Nat.not_lt.2 (Nat.le_add_right ..)]

theorem funcType_spec {m tm} (hok : ModuleOK m tm) {f ti ft} (h1 : tm.funcIdx[f]? = some ti)
    (h2 : tm.types[ti]? = some ft) : f < tm.funcIdx.length ∧ funcType m f = ft := by
  obtain ⟨hf, rfl⟩ := List.getElem?_eq_some_iff.1 h1
  refine ⟨hf, ?_⟩
  have hft : ∀ ti, tm.types[ti]? = some ft → tm.types.getD ti default = ft := fun ti h => by simp [h]
  by_cases hi : f < tm.imports.length
  · rw [funcType_import hok hi]
    exact hft _ (by simpa [TModule.funcIdx, List.getElem_append_left hi] using h2)
  · obtain ⟨i, rfl⟩ := Nat.exists_eq_add_of_le (Nat.le_of_not_lt hi)
    have hi : i < tm.funcs.length := by rw [funcIdx_length] at hf; omega
    rw [(funcType_defined hok hi).1]
    exact hft _ (by simpa [TModule.funcIdx] using h2)

theorem hostResult_length (i : Nat) (ft : FuncType) (args : List Nat) (h : ft.results.length ≤ 1) :
    (hostResult i ft args).length = ft.results.length := by
  unfold hostResult
  match hr : ft.results, h with
  | [], _ => rfl
  | [t], _ => cases t <;> rfl

theorem body_ok {m tm} (hok : ModuleOK m tm) {U : Prop} (hnum : U → NumOK tm) {tf} (hmem : tf ∈ tm.funcs) :
    Runs m U tm.funcIdx.length [(tm.ctx tf).results] (tm.ctx tf).results.length (execSeq m · (erase tf.body))
      0 (tm.ctx tf).results.length := by
  simpa using seq_ok (m := m) (fun f ti ft h1 h2 => funcType_spec hok h1 h2)
    (fun ti ft h2 => by rw [hok.types, List.getD_eq_getElem?_getD, show tm.types[ti]? = some ft from h2]; rfl)
    (fun fi hfi => hok.tableOK fi (hok.table ▸ hfi)) (hok.wellTyped tf hmem) (fun hu => hnum hu tf hmem)

theorem callOK_all {m tm} (hok : ModuleOK m tm) {U : Prop} (hnum : U → NumOK tm) (k : Nat) :
    CallOK m U tm.funcIdx.length k := by
  induction k using Nat.strongRecOn with
  | _ k ih =>
    intro f fr st b ls nres hf hb
    cases k with
    | zero => trivial
    | succ k =>
      show Good _ _ _ _ _ (if f < m.imports.length then _ else _)
      rw [hok.imports]
      by_cases hi : f < tm.imports.length
      · -- a host import returns as many values as its type has results, if that is at most one: `hostResult`
        -- never produces more (hence `ModuleOK.importResults`)
        have hres := hostResult_length f _ ((fr.stack.take (funcType m f).params.length).reverse)
          (funcType_import hok hi ▸ hok.importResults _ (List.getElem_mem hi))
        rw [if_pos hi]
        show (_ ++ _ : List Nat).length = _
        rw [List.length_append, List.length_reverse, List.length_drop, hres]
        omega
      · obtain ⟨i, rfl⟩ := Nat.exists_eq_add_of_le (Nat.le_of_not_lt hi)
        have hi' : i < tm.funcs.length := by rw [funcIdx_length] at hf; omega
        obtain ⟨hft, hfn⟩ := funcType_defined hok hi'
        have hg : Good _ _ _ _ _ (execSeq m k _ _ st) :=
          body_ok hok hnum (List.getElem_mem hi') k (fun j hj => ih j (Nat.lt_succ_of_lt hj))
            ⟨[], ((fr.stack.take (funcType m (tm.imports.length + i)).params.length).reverse ++
              tm.funcs[i].locals.map (fun _ => 0)).toArray⟩ st 0 rfl
        rw [show (tm.ctx tm.funcs[i]).results = _ from congrArg FuncType.results hft.symm] at hg
        rw [if_neg hi, Nat.add_sub_cancel_left, hfn]
        exact good_return hg (by rw [List.length_drop]; omega)

/-- **Progress, function bodies**: in a module all of whose functions are well typed, the erased body of any
function, run on any frame, never reports the internal outcome `"stack"` (an operand was missing), for every fuel; and
never `"unsupported"` if the numeric names occurring in the code are known to `Num.scalar` (`NumOK`). -/
theorem welltyped_progress_seq {m : Module} {tm : TModule} (hok : ModuleOK m tm) (tf : TFunc) (hmem : tf ∈ tm.funcs)
    (fuel : Nat) (fr : Frame) (st : Store) :
    (execSeq m fuel (erase tf.body) fr st).1 ≠ .trap "stack" ∧
      (NumOK tm → (execSeq m fuel (erase tf.body) fr st).1 ≠ .trap "unsupported") :=
  good_no (body_ok hok id hmem fuel (fun j _ => callOK_all hok id j) fr st fr.stack.length rfl)

/-- the declarative rules really require `2^align ≤ width/8` of every (top-level) load of a typed sequence -/
theorem hasType_load_align {C : Ctx} {ls is ts1 ts2} (h : HasType C ls is ts1 ts2) :
    ∀ t w sg al off, TI.load t w sg al off ∈ is → 2 ^ al ≤ w / 8 := by
  induction h with
  | cons _ _ ih1 ih2 =>
    intro t w sg al off hmem
    rcases List.mem_cons.1 hmem with rfl | hmem
    · exact ih1 t w sg al off (by simp)
    · exact ih2 t w sg al off hmem
  | frame _ _ ih => exact ih
  | sub _ _ _ ih => exact ih
  | load _ _ h3 =>
    intro t w sg al off hmem
    simp only [List.mem_singleton, TI.load.injEq] at hmem
    obtain ⟨rfl, rfl, rfl, rfl, rfl⟩ := hmem
    exact h3
  | _ => intro t w sg al off hmem; simp at hmem

section examples

def C0 : Ctx :=
  { types := [⟨[.i32], [.i32]⟩], funcs := [0], locals := [.i32], results := [.i32], hasMem := true }

/-- a body with a block, a `br_if`, a call (to itself) and arithmetic -/
def body0 : List TI :=
  [.block (some .i32) [.localGet 0, .localGet 0, .brIf 0, .call 0, .const .i32 1, .num "i32.add"]]

theorem check_of_accepts {C : Ctx} {body} (h : accepts C body = true) : check C body = .ok () := by
  unfold accepts at h
  split at h
  · assumption
  · cases h

theorem accepts_body0 : accepts C0 body0 = true := by decide +kernel

example : check C0 body0 = .ok () := check_of_accepts accepts_body0
example : accepts C0 body0 = true := accepts_body0
example : WellTyped C0 body0 := validate_sound_W0 C0 body0 (by decide +kernel) (check_of_accepts accepts_body0)

-- ill-typed bodies are rejected
example : accepts C0 [.num "i32.add"] = false := by decide +kernel
example : accepts C0 [.const .i64 0, .const .i32 1, .num "i32.add"] = false := by decide +kernel
example : accepts C0 [.br 5] = false := by decide +kernel
example : accepts C0 [.const .i32 0, .ite (some .i32) [.const .i32 1] []] = false := by decide +kernel
-- dead code is polymorphic, but not arbitrarily so
example : accepts C0 [.unreachable, .num "i32.add"] = true := by decide +kernel
example : accepts C0 [.unreachable, .const .i64 0, .num "i32.add"] = false := by decide +kernel

/-- the erased ill-typed body really runs into the internal outcome -/
example : (execSeq {} 5 (erase [.num "i32.add"]) {} {}).1 = .trap "stack" := by decide +kernel

/-- quirk Q3 (a finding): an alignment exponent ≥ 63 is accepted (and 3 … 62 are rejected) -/
example : accepts C0 [.const .i32 0, .load .i32 32 false 64 0] = true := by decide +kernel
example : accepts C0 [.const .i32 0, .load .i32 32 false 3 0] = false := by decide +kernel
example : alignSane [.const .i32 0, .load .i32 32 false 64 0] = false := by decide +kernel
/-- … and that body is NOT well typed by the declarative rules: the side condition of `validate_sound_W0` is needed -/
example : ¬ WellTyped C0 [.const .i32 0, .load .i32 32 false 64 0] := fun h => by
  have := hasType_load_align h .i32 32 false 64 0 (by simp)
  omega

/-- quirk Q4: with reference types, `br_table` in dead code may mix labels of different types -/
def bodyQ4 : List TI :=
  [.block (some .i32) [.block (some .i64) [.unreachable, .brTable [0] 1], .drop, .const .i32 0]]
example : accepts C0 bodyQ4 = true := by decide +kernel
example : accepts { C0 with refTypes := false } bodyQ4 = false := by decide +kernel

/-- a concrete module satisfying `ModuleOK` (well-typedness obtained from the checker by soundness) -/
def tm0 : TModule :=
  { types := [⟨[.i32], [.i32]⟩], funcs := [⟨0, [], body0⟩], hasMem := true }
def m0 : Module :=
  { types := [⟨[.i32], [.i32]⟩], funcs := [⟨0, [], erase body0⟩], hasMem := true }

example : ModuleOK m0 tm0 where
  types := rfl
  imports := rfl
  funcs := rfl
  table := rfl
  importResults := nofun
  wellTyped := by
    intro f hf
    cases List.mem_singleton.1 hf
    exact validate_sound_W0 _ _ (by decide +kernel) (check_of_accepts accepts_body0)
  tableOK := nofun

end examples

end Wz.C03v
