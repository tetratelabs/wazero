/- Lemmas for C12 part 3 (cache state machine): the invariants `CodeSound` and `Live`, each kept by `step`; under a sound
key they give `run_code` (every variant) and `repaired_run`. Core Lean only. -/
import Wz.Model.Cache

namespace Wz.Proofs.C12Cache
open Wz.Model.Cache

set_option linter.unusedSectionVars false
variable {K C α : Type} [DecidableEq K]

theorem lookup_mem {l : List (K × α)} {k : K} {v : α} (h : lookup l k = some v) : (k, v) ∈ l := by
  induction l with
  | nil => cases h
  | cons p t ih =>
    obtain ⟨k', v'⟩ := p
    simp only [lookup] at h
    split at h
    · rename_i hk; cases h; subst hk; exact List.mem_cons_self
    · exact List.mem_cons_of_mem _ (ih h)

theorem lookup_erase_ne (l : List (K × α)) (k k' : K) (hne : k' ≠ k) : lookup (erase l k) k' = lookup l k' := by
  induction l with
  | nil => rfl
  | cons p t ih =>
    obtain ⟨k0, v0⟩ := p
    unfold erase at ih ⊢
    by_cases h0 : k0 = k
    · subst h0
      have : k0 ≠ k' := fun e => hne e.symm
      simp [List.filter, lookup, this, ih]
    · simp [List.filter, h0, lookup, ih]

theorem mem_erase_of {l : List (K × α)} {k : K} {p : K × α} (h : p ∈ erase l k) : p ∈ l :=
  (List.mem_filter.mp h).1

/-- Soundness of the key: equal keys imply equal generated code. -/
def KeySound (P : Params K C) : Prop :=
  ∀ rt₁ b₁ rt₂ b₂, P.key rt₁ b₁ = P.key rt₂ b₂ → P.code rt₁ b₁ = P.code rt₂ b₂

/-- Every cached entry (memory and disk) holds the code some request with that key would generate. -/
def CodeSound (P : Params K C) (s : St K C) : Prop :=
  (∀ p ∈ s.mem, ∃ rt b, P.key rt b = p.1 ∧ p.2.code = P.code rt b) ∧
  (∀ p ∈ s.disk, ∃ rt b, P.key rt b = p.1 ∧ p.2 = P.code rt b)

theorem codeSound_init (P : Params K C) : CodeSound P (St.init : St K C) :=
  ⟨nofun, nofun⟩

theorem codeSound_step (P : Params K C) (v : Variant) (s : St K C) (op : Op) (h : CodeSound P s) :
    CodeSound P (step P v s op).1 := by
  obtain ⟨hm, hd⟩ := h
  have fresh (rt b : Nat) : ∃ rt' b', P.key rt' b' = P.key rt b ∧ P.code rt b = P.code rt' b' := ⟨rt, b, rfl, rfl⟩
  -- `fun_cases` numbers the nine leaves of `step` in the order it lists them (compile: memory hit, disk hit, fresh;
  -- instantiate: no entry, entry, no handle; close: key still referenced, evicted, no handle); all but three leave
  -- `mem` and `disk` alone
  fun_cases step P v s op
  all_goals try exact ⟨hm, hd⟩
  case case2 rt b _ _ c hc =>
    -- a disk hit: the entry's code is the disk's
    split at hc
    · exact ⟨List.forall_mem_cons.2 ⟨hd _ (lookup_mem hc), hm⟩, hd⟩
    · cases hc
  case case3 rt b _ _ _ =>
    -- a fresh compile, stored in memory and (with a file cache) on disk
    refine ⟨List.forall_mem_cons.2 ⟨fresh rt b, hm⟩, ?_⟩
    dsimp only
    split
    · exact List.forall_mem_cons.2 ⟨fresh rt b, hd⟩
    · exact hd
  -- evicted
  case case8 => exact ⟨fun p hp => hm p (mem_erase_of hp), hd⟩

/-- The entry may have been put there by another request with the same key: `hk`. -/
theorem CodeSound.lookup_code {P : Params K C} {s : St K C} (h : CodeSound P s) (hk : KeySound P) {rt b : Nat}
    {e : Entry C} (he : lookup s.mem (P.key rt b) = some e) : e.code = P.code rt b := by
  obtain ⟨rt', b', hkey, hc⟩ := h.1 _ (lookup_mem he)
  exact hc.trans (hk _ _ _ _ hkey)

theorem instantiate_code (P : Params K C) (hk : KeySound P) (v : Variant) (s : St K C) (h : CodeSound P s)
    (rt b : Nat) (c : C) (l : Lst) (ho : (step P v s (.instantiate rt b)).2 = .ran c l) : c = P.code rt b := by
  simp only [step] at ho
  split at ho
  · split at ho
    · cases ho
    · rename_i e he
      cases ho
      exact h.lookup_code hk he
  · cases ho

/-- All successful instantiations of a whole history run the fresh code. -/
theorem run_code (P : Params K C) (hk : KeySound P) (v : Variant) :
    ∀ (ops : List Op) (s : St K C), CodeSound P s →
      ∀ (i rt b : Nat) (c : C) (l : Lst), ops[i]? = some (Op.instantiate rt b) → (run P v s ops)[i]? = some (Out.ran c l) → c = P.code rt b := by
  intro ops
  induction ops with
  | nil => intro s _ i rt b c l h; cases h
  | cons op ops ih =>
    intro s hs i rt b c l hop hout
    cases i with
    | zero =>
      cases hop
      exact instantiate_code P hk v s hs rt b c l (Option.some.inj hout)
    | succ i => exact ih _ (codeSound_step P v s op hs) i rt b c l hop hout

/-- Handles evolve exactly as in the specification, whatever the variant. -/
theorem handles_step (P : Params K C) (v : Variant) (s : St K C) (op : Op) :
    (step P v s op).1.handles = (specStep P s.handles op).1 := by
  fun_cases step P v s op <;> simp only [specStep, *, if_true, if_false] <;> rfl

/-- Repaired variant: every live handle's entry is present. -/
def Live (P : Params K C) (s : St K C) : Prop :=
  ∀ h ∈ s.handles, (lookup s.mem (P.key h.1 h.2)).isSome = true

theorem live_init (P : Params K C) : Live P (St.init : St K C) := nofun

theorem lookup_cons_some (l : List (K × α)) (k k' : K) (v : α) (h : (lookup l k').isSome = true) :
    (lookup ((k, v) :: l) k').isSome = true := by
  simp only [lookup]; split <;> simp_all

theorem live_step (P : Params K C) (v : Variant) (hv : v.refcount = true) (s : St K C) (op : Op) (h : Live P s) :
    Live P (step P v s op).1 := by
  -- the leaves as in `codeSound_step`; `instantiate` and a close without handle leave the state alone
  fun_cases step P v s op
  all_goals try exact h
  -- a compile adds a handle whose entry is there (memory hit) or is put there (disk hit, fresh)
  case case1 e he => exact List.forall_mem_cons.2 ⟨Option.isSome_iff_exists.2 ⟨e, he⟩, h⟩
  case case2 | case3 =>
    exact List.forall_mem_cons.2 ⟨by rw [lookup, if_pos rfl]; rfl, fun x hx => lookup_cons_some _ _ _ _ (h x hx)⟩
  -- a close with the key still referenced only drops the handle
  case case7 => exact fun x hx => h x (List.mem_of_mem_erase hx)
  case case8 rt b _ _ _ hc =>
    -- evicted only when no remaining handle has the key: the lookups of the remaining handles are unaffected
    simp only [hv, Bool.true_and, Bool.not_eq_true, List.any_eq_false, decide_eq_true_eq] at hc
    intro x hx
    show (lookup (erase s.mem (P.key rt b)) (P.key x.1 x.2)).isSome = true
    rw [lookup_erase_ne _ _ _ (hc x hx)]
    exact h x (List.mem_of_mem_erase hx)

/-- Repaired variant, one step: the output is the specification's. -/
theorem repaired_step_out (P : Params K C) (hk : KeySound P) (s : St K C) (hs : CodeSound P s) (hl : Live P s) (op : Op) :
    (step P repaired s op).2 = (specStep P s.handles op).2 := by
  -- the leaves as in `codeSound_step`; in seven of them both sides are the same constant
  fun_cases step P repaired s op <;> simp only [specStep, *, if_true, if_false]
  -- `instantiate` with a handle: its entry is there (`Live`) and holds the fresh code (`CodeSound`)
  case case4 rt b hh hn => exact absurd (hl _ hh) (by rw [hn]; nofun)
  case case5 rt b _ e he => exact congrArg (Out.ran · _) (hs.lookup_code hk he)

theorem repaired_run (P : Params K C) (hk : KeySound P) :
    ∀ (ops : List Op) (s : St K C), CodeSound P s → Live P s → run P repaired s ops = specRun P s.handles ops := by
  intro ops
  induction ops with
  | nil => intro s _ _; rfl
  | cons op ops ih =>
    intro s hs hl
    simp only [run, specRun]
    rw [repaired_step_out P hk s hs hl op,
      ih _ (codeSound_step P repaired s op hs) (live_step P repaired rfl s op hl), handles_step]

theorem privateParams_keySound (P : Params K C) (hk : KeySound P) : KeySound (privateParams P) :=
  fun _ _ _ _ h => hk _ _ _ _ (Prod.mk.inj h).2

theorem specRun_private (P : Params K C) : ∀ (ops : List Op) (hs : List (Nat × Nat)),
    specRun (privateParams P) hs ops = specRun P hs ops := by
  intro ops
  induction ops with
  | nil => intro hs; rfl
  | cons op ops ih =>
    intro hs
    have e1 : (specStep (privateParams P) hs op) = (specStep P hs op) := by
      cases op <;> rfl
    simp only [specRun, e1, ih]

end Wz.Proofs.C12Cache
