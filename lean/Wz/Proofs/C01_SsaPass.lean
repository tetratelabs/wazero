import Wz.Proofs.C01_SsaPass_PhiC
import Wz.Proofs.C01_SsaPass_Nop
import Wz.Proofs.C01_SsaPass_Dce
import Wz.Proofs.C01_SsaPass_DeadBlock

/-! C01 (SSA passes): the four passes composed, for any certificate. -/
namespace Wz.Model.SsaPass

theorem passes_sound_of_WF (w : World) (f : Func) (c : Cert) (h : WF c (deadBlockElim f)) (args : List Nat)
    (fuel : Nat) : run w (runPasses f) args fuel = run w f args fuel := by
  have h2 := redundantPhiElim_sound w h
  have h3 := nopElim_sound w h2.wf
  unfold runPasses
  rw [dce_sound w _ h3.wf.aliasNF args fuel, h3.sound, h2.sound,
    deadBlockElim_sound w f (uniqueIds_of_deadBlockElim h.ids)]

theorem passes_sound_of_WF_without_alias (w : World) (f : Func) (c : Cert) (h : WF c (deadBlockElim f))
    (args : List Nat) (fuel : Nat) : run w { runPasses f with alias := [] } args fuel = run w f args fuel := by
  have h3 := nopElim_sound w (redundantPhiElim_sound w h).wf
  rw [← passes_sound_of_WF w f c h args fuel]
  exact dceWith_no_alias w sideEffect _ h3.wf.aliasNF args fuel

end Wz.Model.SsaPass
