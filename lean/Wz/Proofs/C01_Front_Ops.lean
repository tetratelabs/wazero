/-
C01 (front end): every numeric instruction of the straight-line fragment computes, at the specification level
(`Wz.Spec.Num.scalar` of the instruction's NAME), what the SSA instruction the front end emits for it computes
in the SSA semantics (`SsaPass.evalBin / evalCond / evalUn / evalDiv`).  A name `t.op` is taken apart once
(`split_bin` etc.), which reduces `Num.scalar` to `Num.ibin` / `Num.iun` at the width of `t` (`scalar_ibin`,
`scalar_iun`); what is left is the agreement of the specification's operation `op` with the SSA operation.
-/
import Wz.Model.FrontendSL
import Wz.Proofs.C01_Num_Names
import Wz.Proofs.C01_Front_Num

namespace Wz.Proofs.Front
open Wz.Spec Wz.Spec.Wasm Wz.Model.SsaPass Wz.Model.FrontendSL Wz.Proofs.NumNames Wz.Proofs.FrontNum Wz.Proofs.SplitOn Wz.Proofs

def tyStr : Ty → String | .i32 => "i32" | .i64 => "i64"

def binStr : IBin → String
  | .add => "add" | .sub => "sub" | .mul => "mul" | .and => "and" | .or => "or" | .xor => "xor"
  | .shl => "shl" | .shrS => "shr_s" | .shrU => "shr_u" | .rotl => "rotl" | .rotr => "rotr"

def relStr : IRel → String
  | .eq => "eq" | .ne => "ne" | .ltS => "lt_s" | .ltU => "lt_u" | .gtS => "gt_s" | .gtU => "gt_u"
  | .leS => "le_s" | .leU => "le_u" | .geS => "ge_s" | .geU => "ge_u"

def cntStr : ICnt → String
  | .clz => "clz" | .ctz => "ctz" | .popcnt => "popcnt"

def divStr : IDiv → String
  | .divS => "div_s" | .divU => "div_u" | .remS => "rem_s" | .remU => "rem_u"

theorem split_bin (t : Ty) (op : IBin) : (binName t op).splitOn "." = [tyStr t, binStr op] := by
  cases t <;> cases op <;> exact splitOn_singleton '.' _

theorem split_rel (t : Ty) (op : IRel) : (relName t op).splitOn "." = [tyStr t, relStr op] := by
  cases t <;> cases op <;> exact splitOn_singleton '.' _

theorem split_eqz (t : Ty) : (eqzName t).splitOn "." = [tyStr t, "eqz"] := by
  cases t <;> exact splitOn_singleton '.' _

theorem split_cnt (t : Ty) (op : ICnt) : (cntName t op).splitOn "." = [tyStr t, cntStr op] := by
  cases t <;> cases op <;> exact splitOn_singleton '.' _

theorem split_div (t : Ty) (op : IDiv) : (divName t op).splitOn "." = [tyStr t, divStr op] := by
  cases t <;> cases op <;> exact splitOn_singleton '.' _

theorem intPfx_tyStr : ∀ t : Ty, IntPfx (tyStr t) t.bits
  | .i32 => .i32 | .i64 => .i64

theorem some_val {u v : Nat} (h : u = v) : some (Num.Res.val u) = some (Num.Res.val v) := h ▸ rfl

/-- The specification takes the shift count from the operand as a bit vector, `evalBin` from the number: the same
count, because the width divides `2 ^ width`. -/
theorem ibin_bin (t : Ty) (a b : Nat) : ∀ op : IBin,
    Num.ibin t.bits (binStr op) a b = some (.val (evalBin op.toSsa t a b)) := by
  have hs : (BitVec.ofNat t.bits b).toNat % t.bits = b % t.bits := by
    rw [BitVec.toNat_ofNat]; exact Nat.mod_mod_of_dvd b (by cases t <;> decide)
  exact fun
    | .add => rfl | .sub => rfl | .mul => rfl | .and => rfl | .or => rfl | .xor => rfl
    | .shl => some_val (congrArg (fun s => (BitVec.ofNat t.bits a <<< s).toNat) hs)
    | .shrS => some_val (congrArg (fun s => ((BitVec.ofNat t.bits a).sshiftRight s).toNat) hs)
    | .shrU => some_val (congrArg (fun s => (BitVec.ofNat t.bits a >>> s).toNat) hs)
    | .rotl => some_val (congrArg (fun s => ((BitVec.ofNat t.bits a).rotateLeft s).toNat) hs)
    | .rotr => some_val (congrArg (fun s => ((BitVec.ofNat t.bits a).rotateRight s).toNat) hs)

theorem scalar_bin (t : Ty) (op : IBin) (a b : Nat) :
    Num.scalar (binName t op) [a, b] = some (.val (evalBin op.toSsa t a b)) := by
  rw [scalar_ibin (split_bin t op) (intPfx_tyStr t), ibin_bin]

theorem b2i_toNat (c : Bool) : (Int.b2i c).toNat = if c then 1 else 0 := by cases c <;> rfl

/-- the specification says `a ≤ b` where the SSA semantics says `!(b < a)` -/
theorem b2i_not {p q : Prop} [Decidable p] [Decidable q] (h : p ↔ ¬ q) :
    (Int.b2i (decide p)).toNat = if !decide q then 1 else 0 := by
  by_cases hq : q <;> simp [b2i_toNat, hq, h]

theorem ibin_rel (t : Ty) (a b : Nat) : ∀ op : IRel,
    Num.ibin t.bits (relStr op) a b = some (.val (evalCond op.toSsa t a b))
  | .eq | .ne | .ltS | .ltU | .gtS | .gtU => some_val (b2i_toNat _)
  | .leS | .geS => some_val (b2i_not Int.not_lt.symm)
  | .leU | .geU => some_val (b2i_not Nat.not_lt.symm)

theorem scalar_rel (t : Ty) (op : IRel) (a b : Nat) :
    Num.scalar (relName t op) [a, b] = some (.val (evalCond op.toSsa t a b)) := by
  rw [scalar_ibin (split_rel t op) (intPfx_tyStr t), ibin_rel]

theorem scalar_eqz (t : Ty) (a : Nat) :
    Num.scalar (eqzName t) [a] = some (.val (evalCond .eq t a 0)) := by
  have hn : eqzName t ∈ iunNames := by cases t <;> simp only [eqzName, iunNames, List.mem_cons, true_or, or_true]
  rw [scalar_iun (split_eqz t) (intPfx_tyStr t) (conv_none hn a)]
  show some (Num.Res.val (Int.ieqz (Num.bv t.bits a)).toNat) = _
  rw [SpecInt.ieqz_eq]
  exact some_val (b2i_toNat _)

theorem scalar_cnt (t : Ty) (op : ICnt) (a : Nat) :
    Num.scalar (cntName t op) [a] = some (.val (evalUn op.toSsa t a)) := by
  have hn : cntName t op ∈ iunNames := by
    cases t <;> cases op <;> simp only [cntName, iunNames, List.mem_cons, true_or, or_true]
  rw [scalar_iun (split_cnt t op) (intPfx_tyStr t) (conv_none hn a)]
  cases op
  · exact some_val (clz_agree' t.bits a)
  · exact some_val (ctz_agree' t.bits a)
  · exact some_val (popcnt_agree' t.bits a)

theorem scalar_wrap (a : Nat) : Num.scalar "i32.wrap_i64" [a] = some (.val (evalUn .ireduce .i32 a)) :=
  scalar_wrap_i64 a

theorem scalar_extendU (a : Nat) : Num.scalar "i64.extend_i32_u" [a] = some (.val (evalUn .uextend .i64 a)) := by
  rw [scalar_extend_i32_u]
  exact some_val (Nat.mod_eq_of_lt (Nat.lt_of_lt_of_le (Nat.mod_lt _ (by decide)) (by decide))).symm

theorem scalar_extendS (a : Nat) : Num.scalar "i64.extend_i32_s" [a] = some (.val (evalUn .sextend .i64 a)) := by
  rw [scalar_extend_i32_s]
  exact some_val (Nat.mod_eq_of_lt (BitVec.isLt _)).symm

theorem scalar_extend32S (a : Nat) : Num.scalar "i64.extend32_s" [a] = some (.val (evalUn .sextend .i64 a)) := by
  have hsp : "i64.extend32_s".splitOn "." = [tyStr .i64, "extend32_s"] := splitOn_singleton '.' _
  rw [scalar_iun hsp .i64 (conv_none (by simp only [iunNames, List.mem_cons, true_or, or_true]) a)]
  show some (Num.Res.val (Int.iextendS 32 (Num.bv 64 a)).toNat) = _
  rw [Int.iextendS, Num.bv, BitVec.setWidth_ofNat_of_le (by decide)]
  exact some_val (Nat.mod_eq_of_lt (BitVec.isLt _)).symm

def divRes : Except Nat Nat → Num.Res
  | .ok v => .val v
  | .error c => .trap (trapKind c)

theorem ibin_div (t : Ty) (op : IDiv) (a b : Nat) :
    Num.ibin t.bits (divStr op) a b = some (divRes (evalDiv op.toSsa t a b)) := by
  cases op <;> show some _ = _
  -- with the divisions of the specification in the form of `idivS_eq` etc., both sides test the same conditions
  all_goals
    simp only [Num.bv, beq_iff_eq, Bool.and_eq_true, SpecInt.idivS_eq, SpecInt.idivU_eq, SpecInt.iremS_eq, SpecInt.iremU_eq,
      IDiv.toSsa, evalDiv, SpecInt.toNat_eq_zero, ← BitVec.neg_one_eq_allOnes, BitVec.udiv_eq, BitVec.umod_eq]
    repeat' split
  all_goals rfl

theorem scalar_div (t : Ty) (op : IDiv) (a b : Nat) :
    Num.scalar (divName t op) [a, b] = some (divRes (evalDiv op.toSsa t a b)) := by
  rw [scalar_ibin (split_div t op) (intPfx_tyStr t), ibin_div]

theorem evalDiv_code {op : DivOp} {t : Ty} {x y c : Nat} (h : evalDiv op t x y = .error c) :
    c = codeDivByZero ∨ c = codeOverflow := by
  unfold evalDiv at h
  simp only at h
  split at h
  · cases h; exact .inl rfl
  · cases op <;> simp only at h
    · cases h
    · split at h
      · cases h; exact .inr rfl
      · cases h
    · cases h
    · cases h

end Wz.Proofs.Front
