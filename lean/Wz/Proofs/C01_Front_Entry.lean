/-
C01 (front end): the entry of a function.  Binding the block parameters gives the arguments to the values `2, 3, …`
(`bind_params`); the zero constants of the declared locals leave the environment, which is 0 from `next` on, unchanged
(`declLocals_exec`); so the invariant holds at the start of the body with the frame the reference semantics gives the
callee (`entry_inv`; the frame is that of `Wasm.invoke_single`).
-/
import Wz.Proofs.C01_Front_Sim

namespace Wz.Proofs.Front
open Wz.Spec Wz.Model.SsaPass Wz.Model.FrontendSL

abbrev paramVals (ps : List Ty) (k : Nat) : List TV := (ps.zipIdx k).map (fun p => (p.2 + 2, p.1))

theorem paramVals_fst : ∀ (ps : List Ty) (k : Nat), (paramVals ps k).map (·.1) = List.range' (k + 2) ps.length
  | [], _ => rfl
  | _ :: ts, k => by
    simp only [paramVals, List.zipIdx_cons, List.map_cons, List.length_cons, List.range'_succ,
      paramVals_fst ts (k + 1)]

theorem paramVals_snd : ∀ (ps : List Ty) (k : Nat), (paramVals ps k).map (·.2) = ps
  | [], _ => rfl
  | t :: ts, k => congrArg (t :: ·) (paramVals_snd ts (k + 1))

theorem bind_params (ps : List Ty) (k : Nat) (vs : List Nat) (e : Val → Nat)
    (hl : vs.length = ps.length) (hr : ∀ p ∈ vs.zip ps, p.1 < 2 ^ p.2.bits) :
    (paramVals ps k).map (fun q => bindVals e (paramVals ps k) vs q.1) = vs ∧
    (∀ v, (v < k + 2 ∨ k + 2 + ps.length ≤ v) → bindVals e (paramVals ps k) vs v = e v) ∧
    (∀ q ∈ paramVals ps k, bindVals e (paramVals ps k) vs q.1 < 2 ^ q.2.bits ∧ q.1 < k + 2 + ps.length) := by
  have hframe : ∀ (ps : List Ty) (k : Nat) (vs : List Nat) (e : Val → Nat) (v : Nat),
      (v < k + 2 ∨ k + 2 + ps.length ≤ v) → bindVals e (paramVals ps k) vs v = e v := by
    intro ps k vs e v hv
    refine bindVals_frame _ _ _ v ?_
    rw [paramVals_fst, List.mem_range'_1]; omega
  -- by induction: the head is bound first and not touched by the others
  have hvals : (paramVals ps k).map (fun q => bindVals e (paramVals ps k) vs q.1) = vs ∧
      ∀ q ∈ paramVals ps k, bindVals e (paramVals ps k) vs q.1 < 2 ^ q.2.bits := by
    induction ps generalizing k vs e with
    | nil =>
      cases vs with
      | nil => exact ⟨rfl, nofun⟩
      | cons _ _ => cases hl
    | cons t ts ih =>
      cases vs with
      | nil => cases hl
      | cons v vs =>
        have hv : v < 2 ^ t.bits := hr (v, t) (List.mem_cons_self ..)
        obtain ⟨ih1, ih3⟩ := ih (k + 1) vs (upd e (k + 2) v) (Nat.succ.inj hl)
          (fun p hp => hr p (List.mem_cons_of_mem _ hp))
        simp only [paramVals, List.zipIdx_cons, List.map_cons, bindVals, List.headD_cons, List.tail_cons,
          norm_of_lt hv]
        have hk2 := (hframe ts (k + 1) vs (upd e (k + 2) v) (k + 2) (.inl (Nat.lt_succ_self _))).trans (upd_self ..)
        exact ⟨by rw [hk2, ih1], List.forall_mem_cons.mpr ⟨by rw [hk2]; exact hv, ih3⟩⟩
  refine ⟨hvals.1, hframe ps k vs e, fun q hq => ⟨hvals.2 q hq, ?_⟩⟩
  have hm := List.mem_map_of_mem (f := (·.1)) hq
  rw [paramVals_fst, List.mem_range'_1] at hm
  exact hm.2

theorem Zeros.get_set (z : Zeros) (t t' : Ty) (n : Val) :
    (z.set t n).get t' = if t' = t then some n else z.get t' := by
  cases t <;> cases t' <;> rfl

theorem declLocals_spec : ∀ (ls : List Ty) (n : Nat) (z : Zeros),
    n ≤ (declLocals ls n z).2.1 ∧
    (∀ t v, (declLocals ls n z).2.2.get t = some v → z.get t = some v ∨ (n ≤ v ∧ v < (declLocals ls n z).2.1)) ∧
    (∀ t v, z.get t = some v → (declLocals ls n z).2.2.get t = some v) ∧
    (∀ t ∈ ls, ∃ v, (declLocals ls n z).2.2.get t = some v) := by
  intro ls
  induction ls with
  | nil => intro n z; exact ⟨Nat.le_refl _, fun t v h => .inl h, fun t v h => h, nofun⟩
  | cons t ts ih =>
    intro n z
    cases hz : z.get t with
    | some v0 =>
      rw [declLocals_cons_some hz]
      obtain ⟨h1, h2, h3, h4⟩ := ih n z
      exact ⟨h1, h2, h3, List.forall_mem_cons.mpr ⟨⟨v0, h3 _ _ hz⟩, h4⟩⟩
    | none =>
      rw [declLocals_cons_none hz]
      obtain ⟨h1, h2, h3, h4⟩ := ih (n + 1) (z.set t n)
      refine ⟨Nat.le_of_succ_le h1, fun t' v hv => ?_, fun t' v hv => h3 t' v ?_,
        List.forall_mem_cons.mpr ⟨⟨n, h3 _ _ (by rw [Zeros.get_set, if_pos rfl])⟩, h4⟩⟩
      · rcases h2 t' v hv with h | ⟨ha, hb⟩
        · rw [Zeros.get_set] at h
          split at h
          · cases h; exact .inr ⟨Nat.le_refl _, h1⟩
          · exact .inl h
        · exact .inr ⟨Nat.le_of_succ_le ha, hb⟩
      · rw [Zeros.get_set, if_neg (fun hte => by rw [hte, hz] at hv; cases hv)]; exact hv

theorem declLocals_zero (ls : List Ty) (n : Nat) {t : Ty} (ht : t ∈ ls) :
    ∃ v, (declLocals ls n {}).2.2.get t = some v ∧ n ≤ v ∧ v < (declLocals ls n {}).2.1 := by
  obtain ⟨-, h2, -, h4⟩ := declLocals_spec ls n {}
  obtain ⟨v, hv⟩ := h4 t ht
  exact ⟨v, hv, (h2 t v hv).resolve_left (by cases t <;> nofun)⟩

theorem declLocals_exec (w : World) : ∀ (ls : List Ty) (n : Nat) (z : Zeros) (e : Val → Nat),
    (∀ v, n ≤ v → e v = 0) → Runs w (declLocals ls n z).1 e e := by
  intro ls
  induction ls with
  | nil => intro n z e _; exact .nil w e
  | cons t ts ih =>
    intro n z e he
    cases hz : z.get t with
    | some v0 => rw [declLocals_cons_some hz]; exact ih n z e he
    | none =>
      rw [declLocals_cons_none hz]
      have hupd : upd e n 0 = e := by
        funext v
        by_cases hv : v = n
        · rw [hv, upd_self, he n (Nat.le_refl _)]
        · exact upd_ne e 0 hv
      exact .cons (env1 := e) (fun _ _ => by simp only [execInstr, St.set, norm, Nat.zero_mod, hupd])
        (ih (n + 1) (z.set t n) e (fun v hv => he v (by omega)))

theorem entryParams_eq (f : Fn) :
    entryParams f = (0, .i64) :: (1, .i64) :: (f.params.zipIdx 0).map (fun p => (p.2 + 2, p.1)) := rfl

def entryEnv (f : Fn) (ec mc : Nat) (args : List Nat) : Val → Nat :=
  bindVals St.init.env (entryParams f) (ec :: mc :: args)

theorem initLS_next (f : Fn) : f.params.length + 2 ≤ (initLS f).2.next :=
  (declLocals_spec f.locals (f.params.length + 2) {}).1

theorem entryEnv_moduleCtx (f : Fn) (ec mc : Nat) (args : List Nat) :
    entryEnv f ec mc args moduleCtx = norm .i64 mc :=
  (bindVals_frame (paramVals f.params 0) args _ 1 (by rw [paramVals_fst, List.mem_range'_1]; omega)).trans
    (upd_self ..)

theorem entry_inv (f : Fn) (args : List Nat) (hargs : ArgsOK f args) (ec mc : Nat) :
    (∀ v, f.params.length + 2 ≤ v → entryEnv f ec mc args v = 0) ∧
    Inv (f.params ++ f.locals) (initLS f).2 [] [] (args ++ f.locals.map (fun _ => 0)).toArray
      (entryEnv f ec mc args) := by
  let e0 : Val → Nat := upd (upd (fun _ => 0) 0 (norm .i64 ec)) 1 (norm .i64 mc)
  obtain ⟨hb1, hb2, hb3⟩ := bind_params f.params 0 args e0 hargs.1 hargs.2
  have hhi : ∀ v, f.params.length + 2 ≤ v → entryEnv f ec mc args v = 0 := by
    intro v hv
    show bindVals e0 (paramVals f.params 0) args v = 0
    rw [hb2 v (.inr (by omega))]
    exact (upd_ne _ _ (show v ≠ 1 by omega)).trans (upd_ne _ _ (show v ≠ 0 by omega))
  -- a declared local reads the zero value of its type: a value from `params + 2` on, where the environment is 0
  have hd1 := initLS_next f
  have hzero : ∀ t ∈ f.locals, ∃ v, ((declLocals f.locals (f.params.length + 2) {}).2.2.get t).getD 0 = v ∧
      entryEnv f ec mc args v = 0 ∧ v < (initLS f).2.next := by
    intro t ht
    obtain ⟨v, hv, hge, hlt⟩ := declLocals_zero f.locals (f.params.length + 2) ht
    exact ⟨v, by rw [hv]; rfl, hhi v hge, hlt⟩
  refine ⟨hhi, ⟨rfl, rfl, nofun⟩, ⟨?_, ?_, ?_⟩, nofun, ?_⟩
  · show ((paramVals f.params 0 ++ _).map _) = _
    rw [List.map_append]
    refine congr (congrArg _ hb1) ?_
    rw [List.map_map]
    refine List.map_congr_left fun t ht => ?_
    obtain ⟨v, hv, h0, -⟩ := hzero t ht
    exact (congrArg (entryEnv f ec mc args) hv).trans h0
  · show ((paramVals f.params 0 ++ _).map _) = _
    rw [List.map_append, paramVals_snd, List.map_map]
    exact congrArg _ (List.map_id'' (fun _ => rfl) _)
  · refine List.forall_mem_append.mpr ⟨fun p hp => (hb3 p hp).1, List.forall_mem_map.mpr fun t ht => ?_⟩
    obtain ⟨v, hv, h0, -⟩ := hzero t ht
    rw [hv, h0]; exact Nat.two_pow_pos _
  · refine List.forall_mem_append.mpr ⟨fun p hp => ?_, List.forall_mem_map.mpr fun t ht => ?_⟩
    · exact Nat.lt_of_lt_of_le (hb3 p hp).2 (Nat.le_trans (by omega) hd1)
    · obtain ⟨v, hv, -, hlt⟩ := hzero t ht
      exact hv ▸ hlt

end Wz.Proofs.Front
