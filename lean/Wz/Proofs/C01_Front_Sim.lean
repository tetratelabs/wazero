/-
C01 (front end): one instruction of the fragment in both semantics, in two layers.
* `sim_plain`: an instruction that neither touches the Wasm locals nor returns, from any stack of SSA values that holds
  the Wasm stack (`InvS`) and whose ids are not among its result ids (`Fresh`); nothing is assumed on how ids are chosen.
  A step says what both semantics do and that the new stack holds the new Wasm stack: that a run changes the
  environment at its results only is a fact about runs (`Runs.frame`), and which ids a translation step allocates is a
  fact about `lowerI`, typed or not (`lowerI_alloc`).
* `Inv` is the invariant of the one-block front ends: `InvS` for the translator's stack and for its locals, and every
  tracked id is below `next`, which makes the next ids fresh.  `sim_step`: every instruction but `return`.
-/
import Wz.Proofs.C01_Front_Ops
import Wz.Proofs.C01_Front_Typing
import Wz.Proofs.C01_SsaPass_Typed
import Wz.Proofs.Wasm_Exec

namespace Wz.Proofs.Front
open Wz.Spec Wz.Model.SsaPass Wz.Model.FrontendSL

theorem upd_self (env : Val → Nat) (r : Val) (x : Nat) : upd env r x r = x := if_pos rfl

theorem upd_ne (env : Val → Nat) {r v : Val} (x : Nat) (h : v ≠ r) : upd env r x v = env v := if_neg h

def mk (env : Val → Nat) : St := { env := env, mem := [], trace := [] }

theorem mk_set (env : Val → Nat) (r : Val) (v : Nat) : (mk env).set r v = mk (upd env r v) := rfl

theorem execBody_cons (w : World) (i : Instr) (rest : List Instr) (st : St) :
    execBody w [] (i :: rest) st =
      match execInstr w st.env i st with
      | .next st' => execBody w [] rest st'
      | c => some c := rfl

theorem execBody_ret (w : World) (vs : List Val) (env : Val → Nat) :
    execBody w [] [.ret vs] (mk env) = some (.ret (vs.map env) (mk env)) := rfl

def execPre (w : World) : List Instr → St → Sum Ctl St
  | [], st => .inr st
  | i :: is, st =>
    match execInstr w st.env i st with
    | .next st' => execPre w is st'
    | c => .inl c

theorem execBody_pre (w : World) : ∀ (out rest : List Instr) (st : St),
    execBody w [] (out ++ rest) st =
      match execPre w out st with
      | .inr st' => execBody w [] rest st'
      | .inl c => some c := by
  intro out
  induction out with
  | nil => intro rest st; rfl
  | cons i is ih =>
    intro rest st
    simp only [List.cons_append, execBody_cons, execPre]
    cases h : execInstr w st.env i st <;> simp only [ih]

/-- on every state with the environment `env`, not `mk env` alone: the front end with a memory runs the same instructions
(`RunsM.ofRuns`) -/
def Runs (w : World) (out : List Instr) (env env' : Val → Nat) : Prop :=
  ∀ st : St, st.env = env → execPre w out st = .inr { st with env := env' }

def Traps (w : World) (out : List Instr) (env : Val → Nat) (code : Nat) : Prop :=
  ∀ st : St, st.env = env → execPre w out st = .inl (.trap code st)

theorem Runs.nil (w : World) (env : Val → Nat) : Runs w [] env env := fun _ h => h ▸ rfl

theorem Runs.cons {w : World} {j : Instr} {out : List Instr} {env env1 env' : Val → Nat}
    (h1 : ∀ mem tr, execInstr w env j ⟨env, mem, tr⟩ = .next ⟨env1, mem, tr⟩) (h2 : Runs w out env1 env') :
    Runs w (j :: out) env env' := fun ⟨_, mem, tr⟩ h => by subst h; rw [execPre, h1]; exact h2 _ rfl

/-- one instruction that binds `x` to `r` -/
theorem Runs.set {w : World} {j : Instr} {env : Val → Nat} {r : Val} {x : Nat}
    (h : ∀ mem tr, execInstr w env j ⟨env, mem, tr⟩ = .next ⟨upd env r x, mem, tr⟩) :
    Runs w [j] env (upd env r x) :=
  .cons h (.nil w _)

theorem Traps.one {w : World} {j : Instr} {env : Val → Nat} {code : Nat}
    (h : ∀ mem tr, execInstr w env j ⟨env, mem, tr⟩ = .trap code ⟨env, mem, tr⟩) : Traps w [j] env code :=
  fun ⟨_, mem, tr⟩ he => by subst he; rw [execPre, h]

theorem Runs.body {w : World} {out : List Instr} {env env' : Val → Nat} (h : Runs w out env env')
    (rest : List Instr) : execBody w [] (out ++ rest) (mk env) = execBody w [] rest (mk env') := by
  rw [execBody_pre, h (mk env) rfl]; rfl

theorem Traps.body {w : World} {out : List Instr} {env : Val → Nat} {code : Nat} (h : Traps w out env code)
    (rest : List Instr) : execBody w [] (out ++ rest) (mk env) = some (.trap code (mk env)) := by
  rw [execBody_pre, h (mk env) rfl]

theorem execPre_frame (w : World) {v : Val} : ∀ (out : List Instr) (st st' : St), execPre w out st = .inr st' →
    v ∉ out.flatMap (·.results) → st'.env v = st.env v
  | [], _, _, h, _ => by cases h; rfl
  | i :: is, st, st', h, hv => by
    rw [List.flatMap_cons, List.mem_append, not_or] at hv
    rw [execPre] at h
    have h1 := exec_frame w st.env i st v hv.1
    split at h
    · rename_i st1 heq
      rw [heq] at h1
      exact (execPre_frame w is st1 st' h hv.2).trans h1
    · cases h

/-- a run changes the environment at the results of its instructions only -/
theorem Runs.frame {w : World} {out : List Instr} {env env' : Val → Nat} (h : Runs w out env env') {v : Val}
    (hv : v ∉ out.flatMap (·.results)) : env' v = env v :=
  execPre_frame w out (mk env) _ (h (mk env) rfl) hv

/-- The SSA `select` tests the whole value and reduces the chosen one to the type, the reference semantics tests the
low 32 bits and chooses: the same when the three values are within their types. -/
theorem exec_select {w : World} {env : Val → Nat} {r vc v1 v2 : Val} {a : Ty} (hc : env vc < 2 ^ 32)
    (h1 : env v1 < 2 ^ a.bits) (h2 : env v2 < 2 ^ a.bits)
    (mem : Mem) (tr : List (Nat × List Nat)) :
    execInstr w env (.select r a vc v1 v2) ⟨env, mem, tr⟩ =
      .next ⟨upd env r (if env vc % 2 ^ 32 != 0 then env v1 else env v2), mem, tr⟩ := by
  simp only [execInstr, St.set, Nat.mod_eq_of_lt hc]
  by_cases h0 : env vc = 0
  · simp [h0, norm_of_lt h2]
  · simp [h0, norm_of_lt h1]

theorem exec_eqz {w : World} {env : Val → Nat} (t : Ty) {r vx : Val} (hne : vx ≠ r) :
    Runs w [.iconst r t 0, .icmp (r + 1) t .eq vx r] env
      (upd (upd env r 0) (r + 1) (evalCond .eq t (env vx) 0)) :=
  .cons (env1 := upd env r 0) (fun _ _ => by simp only [execInstr, St.set, norm, Nat.zero_mod])
    (.set fun _ _ => by simp only [execInstr, St.set, upd_self, upd_ne env 0 hne])

theorem wasm_num1 {m : Wasm.Module} {st : Wasm.Store} {n : Nat} {locals : Array Nat} {name : String} {a v : Nat}
    (stk : List Nat) (h : Num.scalar name [a] = some (.val v)) :
    Wasm.execInstr m (n + 1) (.num1 name) ⟨a :: stk, locals⟩ st = (.next, ⟨v :: stk, locals⟩, st) := by
  rw [Wasm.execInstr_num1, h]; rfl

theorem wasm_num2 {m : Wasm.Module} {st : Wasm.Store} {n : Nat} {locals : Array Nat} {name : String} {a b : Nat}
    {r : Num.Res} (stk : List Nat) (h : Num.scalar name [a, b] = some r) :
    Wasm.execInstr m (n + 1) (.num2 name) ⟨b :: a :: stk, locals⟩ st =
      match Wasm.numResult r with
      | .ok v => (.next, ⟨v :: stk, locals⟩, st)
      | .error k => (.trap k, ⟨b :: a :: stk, locals⟩, st) := by
  rw [Wasm.execInstr_num2, h]; rfl

def isPlain : SI → Bool
  | .ret | .localGet _ | .localSet _ | .localTee _ => false
  | _ => true

/-- the SSA values `stk` (top first) hold the numbers `stack` in `env`, each within the type it carries -/
structure InvS (stk : List TV) (tys : List Ty) (stack : List Nat) (env : Val → Nat) : Prop where
  vals : stk.map (fun p => env p.1) = stack
  tys : stk.map (·.2) = tys
  rng : ∀ p ∈ stk, env p.1 < 2 ^ p.2.bits

/-- a plain instruction is lowered without a look at the locals (`lowerI_nolocals`), hence `locals := []` here and in
`StepS` -/
def resultsOf (i : SI) (r : Nat) (stk : List TV) : List Val := (lowerI i ⟨r, stk, []⟩).1.flatMap (·.results)

def Fresh (i : SI) (r : Nat) (stk : List TV) : Prop := ∀ p ∈ stk, ∀ q ∈ resultsOf i r stk, p.1 ≠ q

variable {w : World} {m : Wasm.Module} {r : Nat} {stk : List TV} {lt : List Ty} {tys tys' : List Ty}
  {stack : List Nat} {locals : Array Nat} {env : Val → Nat} {st : Wasm.Store} {n : Nat}

theorem InvS.uncons {t : Ty} (h : InvS stk (t :: tys) stack env) :
    ∃ v srest x stack', stk = (v, t) :: srest ∧ stack = x :: stack' ∧ env v = x ∧ x < 2 ^ t.bits ∧
      InvS srest tys stack' env := by
  obtain ⟨v, srest, rfl, hty⟩ := stack_uncons h.tys
  exact ⟨v, srest, env v, _, rfl, h.vals.symm, rfl, h.rng _ (List.mem_cons_self ..),
    rfl, hty, fun p hp => h.rng p (List.mem_cons_of_mem _ hp)⟩

theorem InvS.congr (h : InvS stk tys stack env) {env' : Val → Nat} (he : ∀ p ∈ stk, env' p.1 = env p.1) :
    InvS stk tys stack env' where
  vals := by rw [← h.vals]; exact List.map_congr_left fun p hp => he p hp
  tys := h.tys
  rng p hp := by rw [he p hp]; exact h.rng p hp

theorem InvS.cons (h : InvS stk tys stack env) {p : TV} (hp : env p.1 < 2 ^ p.2.bits) :
    InvS (p :: stk) (p.2 :: tys) (env p.1 :: stack) env where
  vals := congrArg _ h.vals
  tys := congrArg _ h.tys
  rng := List.forall_mem_cons.mpr ⟨hp, h.rng⟩

theorem InvS.drop (h : InvS stk tys stack env) (k : Nat) : InvS (stk.drop k) (tys.drop k) (stack.drop k) env where
  vals := by rw [← h.vals, List.map_drop]
  tys := by rw [← h.tys, List.map_drop]
  rng p hp := h.rng p (List.mem_of_mem_drop hp)

/-- One plain instruction `i`, lowered with `r` as the next id from the stack `stk`: both semantics go on and the new SSA
stack holds the new Wasm stack and consists of old values and results; or both trap with the same code.  Where the
environment has changed is read off the run (`Runs.frame`). -/
def StepS (w : World) (m : Wasm.Module) (i : SI) (r : Nat) (stk : List TV) (tys' : List Ty)
    (stack : List Nat) (locals : Array Nat) (env : Val → Nat) (st : Wasm.Store) (n : Nat) : Prop :=
  (∃ stack' env',
      Wasm.execInstr m (n + 1) i.toInstr ⟨stack, locals⟩ st = (.next, ⟨stack', locals⟩, st) ∧
      Runs w (lowerI i ⟨r, stk, []⟩).1 env env' ∧
      InvS (lowerI i ⟨r, stk, []⟩).2.stack tys' stack' env' ∧
      (∀ p ∈ (lowerI i ⟨r, stk, []⟩).2.stack, p ∈ stk ∨ p.1 ∈ resultsOf i r stk)) ∨
  (∃ code fr', Wasm.execInstr m (n + 1) i.toInstr ⟨stack, locals⟩ st = (.trap (trapKind code), fr', st) ∧
      Traps w (lowerI i ⟨r, stk, []⟩).1 env code ∧
      (code = codeDivByZero ∨ code = codeOverflow))

/-- the common ending of the instructions that pop `k` operands and push a result: the emitted instructions `out` leave
the value `x` the reference semantics pushes in their result `r'`, of type `t`.  The values that stay on the stack are not
results of `out` (`hfresh`), so the run has kept them. -/
theorem StepS.emit {i : SI} (k : Nat) (hinv : InvS stk tys stack env) (hfresh : Fresh i r stk)
    {out : List Instr} {s' : LS} {r' : Val} {t : Ty} {x : Nat} {env0 : Val → Nat}
    (hlow : lowerI i ⟨r, stk, []⟩ = (out, s')) (hstk : s'.stack = (r', t) :: stk.drop k)
    (hres : r' ∈ out.flatMap (·.results))
    (hspec : Wasm.execInstr m (n + 1) i.toInstr ⟨stack, locals⟩ st = (.next, ⟨x :: stack.drop k, locals⟩, st))
    (hssa : Runs w out env (upd env0 r' x)) (hx : x < 2 ^ t.bits) :
    StepS w m i r stk (t :: tys.drop k) stack locals env st n := by
  have hr : resultsOf i r stk = out.flatMap (·.results) := by rw [resultsOf, hlow]
  have hkeep : ∀ p ∈ stk, upd env0 r' x p.1 = env p.1 := fun p hp =>
    hssa.frame fun hq => hfresh p hp _ (hr ▸ hq) rfl
  have := ((hinv.congr hkeep).drop k).cons (p := (r', t)) (by rw [upd_self]; exact hx)
  rw [upd_self] at this
  refine .inl ⟨x :: stack.drop k, _, hspec, by rw [hlow]; exact hssa, ?_, ?_⟩ <;> rw [hlow, hstk]
  · exact this
  · exact List.forall_mem_cons.mpr ⟨.inr (hr ▸ hres), fun p hp => .inl (List.mem_of_mem_drop hp)⟩

theorem step_const (t : Ty) (v : Nat) (hinv : InvS stk tys stack env) (hfresh : Fresh (.const t v) r stk) :
    StepS w m (.const t v) r stk (t :: tys) stack locals env st n :=
  .emit 0 hinv hfresh rfl rfl (.head _) rfl (.set fun _ _ => by simp only [execInstr, St.set, norm, Nat.mod_mod])
    (Nat.mod_lt _ (Nat.two_pow_pos _))

theorem step_drop {t : Ty} (hinv : InvS stk (t :: tys) stack env) :
    StepS w m .drop r stk tys stack locals env st n := by
  obtain ⟨v, s1, x, stk1, rfl, rfl, -, -, inv1⟩ := hinv.uncons
  exact .inl ⟨stk1, env, rfl, .nil w env, inv1, fun p hp => .inl (List.mem_cons_of_mem _ hp)⟩

theorem step_select {a : Ty} (hinv : InvS stk (.i32 :: a :: a :: tys) stack env) (hfresh : Fresh .select r stk) :
    StepS w m .select r stk (a :: tys) stack locals env st n := by
  obtain ⟨vc, _, _, _, rfl, rfl, rfl, hcR, inv1⟩ := hinv.uncons
  obtain ⟨v2, _, _, _, rfl, rfl, rfl, h2R, inv2⟩ := inv1.uncons
  obtain ⟨v1, s0, _, _, rfl, rfl, rfl, h1R, -⟩ := inv2.uncons
  exact .emit 3 hinv hfresh (out := [.select r a vc v1 v2]) rfl rfl (.head _) rfl (.set (exec_select hcR h1R h2R))
    (show (if env vc % 2 ^ 32 != 0 then env v1 else env v2) < _ by split <;> assumption)

theorem step_bin (t : Ty) (op : IBin) (hinv : InvS stk (t :: t :: tys) stack env) (hfresh : Fresh (.bin t op) r stk) :
    StepS w m (.bin t op) r stk (t :: tys) stack locals env st n := by
  obtain ⟨vy, _, y, _, rfl, rfl, hy, -, inv1⟩ := hinv.uncons
  obtain ⟨vx, s0, x, _, rfl, rfl, hx, -, -⟩ := inv1.uncons
  exact .emit 2 hinv hfresh (out := [.bin op.toSsa r t vx vy]) rfl rfl (.head _) (wasm_num2 _ (scalar_bin t op x y))
    (.set fun _ _ => by simp only [execInstr, St.set, hx, hy]) (evalBin_lt ..)

theorem step_rel (t : Ty) (op : IRel) (hinv : InvS stk (t :: t :: tys) stack env) (hfresh : Fresh (.rel t op) r stk) :
    StepS w m (.rel t op) r stk (.i32 :: tys) stack locals env st n := by
  obtain ⟨vy, _, y, _, rfl, rfl, hy, -, inv1⟩ := hinv.uncons
  obtain ⟨vx, s0, x, _, rfl, rfl, hx, -, -⟩ := inv1.uncons
  exact .emit 2 hinv hfresh (out := [.icmp r t op.toSsa vx vy]) rfl rfl (.head _) (wasm_num2 _ (scalar_rel t op x y))
    (.set fun _ _ => by simp only [execInstr, St.set, hx, hy]) (evalCond_lt ..)

/-- `eqz` is a zero constant and a comparison: the result is the second of two new values -/
theorem step_eqz (t : Ty) (hinv : InvS stk (t :: tys) stack env) (hfresh : Fresh (.eqz t) r stk) :
    StepS w m (.eqz t) r stk (.i32 :: tys) stack locals env st n := by
  obtain ⟨vx, s0, _, _, rfl, rfl, rfl, -, -⟩ := hinv.uncons
  exact .emit 1 hinv hfresh rfl rfl (.tail _ (.head _)) (wasm_num1 _ (scalar_eqz t (env vx)))
    (exec_eqz t (hfresh _ (List.mem_cons_self ..) r (List.mem_cons_self ..))) (evalCond_lt ..)

/-- the counts and the conversions -/
theorem step_un1 {i : SI} {name : String} (uop : UnOp) (a rt : Ty) (hI : i.toInstr = .num1 name)
    (hL : ∀ (s0 : LS) (vx : Val), lowerI i (s0.push (vx, a)) = ([.un uop s0.next rt vx], s0.pushNew rt))
    (hS : ∀ x, Num.scalar name [x] = some (.val (evalUn uop rt x)))
    (hinv : InvS stk (a :: tys) stack env) (hfresh : Fresh i r stk) :
    StepS w m i r stk (rt :: tys) stack locals env st n := by
  obtain ⟨vx, s0, x, _, rfl, rfl, hx, -, -⟩ := hinv.uncons
  exact .emit 1 hinv hfresh (hL ⟨r, s0, []⟩ vx) rfl (.head _) (by rw [hI]; exact wasm_num1 _ (hS x))
    (.set fun _ _ => by simp only [execInstr, St.set, hx]) (evalUn_lt ..)

theorem step_div (t : Ty) (op : IDiv) (hinv : InvS stk (t :: t :: tys) stack env) (hfresh : Fresh (.div t op) r stk) :
    StepS w m (.div t op) r stk (t :: tys) stack locals env st n := by
  obtain ⟨vy, _, y, _, rfl, rfl, hy, -, inv1⟩ := hinv.uncons
  obtain ⟨vx, s0, x, stack0, rfl, rfl, hx, -, -⟩ := inv1.uncons
  have hspec := wasm_num2 (m := m) (n := n) (st := st) (locals := locals) stack0 (scalar_div t op x y)
  cases hd : evalDiv op.toSsa t x y with
  | ok v =>
    rw [hd] at hspec
    exact .emit 2 hinv hfresh (out := [.div op.toSsa r t vx vy execCtx]) rfl rfl (.head _) hspec
      (.set fun _ _ => by simp only [execInstr, St.set, hx, hy, hd]) (evalDiv_lt _ _ _ _ _ hd)
  | error code =>
    rw [hd] at hspec
    exact .inr ⟨code, _, hspec, .one (j := .div op.toSsa r t vx vy execCtx) fun _ _ => by
      simp only [execInstr, hx, hy, hd], evalDiv_code hd⟩

theorem sim_plain {i : SI} (hi : isPlain i = true) (hty : StepTy lt i tys tys') (hinv : InvS stk tys stack env)
    (hfresh : Fresh i r stk) : StepS w m i r stk tys' stack locals env st n := by
  cases hty with
  | const t v => exact step_const t v hinv hfresh
  | drop => exact step_drop hinv
  | select => exact step_select hinv hfresh
  | bin t op => exact step_bin t op hinv hfresh
  | rel t op => exact step_rel t op hinv hfresh
  | eqz t => exact step_eqz t hinv hfresh
  | cnt t op => exact step_un1 op.toSsa t t rfl (fun _ _ => rfl) (scalar_cnt t op) hinv hfresh
  | wrap => exact step_un1 .ireduce .i64 .i32 rfl (fun _ _ => rfl) scalar_wrap hinv hfresh
  | extendS => exact step_un1 .sextend .i32 .i64 rfl (fun _ _ => rfl) scalar_extendS hinv hfresh
  | extendU => exact step_un1 .uextend .i32 .i64 rfl (fun _ _ => rfl) scalar_extendU hinv hfresh
  | extend32S => exact step_un1 .sextend .i64 .i64 rfl (fun _ _ => rfl) scalar_extend32S hinv hfresh
  | div t op => exact step_div t op hinv hfresh
  | localGet _ | localSet _ | localTee _ => cases hi

structure Inv (lt : List Ty) (s : LS) (tys : List Ty) (stack : List Nat) (locals : Array Nat) (env : Val → Nat) :
    Prop where
  stk : InvS s.stack tys stack env
  loc : InvS s.locals lt locals.toList env
  stkF : ∀ p ∈ s.stack, p.1 < s.next
  locF : ∀ p ∈ s.locals, p.1 < s.next

variable {s : LS}

theorem Inv.mono (h : Inv lt s tys stack locals env) {n : Nat} {env' : Val → Nat} (hn : s.next ≤ n)
    (he : ∀ v, v < s.next → env' v = env v) : Inv lt { s with next := n } tys stack locals env' where
  stk := h.stk.congr fun p hp => he _ (h.stkF p hp)
  loc := h.loc.congr fun p hp => he _ (h.locF p hp)
  stkF p hp := Nat.lt_of_lt_of_le (h.stkF p hp) hn
  locF p hp := Nat.lt_of_lt_of_le (h.locF p hp) hn

theorem Inv.push (h : Inv lt s tys stack locals env) {p : TV} (hR : env p.1 < 2 ^ p.2.bits) (hF : p.1 < s.next) :
    Inv lt (s.push p) (p.2 :: tys) (env p.1 :: stack) locals env :=
  { h with stk := h.stk.cons hR, stkF := List.forall_mem_cons.mpr ⟨hF, h.stkF⟩ }

theorem Inv.updFresh (h : Inv lt s tys stack locals env) (x : Nat) :
    Inv lt { s with next := s.next + 1 } tys stack locals (upd env s.next x) :=
  h.mono (Nat.le_succ _) fun _ hv => upd_ne env x (Nat.ne_of_lt hv)

theorem Inv.pushNew (h : Inv lt s tys stack locals env) (t : Ty) (x : Nat) (hx : x < 2 ^ t.bits) :
    Inv lt (s.pushNew t) (t :: tys) (x :: stack) locals (upd env s.next x) := by
  have := (h.updFresh x).push (p := (s.next, t)) (by rw [upd_self]; exact hx) (Nat.lt_succ_self _)
  rwa [upd_self] at this

theorem Inv.pop {t : Ty} (h : Inv lt s (t :: tys) stack locals env) :
    ∃ v x stack' s', s = s'.push (v, t) ∧ stack = x :: stack' ∧ env v = x ∧ x < 2 ^ t.bits ∧ v < s'.next ∧
      Inv lt s' tys stack' locals env := by
  obtain ⟨v, srest, x, stack', hs, rfl, hv, hx, inv0⟩ := h.stk.uncons
  obtain ⟨next, _, locs⟩ := s
  cases hs
  exact ⟨v, x, stack', ⟨next, srest, locs⟩, rfl, rfl, hv, hx, h.stkF _ (List.mem_cons_self ..),
    inv0, h.loc, fun q hq => h.stkF q (List.mem_cons_of_mem _ hq), h.locF⟩

theorem arr_get (a : Array Nat) (l : List Nat) (h : l = a.toList) (i : Nat) : a[i]! = (l[i]?).getD 0 := by
  subst h
  simp [getElem!_def]
  rfl

theorem Inv.local (h : Inv lt s tys stack locals env) {i : Nat} {t : Ty} (hi : lt[i]? = some t) :
    ∃ v, s.locals[i]? = some (v, t) ∧ locals[i]! = env v ∧ env v < 2 ^ t.bits ∧ v < s.next := by
  obtain ⟨v, hp⟩ := locals_get h.loc.tys hi
  have hm := List.mem_of_getElem? hp
  refine ⟨v, hp, ?_, h.loc.rng _ hm, h.locF _ hm⟩
  rw [arr_get locals _ h.loc.vals, List.getElem?_map, hp]; rfl

theorem Inv.setLocal (h : Inv lt s tys stack locals env) {i : Nat} {p : TV}
    (hi : lt[i]? = some p.2) (hR : env p.1 < 2 ^ p.2.bits) (hF : p.1 < s.next) :
    Inv lt { s with locals := s.locals.set i p } tys stack (locals.set! i (env p.1)) env where
  stk := h.stk
  loc := ⟨by simp only [List.map_set, h.loc.vals, Array.set!, Array.toList_setIfInBounds], locals_set h.loc.tys hi,
    fun q hq => (List.mem_or_eq_of_mem_set hq).elim (h.loc.rng q) (· ▸ hR)⟩
  stkF := h.stkF
  locF q hq := (List.mem_or_eq_of_mem_set hq).elim (h.locF q) (· ▸ hF)

theorem peekN_env (hinv : Inv lt s tys stack locals env) (nres : Nat) :
    (s.peekN nres).map env = (stack.take nres).reverse := by
  simp only [LS.peekN, List.map_reverse, List.map_map, ← hinv.stk.vals, ← List.map_take]
  rfl

/-- One instruction in the one-block front ends: the emitted instructions run to an environment that satisfies the
invariant of the new state (and agrees with the old one below `next`: `Runs.below`); or both semantics trap with the same
code. -/
def StepOK (w : World) (m : Wasm.Module) (lt : List Ty) (i : SI) (s : LS) (tys' : List Ty)
    (stack : List Nat) (locals : Array Nat) (env : Val → Nat) (st : Wasm.Store) (n : Nat) : Prop :=
  (∃ stack' locals' env',
      Wasm.execInstr m (n + 1) i.toInstr ⟨stack, locals⟩ st = (.next, ⟨stack', locals'⟩, st) ∧
      Runs w (lowerI i s).1 env env' ∧ Inv lt (lowerI i s).2 tys' stack' locals' env') ∨
  (∃ code fr', Wasm.execInstr m (n + 1) i.toInstr ⟨stack, locals⟩ st = (.trap (trapKind code), fr', st) ∧
      Traps w (lowerI i s).1 env code ∧
      (code = codeDivByZero ∨ code = codeOverflow))

theorem lowerI_nolocals (i : SI) (h : isPlain i = true) (s : LS) :
    lowerI i s =
      ((lowerI i { next := s.next, stack := s.stack, locals := [] }).1,
        { (lowerI i { next := s.next, stack := s.stack, locals := [] }).2 with locals := s.locals }) := by
  cases i <;> first | rfl | cases h

/-- every emitted instruction defines one value, and these are the next ids in order -/
theorem lowerI_alloc (i : SI) (s : LS) :
    (lowerI i s).2.next = s.next + (lowerI i s).1.length ∧
      (lowerI i s).1.flatMap (·.results) = List.range' s.next (lowerI i s).1.length := by
  cases i <;> exact ⟨rfl, rfl⟩

theorem lowerI_next (i : SI) (s : LS) : s.next ≤ (lowerI i s).2.next :=
  (lowerI_alloc i s).1 ▸ Nat.le_add_right ..

theorem Runs.below {i : SI} {env' : Val → Nat} (h : Runs w (lowerI i s).1 env env') {v : Val} (hv : v < s.next) :
    env' v = env v :=
  h.frame fun hm => by
    rw [(lowerI_alloc i s).2, List.mem_range'_1] at hm
    exact Nat.not_le_of_lt hv hm.1

/-- the ids in use are below `next`, so the next ids are fresh, and the values of the locals, which a plain instruction
does not touch, are kept -/
theorem StepOK.of_plain {i : SI} (hi : isPlain i = true) (hinv : Inv lt s tys stack locals env)
    (h : Fresh i s.next s.stack → StepS w m i s.next s.stack tys' stack locals env st n) :
    StepOK w m lt i s tys' stack locals env st n := by
  have hq : ∀ q ∈ resultsOf i s.next s.stack, s.next ≤ q ∧ q < (lowerI i ⟨s.next, s.stack, []⟩).2.next :=
    fun q hq => by
      rw [resultsOf, (lowerI_alloc ..).2, List.mem_range'_1] at hq
      rwa [(lowerI_alloc ..).1]
  have hle := lowerI_next i ⟨s.next, s.stack, []⟩
  rw [StepOK, lowerI_nolocals i hi s]
  rcases h (fun p hp q hq' => Nat.ne_of_lt (Nat.lt_of_lt_of_le (hinv.stkF p hp) (hq q hq').1)) with
    ⟨stack', env', hsp, hrun, hinv', hnew⟩ | ⟨code, fr', hsp, htrap, hcode⟩
  · refine .inl ⟨stack', locals, env', hsp, hrun, hinv',
      hinv.loc.congr fun p hp => hrun.below (s := ⟨s.next, s.stack, []⟩) (hinv.locF p hp), fun p hp => ?_,
      fun p hp => Nat.lt_of_lt_of_le (hinv.locF p hp) hle⟩
    exact (hnew p hp).elim (fun h => Nat.lt_of_lt_of_le (hinv.stkF p h) hle) (fun h => (hq _ h).2)
  · exact .inr ⟨code, fr', hsp, htrap, hcode⟩

theorem StepOK.silent {i : SI} {stack' : List Nat} {locals' : Array Nat} (hlow : (lowerI i s).1 = [])
    (hspec : Wasm.execInstr m (n + 1) i.toInstr ⟨stack, locals⟩ st = (.next, ⟨stack', locals'⟩, st))
    (hinv : Inv lt (lowerI i s).2 tys' stack' locals' env) : StepOK w m lt i s tys' stack locals env st n :=
  .inl ⟨stack', locals', env, hspec, hlow ▸ .nil w env, hinv⟩

theorem step_localGet {i : Nat} {t : Ty} (hi : lt[i]? = some t) (hinv : Inv lt s tys stack locals env) :
    StepOK w m lt (.localGet i) s (t :: tys) stack locals env st n := by
  obtain ⟨v, hp, hval, hR, hF⟩ := hinv.local hi
  refine .silent rfl rfl ?_
  rw [hval, show (lowerI (.localGet i) s).2 = s.push (v, t) by simp only [lowerI, List.getD, hp, Option.getD_some]]
  exact hinv.push (p := (v, t)) hR hF

theorem step_localSet {i : Nat} {a : Ty} (hi : lt[i]? = some a) (hinv : Inv lt s (a :: tys) stack locals env) :
    StepOK w m lt (.localSet i) s tys stack locals env st n := by
  obtain ⟨v, x, _, s0, rfl, rfl, rfl, hR, hF, inv0⟩ := hinv.pop
  exact .silent rfl rfl (inv0.setLocal (p := (v, a)) hi hR hF)

theorem step_localTee {i : Nat} {a : Ty} (hi : lt[i]? = some a) (hinv : Inv lt s (a :: tys) stack locals env) :
    StepOK w m lt (.localTee i) s (a :: tys) stack locals env st n := by
  obtain ⟨v, x, _, s0, rfl, rfl, rfl, hR, hF, -⟩ := hinv.pop
  exact .silent rfl rfl (hinv.setLocal (p := (v, a)) hi hR hF)

theorem sim_step (i : SI) (st : Wasm.Store) (n : Nat)
    (hinv : Inv lt s tys stack locals env) (htc : tcStep lt i tys = some tys') :
    StepOK w m lt i s tys' stack locals env st n := by
  by_cases hp : isPlain i = true
  · exact .of_plain hp hinv (sim_plain hp (.of_tcStep htc) hinv.stk)
  · cases StepTy.of_tcStep htc with
    | localGet hi => exact step_localGet hi hinv
    | localSet hi => exact step_localSet hi hinv
    | localTee hi => exact step_localTee hi hinv
    | _ => exact absurd rfl hp

end Wz.Proofs.Front
