/-
C01 (front end, structured control flow): counting block entries.

`StepsK w g k a b`: from the point `a` the SSA run enters EXACTLY `k` blocks and is then at `b` (with less fuel it is out
of fuel); `Final`: the run ends inside its block.  Everything the simulation says about the SSA run is "`StepsK` to a
point where ...".

Beside them, and used by nothing else: fuel monotonicity of the SSA run (`runFrom_mono`, `runPos_mono`, `runPos_anti`:
an outcome other than "out of fuel" is kept with more fuel), and `StepsX` / `StepsP` (some number of blocks / at least
one) with `StepsP.transX`.
-/
import Wz.Proofs.C01_FrontCF_Defs

namespace Wz.Proofs.FrontCF
open Wz.Spec Wz.Model.SsaPass Wz.Model.FrontendSL Wz.Model.FrontendCF Wz.Proofs.Front

theorem runFrom_mono (w : World) (g : Func) : ∀ (fuel : Nat) (b : BlockId) (args : List Nat) (st : St) (o : Outcome)
    (d : Nat), runFrom w g fuel b args st = o → o ≠ .outOfFuel → runFrom w g (fuel + d) b args st = o := by
  intro fuel
  induction fuel with
  | zero =>
    intro b args st o d h ho
    exact absurd h.symm ho
  | succ n ih =>
    intro b args st o d h ho
    rw [Nat.add_right_comm]
    simp only [runFrom] at h ⊢
    cases hB : g.findBlock b with
    | none => simp only [hB] at h ⊢; exact h
    | some B =>
      simp only [hB] at h ⊢
      split
      · rename_i hl; rw [if_pos hl] at h; exact h
      · rename_i hl
        rw [if_neg hl] at h
        generalize execBody w g.alias B.instrs { st with env := bindVals st.env B.params args } = r at h ⊢
        cases r with
        | none => exact h
        | some c =>
          cases c with
          | goto b' args' st' => exact ih b' args' st' o d h ho
          | _ => exact h

theorem runPos_mono (w : World) (g : Func) (fuel d : Nat) (blk pos : Nat) (env : Val → Nat) (o : Outcome)
    (h : runPos w g fuel blk pos env = o) (ho : o ≠ .outOfFuel) : runPos w g (fuel + d) blk pos env = o := by
  simp only [runPos] at h ⊢
  generalize execBody w [] ((instrsOf g blk).drop pos) (mk env) = r at h ⊢
  cases r with
  | none => exact h
  | some c =>
    cases c with
    | goto b' args' st' => exact runFrom_mono w g fuel b' args' st' o d h ho
    | _ => exact h

theorem runPos_anti (w : World) (g : Func) (fuel d : Nat) (blk pos : Nat) (env : Val → Nat)
    (h : runPos w g (fuel + d) blk pos env = .outOfFuel) : runPos w g fuel blk pos env = .outOfFuel :=
  Classical.byContradiction fun h1 => h1 (runPos_mono w g fuel d blk pos env _ rfl h1 ▸ h)

def StepsK (w : World) (g : Func) (k : Nat) (a b : Pt) : Prop :=
  (∀ fuel, runPos w g (fuel + k) a.blk a.pos a.env = runPos w g fuel b.blk b.pos b.env) ∧
  (∀ fuel, fuel < k → runPos w g fuel a.blk a.pos a.env = .outOfFuel)

def StepsX (w : World) (g : Func) (a b : Pt) : Prop := ∃ k, StepsK w g k a b

def StepsP (w : World) (g : Func) (a b : Pt) : Prop := ∃ k, 1 ≤ k ∧ StepsK w g k a b

def Final (w : World) (g : Func) (a : Pt) (o : Outcome) : Prop := ∀ fuel, runPos w g fuel a.blk a.pos a.env = o

variable {w : World} {g : Func}

theorem StepsK.split {k : Nat} {a b : Pt} (h : StepsK w g k a b) (fuel : Nat) :
    (fuel < k ∧ runPos w g fuel a.blk a.pos a.env = .outOfFuel) ∨
    (k ≤ fuel ∧ runPos w g fuel a.blk a.pos a.env = runPos w g (fuel - k) b.blk b.pos b.env) := by
  rcases Nat.lt_or_ge fuel k with hk | hk
  · exact .inl ⟨hk, h.2 fuel hk⟩
  · refine .inr ⟨hk, ?_⟩
    rw [← h.1, Nat.sub_add_cancel hk]

theorem StepsK.refl (w : World) (g : Func) (a : Pt) : StepsK w g 0 a a :=
  ⟨fun _ => rfl, fun _ h => absurd h (Nat.not_lt_zero _)⟩

theorem StepsK.trans {a b c : Pt} {k1 k2 : Nat} (h1 : StepsK w g k1 a b) (h2 : StepsK w g k2 b c) :
    StepsK w g (k2 + k1) a c := by
  refine ⟨fun fuel => by rw [← Nat.add_assoc, h1.1, h2.1], fun fuel hf => ?_⟩
  rcases h1.split fuel with ⟨_, e⟩ | ⟨hk, e⟩
  · exact e
  · rw [e]
    exact h2.2 _ (by omega)

theorem StepsP.transX {w : World} {g : Func} {a b c : Pt} (h1 : StepsP w g a b) (h2 : StepsX w g b c) :
    StepsP w g a c := by
  obtain ⟨k1, hk, h1⟩ := h1
  obtain ⟨k2, h2⟩ := h2
  exact ⟨k2 + k1, by omega, h1.trans h2⟩

theorem StepsK.final {k : Nat} {a b : Pt} {o : Outcome} (h1 : StepsK w g k a b) (h2 : Final w g b o) (fuel : Nat) :
    runPos w g fuel a.blk a.pos a.env = if fuel < k then .outOfFuel else o := by
  rcases h1.split fuel with ⟨hk, e⟩ | ⟨hk, e⟩
  · rw [e, if_pos hk]
  · rw [e, h2, if_neg (Nat.not_lt.mpr hk)]

theorem runPos_straight (w : World) (g : Func) (blk pos : Nat) (is : List Instr) (env env' : Val → Nat)
    (hdrop : (instrsOf g blk).drop pos = is ++ (instrsOf g blk).drop (pos + is.length))
    (hexec : ∀ rest, execBody w [] (is ++ rest) (mk env) = execBody w [] rest (mk env')) (fuel : Nat) :
    runPos w g fuel blk pos env = runPos w g fuel blk (pos + is.length) env' := by
  simp only [runPos, hdrop, hexec]

theorem stepsK_straight (w : World) (g : Func) (blk pos : Nat) (is : List Instr) (env env' : Val → Nat)
    (hdrop : (instrsOf g blk).drop pos = is ++ (instrsOf g blk).drop (pos + is.length))
    (hexec : ∀ rest, execBody w [] (is ++ rest) (mk env) = execBody w [] rest (mk env')) :
    StepsK w g 0 ⟨blk, pos, env⟩ ⟨blk, pos + is.length, env'⟩ :=
  ⟨fun fuel => runPos_straight w g blk pos is env env' hdrop hexec fuel, fun _ h => absurd h (Nat.not_lt_zero _)⟩

theorem final_trap (w : World) (g : Func) (blk pos : Nat) (is : List Instr) (env : Val → Nat) (code : Nat)
    (hdrop : (instrsOf g blk).drop pos = is ++ (instrsOf g blk).drop (pos + is.length))
    (hexec : ∀ rest, execBody w [] (is ++ rest) (mk env) = some (.trap code (mk env))) :
    Final w g ⟨blk, pos, env⟩ (.trap code [] []) :=
  fun fuel => by simp only [runPos, hdrop, hexec]; rfl

variable {blk pos : Nat} {i : Instr} {env : Val → Nat}

theorem final_ret {vs : List Val} (h : (instrsOf g blk)[pos]? = some (.ret vs)) :
    Final w g ⟨blk, pos, env⟩ (.values (vs.map env) [] []) :=
  fun fuel => by rw [runPos_instr w g h]; rfl

theorem final_exit {c code : Nat} (h : (instrsOf g blk)[pos]? = some (.exit c code)) :
    Final w g ⟨blk, pos, env⟩ (.trap code [] []) :=
  fun fuel => by rw [runPos_instr w g h]; rfl

/-- a conditional branch that is not taken -/
theorem stepsK_next (h : (instrsOf g blk)[pos]? = some i) (hx : execInstr w env i (mk env) = .next (mk env)) :
    StepsK w g 0 ⟨blk, pos, env⟩ ⟨blk, pos + 1, env⟩ :=
  ⟨fun fuel => by rw [runPos_instr w g h, hx]; rfl, fun _ h => absurd h (Nat.not_lt_zero _)⟩

theorem stepsK_goto (hal : g.alias = []) {t : Nat} {args : List Val} {T : Block}
    (h : (instrsOf g blk)[pos]? = some i) (hx : execInstr w env i (mk env) = .goto t (args.map env) (mk env))
    (hT : g.findBlock t = some T) (hlen : T.params.length = args.length) :
    StepsK w g 1 ⟨blk, pos, env⟩ ⟨t, 0, bindVals env T.params (args.map env)⟩ := by
  have h0 : ∀ fuel, runPos w g fuel blk pos env = runFrom w g fuel t (args.map env) (mk env) :=
    fun fuel => by rw [runPos_instr w g h, hx]
  refine ⟨fun fuel => ?_, fun fuel hf => ?_⟩
  · rw [h0, runFrom_enter w g hal fuel t T _ env hT (by rw [hlen, List.length_map])]
  · rw [Nat.lt_one_iff.mp hf, h0]
    rfl

end Wz.Proofs.FrontCF
