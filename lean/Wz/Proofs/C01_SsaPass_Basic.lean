import Wz.Model.SsaPass

/-! Basic lemmas about the SSA model `Wz.Model.SsaPass`: alias tables in resolved form (with ranks and declared types
along their entries), the bounds of the arithmetic, what one instruction does (`InstrStep`: the one case analysis of
`execInstr`, from which `execInstr_goto_inv`, `exec_pure`, `exec_frame`, `exec_typed` and `execInstr_sim` are read off),
and the block-by-block simulation (`run_sim_driver`) that every pass is proved sound with. -/
namespace Wz.Model.SsaPass

theorem find?_map_of_comm {α} (l : List α) (g : α → α) (p : α → Bool) (h : ∀ a, p (g a) = p a) :
    (l.map g).find? p = (l.find? p).map g := by
  rw [List.find?_map]
  congr 2
  exact funext h

theorem nodup_flatMap_unique {α β} {g : α → List β} {l : List α} (h : (l.flatMap g).Nodup) {a b : α}
    (ha : a ∈ l) (hb : b ∈ l) {x : β} (hxa : x ∈ g a) (hxb : x ∈ g b) : a = b := by
  induction l with
  | nil => cases ha
  | cons c l ih =>
    simp only [List.flatMap_cons, List.nodup_append] at h
    obtain ⟨_, h2, h3⟩ := h
    cases ha with
    | head =>
      cases hb with
      | head => rfl
      | tail _ hb => exact absurd rfl (h3 x hxa x (List.mem_flatMap.mpr ⟨b, hb, hxb⟩))
    | tail _ ha =>
      cases hb with
      | head => exact absurd rfl (h3 x hxb x (List.mem_flatMap.mpr ⟨a, ha, hxa⟩))
      | tail _ hb => exact ih h2 ha hb

theorem map_eraseIdx {α β} (g : α → β) (l : List α) (k : Nat) : (l.eraseIdx k).map g = (l.map g).eraseIdx k := by
  simp [List.eraseIdx_eq_take_drop_succ, List.map_take, List.map_drop]

theorem zip_eraseIdx {α β} (l1 : List α) (l2 : List β) (k : Nat) :
    (l1.eraseIdx k).zip (l2.eraseIdx k) = (l1.zip l2).eraseIdx k := by
  induction l1 generalizing l2 k with
  | nil => simp
  | cons a l1 ih =>
    cases l2 with
    | nil => cases k <;> simp [List.eraseIdx]
    | cons b l2 =>
      cases k with
      | zero => rfl
      | succ k => simp [List.eraseIdx, ih]

theorem length_eraseIdx_eq {α β} {l1 : List α} {l2 : List β} (k : Nat) (h : l1.length = l2.length) :
    (l1.eraseIdx k).length = (l2.eraseIdx k).length := by
  simp [List.length_eraseIdx, h]

theorem lt_length_of_getElem? {α} {l : List α} {k : Nat} {x : α} (h : l[k]? = some x) : k < l.length :=
  (List.getElem?_eq_some_iff.mp h).1

theorem mem_eraseIdx_nodup {α} {l : List α} (hnd : l.Nodup) {k : Nat} {x y : α} (hy : l[k]? = some y) :
    x ∈ l.eraseIdx k ↔ x ∈ l ∧ x ≠ y := by
  rw [List.mem_eraseIdx_iff_getElem?]
  constructor
  · rintro ⟨j, hjk, hj⟩
    refine ⟨List.mem_of_getElem? hj, ?_⟩
    rintro rfl
    exact hjk ((List.getElem?_inj (lt_length_of_getElem? hj) hnd).mp (hj.trans hy.symm))
  · rintro ⟨hx, hne⟩
    obtain ⟨j, hj⟩ := List.mem_iff_getElem?.mp hx
    exact ⟨j, fun hjk => hne (Option.some.inj (hj.symm.trans (hjk ▸ hy))), hj⟩

theorem sublist_flatMap {α β} {g g' : α → List β} (l : List α) (h : ∀ a ∈ l, (g' a).Sublist (g a)) :
    (l.flatMap g').Sublist (l.flatMap g) := by
  induction l with
  | nil => exact List.Sublist.refl _
  | cons a l ih =>
    simp only [List.flatMap_cons]
    exact List.Sublist.append (h a (List.mem_cons_self ..)) (ih (fun x hx => h x (List.mem_cons_of_mem _ hx)))

theorem zipIdx_pairwise {α} (l : List α) (k : Nat) : (l.zipIdx k).Pairwise (fun x y => x.2 < y.2) := by
  have := List.pairwise_lt_range' (s := k) (n := l.length)
  rwa [← List.zipIdx_map_snd k l, List.pairwise_map] at this

theorem aliasGet_mem {al : List (Val × Val)} {v t : Val} (h : aliasGet al v = some t) : (v, t) ∈ al := by
  induction al with
  | nil => simp [aliasGet] at h
  | cons e rest ih =>
    obtain ⟨k, t'⟩ := e
    simp only [aliasGet] at h
    split at h
    · rename_i hk; cases h; subst hk; exact List.mem_cons_self ..
    · exact List.mem_cons_of_mem _ (ih h)

theorem aliasGet_none_of_not_key {al : List (Val × Val)} {v : Val} (h : ∀ t, (v, t) ∉ al) : aliasGet al v = none := by
  cases hg : aliasGet al v with
  | none => rfl
  | some t => exact absurd (aliasGet_mem hg) (h t)

theorem res_of_none {al : List (Val × Val)} {v : Val} (h : aliasGet al v = none) : res al v = v := by
  simp [res, h]

theorem res_of_some {al : List (Val × Val)} {v t : Val} (h : aliasGet al v = some t) : res al v = t := by
  simp [res, h]

theorem res_nil (v : Val) : res [] v = v := rfl

theorem aliasNF_nil : AliasNF [] := by intro k t h; cases h

theorem aliasGet_res {al : List (Val × Val)} (h : AliasNF al) (v : Val) : aliasGet al (res al v) = none := by
  cases hg : aliasGet al v with
  | none => rw [res_of_none hg]; exact hg
  | some t => rw [res_of_some hg]; exact h v t (aliasGet_mem hg)

theorem res_idem {al : List (Val × Val)} (h : AliasNF al) (v : Val) : res al (res al v) = res al v :=
  res_of_none (aliasGet_res h v)

theorem aliasGet_map_snd (al : List (Val × Val)) (g : Val → Val) (v : Val) :
    aliasGet (al.map (fun e => (e.1, g e.2))) v = (aliasGet al v).map g := by
  induction al with
  | nil => rfl
  | cons e rest ih =>
    obtain ⟨k, t⟩ := e
    simp only [List.map_cons, aliasGet]
    split
    · rfl
    · exact ih

theorem aliasInsert_cases (al : List (Val × Val)) (dst src : Val) :
    aliasInsert al dst src = al ∨ (res al src ≠ dst ∧ aliasGet al dst = none) := by
  unfold aliasInsert
  by_cases h1 : res al src = dst
  · simp [h1]
  · cases h2 : aliasGet al dst with
    | none => exact Or.inr ⟨h1, rfl⟩
    | some _ => simp [h1]

theorem aliasInsert_def {al : List (Val × Val)} {dst src : Val} (h1 : res al src ≠ dst)
    (h2 : aliasGet al dst = none) :
    aliasInsert al dst src = (dst, res al src) :: al.map (fun e => (e.1, if e.2 = dst then res al src else e.2)) := by
  simp [aliasInsert, h1, h2]

theorem aliasGet_insert {al : List (Val × Val)} {dst src : Val} (h1 : res al src ≠ dst)
    (h2 : aliasGet al dst = none) (q : Val) :
    aliasGet (aliasInsert al dst src) q =
      if dst = q then some (res al src) else (aliasGet al q).map (fun t => if t = dst then res al src else t) := by
  rw [aliasInsert_def h1 h2]
  simp only [aliasGet]
  split
  · rfl
  · exact aliasGet_map_snd al (fun t => if t = dst then res al src else t) q

theorem res_aliasInsert {al : List (Val × Val)} (dst src : Val)
    (h1 : res al src ≠ dst) (h2 : aliasGet al dst = none) (v : Val) :
    res (aliasInsert al dst src) v = if res al v = dst then res al src else res al v := by
  show (aliasGet _ v).getD v = _
  rw [aliasGet_insert h1 h2]
  by_cases hv : dst = v
  · subst hv; simp [res_of_none h2]
  · cases hg : aliasGet al v with
    | none => simp [hv, res_of_none hg, Ne.symm hv]
    | some t => simp [hv, res_of_some hg]

theorem mem_aliasInsert {al : List (Val × Val)} {dst src : Val} {e : Val × Val} (he : e ∈ aliasInsert al dst src) :
    e ∈ al ∨ (e.2 = res al src ∧ (e.1 = dst ∨ (e.1, dst) ∈ al)) := by
  rcases aliasInsert_cases al dst src with h | ⟨h1, h2⟩
  · exact Or.inl (h ▸ he)
  · rw [aliasInsert_def h1 h2] at he
    rcases List.mem_cons.mp he with rfl | hm
    · exact Or.inr ⟨rfl, Or.inl rfl⟩
    · obtain ⟨⟨k, t⟩, he0, rfl⟩ := List.mem_map.mp hm
      by_cases hd : t = dst
      · subst hd; exact Or.inr ⟨if_pos rfl, Or.inr he0⟩
      · simp only [if_neg hd]; exact Or.inl he0

theorem aliasGet_insert_ne_none {al : List (Val × Val)} {dst src q : Val} (h : aliasGet al q ≠ none) :
    aliasGet (aliasInsert al dst src) q ≠ none := by
  rcases aliasInsert_cases al dst src with h0 | ⟨h1, h2⟩
  · rw [h0]; exact h
  · rw [aliasGet_insert h1 h2]
    split
    · exact Option.some_ne_none _
    · cases hg : aliasGet al q with
      | none => exact absurd hg h
      | some t => exact Option.some_ne_none _

theorem aliasGet_insert_none {al : List (Val × Val)} {dst src q : Val} (h : aliasGet al q = none) (hq : q ≠ dst) :
    aliasGet (aliasInsert al dst src) q = none := by
  rcases aliasInsert_cases al dst src with h0 | ⟨h1, h2⟩
  · rw [h0]; exact h
  · rw [aliasGet_insert h1 h2, if_neg (Ne.symm hq), h]; rfl

theorem aliasNF_insert {al : List (Val × Val)} (hnf : AliasNF al) (dst src : Val) :
    AliasNF (aliasInsert al dst src) := by
  rcases aliasInsert_cases al dst src with h | ⟨h1, h2⟩
  · rw [h]; exact hnf
  intro k t hkt
  -- the target of a new entry is the resolved source or an old target other than `dst`
  have hsrc : aliasGet al (res al src) = none ∧ res al src ≠ dst := ⟨aliasGet_res hnf src, h1⟩
  have ht : aliasGet al t = none ∧ t ≠ dst := by
    rw [aliasInsert_def h1 h2] at hkt
    rcases List.mem_cons.mp hkt with h | h
    · cases h; exact hsrc
    · obtain ⟨e0, he0, h⟩ := List.mem_map.mp h
      cases h
      by_cases hd : e0.2 = dst
      · rw [if_pos hd]; exact hsrc
      · rw [if_neg hd]; exact ⟨hnf e0.1 e0.2 he0, hd⟩
  exact aliasGet_insert_none ht.1 ht.2

def Ext (al al' : List (Val × Val)) : Prop := ∀ x y, res al x = res al y → res al' x = res al' y

theorem Ext.refl (al : List (Val × Val)) : Ext al al := fun _ _ h => h

theorem ext_insert {al : List (Val × Val)} (dst src : Val) : Ext al (aliasInsert al dst src) := by
  intro x y h
  rcases aliasInsert_cases al dst src with h0 | ⟨h1, h2⟩
  · rw [h0]; exact h
  · rw [res_aliasInsert dst src h1 h2, res_aliasInsert dst src h1 h2, h]

theorem aliasNF_iff (al : List (Val × Val)) : AliasNF al ↔ ∀ e ∈ al, aliasGet al e.2 = none :=
  ⟨fun h e he => h e.1 e.2 he, fun h k t hkt => h (k, t) hkt⟩

theorem res_eq_self_or_key (al : List (Val × Val)) (v : Val) : res al v = v ∨ aliasGet al v ≠ none := by
  cases hg : aliasGet al v with
  | none => exact Or.inl (res_of_none hg)
  | some t => exact Or.inr (by simp)

theorem res_mem_of_key {al : List (Val × Val)} {v : Val} (hk : aliasGet al v ≠ none) : (v, res al v) ∈ al := by
  cases hg : aliasGet al v with
  | none => exact absurd hg hk
  | some t => rw [res_of_some hg]; exact aliasGet_mem hg

theorem rank_res_lt_of_key {rank : Val → Nat} {al : List (Val × Val)} (hR : ∀ e ∈ al, rank e.2 < rank e.1) {v : Val}
    (hk : aliasGet al v ≠ none) : rank (res al v) < rank v :=
  hR _ (res_mem_of_key hk)

theorem rank_res_le {rank : Val → Nat} {al : List (Val × Val)} (hR : ∀ e ∈ al, rank e.2 < rank e.1) (v : Val) :
    rank (res al v) ≤ rank v := by
  rcases res_eq_self_or_key al v with h | h
  · rw [h]; exact Nat.le_refl _
  · exact Nat.le_of_lt (rank_res_lt_of_key hR h)

theorem cty_res {cty : Val → Ty} {al : List (Val × Val)} (hT : ∀ e ∈ al, cty e.1 = cty e.2) (v : Val) :
    cty (res al v) = cty v := by
  rcases res_eq_self_or_key al v with h | h
  · rw [h]
  · exact (hT _ (res_mem_of_key h)).symm

/-- An entry of the extended table is an old entry, the new entry `dst ↦ res al src`, or an old entry to `dst`
followed by the new one: hence `htrans`. -/
theorem forall_aliasInsert {R : Val → Val → Prop} (htrans : ∀ {x y z}, R x y → R y z → R x z) {al : List (Val × Val)}
    {dst src : Val} (hR : ∀ e ∈ al, R e.1 e.2) (h : R dst (res al src)) : ∀ e ∈ aliasInsert al dst src, R e.1 e.2 := by
  intro e he
  rcases mem_aliasInsert he with h0 | ⟨ht, hk | hk⟩
  · exact hR e h0
  · rw [ht, hk]; exact h
  · rw [ht]; exact htrans (hR (e.1, dst) hk) h

theorem norm_lt (ty : Ty) (n : Nat) : norm ty n < 2 ^ ty.bits := Nat.mod_lt _ (Nat.two_pow_pos _)

theorem norm_of_lt {ty : Ty} {n : Nat} (h : n < 2 ^ ty.bits) : norm ty n = n := Nat.mod_eq_of_lt h

theorem clz_le (w x : Nat) : clz w x ≤ w := by
  unfold clz; split
  · exact Nat.le_refl _
  · omega

theorem ctzAux_le (x : Nat) : ∀ (k acc : Nat), ctzAux x k acc ≤ acc + k := by
  intro k
  induction k generalizing x with
  | zero => intro acc; simp [ctzAux]
  | succ k ih =>
    intro acc
    simp only [ctzAux]
    split
    · omega
    · have := ih (x / 2) (acc + 1); omega

theorem ctz_le (w x : Nat) : ctz w x ≤ w := by
  unfold ctz; split
  · exact Nat.le_refl _
  · have := ctzAux_le (x % 2 ^ w) w 0; omega

theorem popcntAux_le (x : Nat) : ∀ k, popcntAux x k ≤ k := by
  intro k
  induction k generalizing x with
  | zero => simp [popcntAux]
  | succ k ih =>
    simp only [popcntAux]
    have := ih (x / 2)
    have : x % 2 < 2 := Nat.mod_lt _ (by decide)
    omega

theorem popcnt_le (w x : Nat) : popcnt w x ≤ w := popcntAux_le _ _

theorem bits_lt_two_pow (ty : Ty) : ty.bits < 2 ^ ty.bits := by cases ty <;> decide

theorem evalBin_lt (op : BinOp) (ty : Ty) (x y : Nat) : evalBin op ty x y < 2 ^ ty.bits := by
  cases op <;> simp only [evalBin] <;> exact BitVec.isLt _

theorem evalCond_lt (c : Cond) (ty : Ty) (x y : Nat) : evalCond c ty x y < 2 ^ 32 := by
  have h : ∀ b : Bool, (if b = true then 1 else 0) < 2 ^ 32 := by intro b; cases b <;> decide
  unfold evalCond; exact h _

theorem evalUn_lt (op : UnOp) (ty : Ty) (x : Nat) : evalUn op ty x < 2 ^ ty.bits := by
  cases op <;> simp only [evalUn]
  · exact Nat.lt_of_le_of_lt (clz_le _ _) (bits_lt_two_pow ty)
  · exact Nat.lt_of_le_of_lt (ctz_le _ _) (bits_lt_two_pow ty)
  · exact Nat.lt_of_le_of_lt (popcnt_le _ _) (bits_lt_two_pow ty)
  all_goals exact norm_lt _ _

theorem evalDiv_lt (op : DivOp) (ty : Ty) (x y v : Nat) (h : evalDiv op ty x y = .ok v) : v < 2 ^ ty.bits := by
  unfold evalDiv at h
  simp only at h
  split at h
  · cases h
  · cases op <;> simp only at h
    case sdiv =>
      split at h <;> cases h
      exact BitVec.isLt _
    all_goals cases h; exact BitVec.isLt _

theorem bindVals_frame (rs : List (Val × Ty)) (vs : List Nat) (e : Val → Nat) (v : Val)
    (h : v ∉ rs.map (·.1)) : bindVals e rs vs v = e v := by
  induction rs generalizing e vs with
  | nil => rfl
  | cons p rs ih =>
    obtain ⟨r, ty⟩ := p
    simp only [List.map_cons, List.mem_cons, not_or] at h
    simp only [bindVals]
    rw [ih _ _ h.2]
    simp [upd, h.1]

theorem bindVals_at (ps : List (Val × Ty)) :
    ∀ (k : Nat) (vs : List Nat) (e : Val → Nat) (p : Val × Ty), (ps.map (·.1)).Nodup → ps[k]? = some p →
      bindVals e ps vs p.1 = norm p.2 (vs[k]?.getD 0) := by
  induction ps with
  | nil => intro k vs e p _ h; simp at h
  | cons q ps ih =>
    obtain ⟨r, ty⟩ := q
    intro k vs e p hnd hk
    simp only [List.map_cons, List.nodup_cons] at hnd
    cases k with
    | zero =>
      simp only [List.getElem?_cons_zero, Option.some.injEq] at hk
      subst hk
      simp only [bindVals]
      rw [bindVals_frame _ _ _ _ hnd.1]
      cases vs <;> simp [upd]
    | succ k =>
      simp only [List.getElem?_cons_succ] at hk
      simp only [bindVals]
      rw [ih k vs.tail _ p hnd.2 hk]
      cases vs <;> simp

theorem execInstr_congr (w : World) {ρ ρ' : Val → Nat} (i : Instr) (st : St)
    (h : ∀ o ∈ i.operands, ρ o = ρ' o) : execInstr w ρ i st = execInstr w ρ' i st := by
  have hl := List.map_congr_left h
  cases i <;> simp only [Instr.operands, List.map_cons, List.map_nil, List.cons.injEq, and_true] at hl <;>
    simp only [execInstr, hl]

theorem execInstr_mapOperands (w : World) (ρ : Val → Nat) (g : Val → Val) (i : Instr) (st : St) :
    execInstr w ρ (i.mapOperands g) st = execInstr w (fun v => ρ (g v)) i st := by
  cases i <;> simp only [execInstr, Instr.mapOperands, List.map_map, Function.comp_def]

theorem mapOperands_results (g : Val → Val) (i : Instr) : (i.mapOperands g).results = i.results := by
  cases i <;> rfl

theorem mapOperands_opcode (g : Val → Val) (i : Instr) : (i.mapOperands g).opcode = i.opcode := by
  cases i <;> rfl

theorem mapOperands_operands (g : Val → Val) (i : Instr) : (i.mapOperands g).operands = i.operands.map g := by
  cases i <;> rfl

theorem typedResults_fst (i : Instr) : i.typedResults.map (·.1) = i.results := by
  cases i <;> rfl

/-- What one instruction does from the state `st`, as a function `k` of the environment put in place of `st.env`: the
operands are read through `ρ`, never from the environment, so one `InstrStep` speaks of the runs from all environments
at once (`execInstr_sim`).  The instruction goes on and binds values to its typed results, or it leaves the block with
the environment as it was.  A fall-through of an instruction of side-effect class `none` keeps memory and trace,
anything else has a side effect, and only a branch instruction jumps. -/
inductive InstrStep (ρ : Val → Nat) (i : Instr) (st : St) (k : (Val → Nat) → Ctl) : Prop where
  | next (outs : List Nat) (m tr) (pure : sideEffect i.opcode = .none → m = st.mem ∧ tr = st.trace)
      (h : ∀ env, k env = .next ⟨bindVals env i.typedResults outs, m, tr⟩)
  | goto (b : BlockId) (as : List Val) (br : i.branch? = some (b, as)) (eff : sideEffect i.opcode ≠ .none)
      (h : ∀ env, k env = .goto b (as.map ρ) { st with env })
  | ret (vs : List Nat) (eff : sideEffect i.opcode ≠ .none) (h : ∀ env, k env = .ret vs { st with env })
  | trap (code : Nat) (tr) (eff : sideEffect i.opcode ≠ .none)
      (h : ∀ env, k env = .trap code { st with env, trace := tr })

theorem execInstr_step (w : World) (ρ : Val → Nat) (i : Instr) (st : St) :
    InstrStep ρ i st (fun env => execInstr w ρ i { st with env }) := by
  -- a result within its type is bound as it is
  have write : ∀ {r ty x}, i.typedResults = [(r, ty)] → x < 2 ^ ty.bits →
      InstrStep ρ i st (fun env => .next ({ st with env }.set r x)) := fun {_ _ x} hr hx =>
    .next [x] st.mem st.trace (fun _ => ⟨rfl, rfl⟩)
      (fun _ => by simp only [hr, St.set, bindVals, List.headD, norm_of_lt hx])
  have stay : i.typedResults = [] → InstrStep ρ i st (fun env => .next { st with env }) := fun hr =>
    .next [] _ _ (fun _ => ⟨rfl, rfl⟩) (fun _ => by rw [hr]; rfl)
  cases i <;> simp only [execInstr]
  case iconst | select | load => exact write rfl (norm_lt ..)
  case bin => exact write rfl (evalBin_lt ..)
  case icmp => exact write (ty := .i32) rfl (evalCond_lt ..)
  case un => exact write rfl (evalUn_lt ..)
  case store op _ _ _ _ => exact .next [] _ _ (fun h => by cases op <;> cases h) (fun _ => rfl)
  case call fn _ _ args =>
    cases w.call fn (args.map ρ) st.mem with
    | none => exact .trap _ _ nofun (fun _ => rfl)
    | some p => exact .next p.2 _ _ nofun (fun _ => rfl)
  case div op _ ty x y _ =>
    cases hd : evalDiv op ty (ρ x) (ρ y) with
    | ok v => exact write rfl (evalDiv_lt _ _ _ _ _ hd)
    | error c => exact .trap c _ (by cases op <;> nofun) (fun _ => rfl)
  case exitIf =>
    split
    · exact .trap _ _ nofun fun _ => rfl
    · exact stay rfl
  case exit => exact .trap _ _ nofun fun _ => rfl
  case jump => exact .goto _ _ rfl nofun fun _ => rfl
  case brz | brnz =>
    split
    · exact .goto _ _ rfl nofun fun _ => rfl
    · exact stay rfl
  case ret => exact .ret _ nofun fun _ => rfl

theorem execInstr_goto_inv (w : World) (ρ : Val → Nat) (i : Instr) (st : St) {b : BlockId} {args : List Nat}
    {st1 : St} (h : execInstr w ρ i st = .goto b args st1) :
    st1 = st ∧ ∃ as, i.branch? = some (b, as) ∧ args = as.map ρ := by
  cases execInstr_step w ρ i st with
  | goto b' as hbr _ hk => cases (hk st.env).symm.trans h; exact ⟨rfl, as, hbr, rfl⟩
  | _ => rename_i hk; cases (hk st.env).symm.trans h

theorem execInstr_goto_branch (w : World) (ρ : Val → Nat) (i : Instr) (st : St) {b : BlockId} {args : List Nat}
    {st' : St} (h : execInstr w ρ i st = .goto b args st') : i.branch?.map (·.1) = some b := by
  obtain ⟨_, as, hbr, _⟩ := execInstr_goto_inv w ρ i st h
  rw [hbr]; rfl

theorem exec_pure (w : World) (ρ : Val → Nat) (i : Instr) (st : St) (h : sideEffect i.opcode = .none) :
    ∃ st', execInstr w ρ i st = .next st' ∧ st'.mem = st.mem ∧ st'.trace = st.trace := by
  cases execInstr_step w ρ i st with
  | next outs m tr hp hk => exact ⟨_, hk st.env, hp h⟩
  | _ => rename_i eff _; exact absurd h eff

def Ctl.st : Ctl → St
  | .next st => st
  | .goto _ _ st => st
  | .ret _ st => st
  | .trap _ st => st

theorem exec_frame (w : World) (ρ : Val → Nat) (i : Instr) (st : St) (v : Val) (h : v ∉ i.results) :
    (execInstr w ρ i st).st.env v = st.env v := by
  cases execInstr_step w ρ i st with
  | next outs m tr _ hk => rw [hk st.env]; exact bindVals_frame _ _ _ _ (typedResults_fst i ▸ h)
  | _ => rename_i hk; rw [hk st.env]; rfl

/-- states that agree on the values in `S`, and entirely on memory and trace -/
structure StRel (S : Val → Prop) (st st' : St) : Prop where
  env : ∀ v, S v → st.env v = st'.env v
  mem : st.mem = st'.mem
  trace : st.trace = st'.trace

/-- two results of an instruction of the same kind: `N` relates the states at a fall-through, `G` the arguments and the
states at a jump -/
inductive CtlRel (N : St → St → Prop) (G : BlockId → List Nat → List Nat → St → St → Prop) : Ctl → Ctl → Prop where
  | next {st st'} : N st st' → CtlRel N G (.next st) (.next st')
  | goto {b as as' st st'} : G b as as' st st' → CtlRel N G (.goto b as st) (.goto b as' st')
  | ret {vs st st'} : st.mem = st'.mem → st.trace = st'.trace → CtlRel N G (.ret vs st) (.ret vs st')
  | trap {c st st'} : st.mem = st'.mem → st.trace = st'.trace → CtlRel N G (.trap c st) (.trap c st')

theorem CtlRel.imp {N N' G G'} {c c' : Ctl} (h : CtlRel N G c c')
    (hN : ∀ st st', c = .next st → c' = .next st' → N st st' → N' st st')
    (hG : ∀ b as as' st st', G b as as' st st' → G' b as as' st st') : CtlRel N' G' c c' := by
  cases h with
  | next h => exact .next (hN _ _ rfl rfl h)
  | goto h => exact .goto (hG _ _ _ _ _ h)
  | ret hm ht => exact .ret hm ht
  | trap hm ht => exact .trap hm ht

theorem StRel.mono {S S' : Val → Prop} {st st' : St} (h : StRel S st st') (hs : ∀ v, S' v → S v) : StRel S' st st' :=
  ⟨fun v hv => h.env v (hs v hv), h.mem, h.trace⟩

theorem upd_agree {S : Val → Prop} {e e' : Val → Nat} (h : ∀ v, S v → e v = e' v) (r : Val) (x : Nat) :
    ∀ v, (v ∈ [r] ∨ S v) → upd e r x v = upd e' r x v := by
  intro v hv; unfold upd; split
  · rfl
  · rename_i hne
    exact h v (hv.resolve_left (fun hm => hne (List.mem_singleton.mp hm)))

theorem bindVals_agree {S : Val → Prop} (rs : List (Val × Ty)) (vs : List Nat) {e e' : Val → Nat}
    (h : ∀ v, S v → e v = e' v) : ∀ v, (v ∈ rs.map (·.1) ∨ S v) → bindVals e rs vs v = bindVals e' rs vs v := by
  induction rs generalizing e e' vs S with
  | nil => exact fun v hv => h v (hv.resolve_left (fun hm => nomatch hm))
  | cons p rs ih =>
    obtain ⟨r, ty⟩ := p
    intro v hv
    simp only [bindVals]
    refine ih (S := fun v => v ∈ [r] ∨ S v) _ (upd_agree h _ _) v ?_
    rcases hv with hv | hv
    · rcases List.mem_cons.mp hv with rfl | hv
      · exact .inr (.inl (List.mem_singleton_self _))
      · exact .inl hv
    · exact .inr (.inr hv)

theorem StRel.set {S : Val → Prop} {st st' : St} (h : StRel S st st') (r : Val) (x : Nat) :
    StRel (fun v => v ∈ [r] ∨ S v) (st.set r x) (st'.set r x) :=
  ⟨upd_agree h.env r x, h.mem, h.trace⟩

/-- One instruction executed in two related states with operand readers that agree on its operands gives
related results. -/
theorem execInstr_sim (w : World) (S : Val → Prop) {ρ ρ' : Val → Nat} (i : Instr) {st st' : St}
    (hst : StRel S st st') (h : ∀ o ∈ i.operands, ρ o = ρ' o) :
    CtlRel (StRel (fun v => v ∈ i.results ∨ S v))
      (fun b as as' st st' => as' = as ∧ StRel S st st' ∧ ∃ as0, i.branch? = some (b, as0) ∧ as = as0.map ρ')
      (execInstr w ρ i st) (execInstr w ρ' i st') := by
  -- the same step from two environments
  have hst' : st' = { st with env := st'.env } := by rw [hst.mem, hst.trace]
  rw [execInstr_congr w i st h, hst']
  cases execInstr_step w ρ' i st with
  | next outs m tr _ hk =>
    rw [hk st.env, hk]
    exact .next ⟨typedResults_fst i ▸ bindVals_agree _ _ hst.env, rfl, rfl⟩
  | goto b as hbr _ hk => rw [hk st.env, hk]; exact .goto ⟨rfl, hst' ▸ hst, as, hbr, rfl⟩
  | ret vs _ hk => rw [hk st.env, hk]; exact .ret rfl rfl
  | trap c tr _ hk => rw [hk st.env, hk]; exact .trap rfl rfl

/-- `execBody` by its own induction principle: the body is empty, its first instruction falls through, or its first
instruction decides. -/
theorem execBody_congr (w : World) {al al' : List (Val × Val)} (δ : Instr → Instr) (is : List Instr) (st : St) :
    (∀ i ∈ is, ∀ st : St, execInstr w (fun v => st.env (res al' v)) (δ i) st =
      execInstr w (fun v => st.env (res al v)) i st) →
    execBody w al' (is.map δ) st = execBody w al is st := by
  fun_induction execBody w al is st with
  | case1 => exact fun _ => rfl
  | case2 i is st st1 hex ih =>
    intro h
    simp only [List.map_cons, execBody, h i (List.mem_cons_self ..) st, hex]
    exact ih fun j hj => h j (List.mem_cons_of_mem _ hj)
  | case3 i is st _ => exact fun h => by simp only [List.map_cons, execBody, h i (List.mem_cons_self ..) st]

theorem execBody_goto_succ (w : World) (al : List (Val × Val)) (is : List Instr) (st : St) (b : BlockId)
    (args : List Nat) (st' : St) :
    execBody w al is st = some (.goto b args st') → b ∈ is.filterMap (fun i => i.branch?.map (·.1)) := by
  fun_induction execBody w al is st with
  | case1 => nofun
  | case2 i is st st1 hex ih =>
    intro h
    rw [List.filterMap_cons]
    split
    · exact ih h
    · exact List.mem_cons_of_mem _ (ih h)
  | case3 i is st _ =>
    intro h
    rw [List.filterMap_cons, execInstr_goto_branch w _ i st (Option.some.inj h)]
    exact List.mem_cons_self ..

/-- how the results of two block bodies are related, given the relation `ER` required at the entry of a block -/
inductive BodyOut (ER : BlockId → List Nat → List Nat → St → St → Prop) : Option Ctl → Option Ctl → Prop where
  | none : BodyOut ER none none
  | some {c c'} : CtlRel (fun _ _ => True) ER c c' → BodyOut ER (some c) (some c')

theorem BodyOut.refl {ER : BlockId → List Nat → List Nat → St → St → Prop} (r : Option Ctl)
    (h : ∀ b as st, r = Option.some (.goto b as st) → ER b as as st st) : BodyOut ER r r := by
  cases r with
  | none => exact .none
  | some c =>
    cases c with
    | next _ => exact .some (.next trivial)
    | goto b as st => exact .some (.goto (h b as st rfl))
    | ret _ _ => exact .some (.ret rfl rfl)
    | trap _ _ => exact .some (.trap rfl rfl)

theorem BodyOut.cons {N : St → St → Prop} {ER : BlockId → List Nat → List Nat → St → St → Prop} {w : World}
    {al al' : List (Val × Val)} {i i' : Instr} {is is' : List Instr} {st st' : St}
    (h : CtlRel N ER (execInstr w (fun v => st.env (res al v)) i st)
      (execInstr w (fun v => st'.env (res al' v)) i' st'))
    (ih : ∀ st1 st1', N st1 st1' → BodyOut ER (execBody w al is st1) (execBody w al' is' st1')) :
    BodyOut ER (execBody w al (i :: is) st) (execBody w al' (i' :: is') st') := by
  simp only [execBody]
  revert h
  generalize execInstr w (fun v => st.env (res al v)) i st = c
  generalize execInstr w (fun v => st'.env (res al' v)) i' st' = c'
  intro h
  cases h with
  | next h => exact ih _ _ h
  | goto h => exact .some (.goto h)
  | ret hm ht => exact .some (.ret hm ht)
  | trap hm ht => exact .some (.trap hm ht)

theorem findBlock_mem {f : Func} {b : BlockId} {B : Block} (h : f.findBlock b = some B) :
    B ∈ f.blocks ∧ B.id = b ∧ B.invalid = false := by
  simp only [Func.findBlock] at h
  have h1 := List.mem_of_find?_eq_some h
  have h2 := List.find?_some h
  simp only [decide_eq_true_eq] at h2
  exact ⟨h1, h2.1, by simpa using h2.2⟩

theorem findBlock_unique {f : Func} {b : BlockId} {B C : Block} (hB : f.findBlock b = some B)
    (hC : f.findBlock b = some C) : B = C :=
  Option.some.inj (hB.symm.trans hC)

theorem find_of_nodup_ids (l : List Block) (hu : (l.map (·.id)).Nodup) {B : Block} (hB : B ∈ l) :
    l.find? (fun C => C.id = B.id) = some B := by
  induction l with
  | nil => cases hB
  | cons C Cs ih =>
    simp only [List.map_cons, List.nodup_cons] at hu
    simp only [List.find?_cons]
    cases hB with
    | head => simp
    | tail _ hm =>
      have hne : C.id ≠ B.id := by
        intro he
        exact hu.1 (he ▸ List.mem_map_of_mem hm)
      simp only [hne, decide_false]
      exact ih hu.2 hm

theorem entry_map (f : Func) (g : Block → Block) (h : ∀ B, (g B).id = B.id) :
    ({ f with blocks := f.blocks.map g } : Func).entry = f.entry := by
  simp only [Func.entry]
  cases f.blocks with
  | nil => rfl
  | cons B Bs => simp [h]

theorem mem_allInstrs {f : Func} {i : Instr} : i ∈ f.allInstrs ↔ ∃ B ∈ f.blocks, i ∈ B.instrs := by
  simp [Func.allInstrs, List.mem_flatMap]

theorem mem_validInstrs {f : Func} {i : Instr} :
    i ∈ f.validInstrs ↔ ∃ B ∈ f.blocks, B.invalid = false ∧ i ∈ B.instrs := by
  simp [Func.validInstrs, Func.validBlocks, List.mem_flatMap, and_assoc]

/-- Simulation, one block at a time: `ER` is what holds at the entry of a block, and again at every taken branch. -/
theorem run_sim_driver (w : World) (f f' : Func) (g : Block → Block)
    (ER : BlockId → List Nat → List Nat → St → St → Prop)
    (hfind : ∀ {b as as' st st'}, ER b as as' st st' → f'.findBlock b = (f.findBlock b).map g)
    (hstep : ∀ {b as as' st st' B}, ER b as as' st st' → f.findBlock b = some B →
      (B.params.length = as.length ↔ (g B).params.length = as'.length) ∧
      (B.params.length = as.length →
        BodyOut ER (execBody w f.alias B.instrs { st with env := bindVals st.env B.params as })
          (execBody w f'.alias (g B).instrs { st' with env := bindVals st'.env (g B).params as' }))) :
    ∀ (n : Nat) (b : BlockId) (as as' : List Nat) (st st' : St), ER b as as' st st' →
      runFrom w f n b as st = runFrom w f' n b as' st' := by
  intro n
  induction n with
  | zero => intros; rfl
  | succ n ih =>
    intro b as as' st st' her
    simp only [runFrom, hfind her]
    cases hB : f.findBlock b with
    | none => rfl
    | some B =>
      obtain ⟨harity, hbody⟩ := hstep her hB
      simp only [Option.map_some]
      by_cases hlen : B.params.length = as.length
      · simp only [hlen, harity.mp hlen, ne_eq, not_true_eq_false, if_false]
        have hb := hbody hlen
        revert hb
        generalize execBody w f.alias B.instrs _ = r
        generalize execBody w f'.alias (g B).instrs _ = r'
        intro hb
        cases hb with
        | none => rfl
        | some hc =>
          cases hc with
          | next => rfl
          | goto h => exact ih _ _ _ _ _ h
          | ret hm ht => simp only [hm, ht]
          | trap hm ht => simp only [hm, ht]
      · have hlen' : ¬ (g B).params.length = as'.length := fun h => hlen (harity.mpr h)
        simp [hlen, hlen']

end Wz.Model.SsaPass
