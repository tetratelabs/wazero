/-
Helper lemmas for C08 part 2: invariants of the `setABIArgs` loop (`Wz.Model.Abi.assign`), proved by
induction over the type list for an arbitrary loop state, and of the Go-call stack view.
-/
import Wz.Model.Abi

namespace Wz.C08.AbiLemmas
open Wz.Model.Abi

def countInt (tys : List Ty) : Nat := (tys.filter Ty.isInt).length
def countFloat (tys : List Ty) : Nat := (tys.filter fun t => !t.isInt).length

/-! `setABIArgs` treats integers and floats alike, each with its own register list and cursor; `c = true` is the
integer class (as in `Loc.reg`). -/

def regs (ints floats : List Nat) (c : Bool) : List Nat := cond c ints floats
def cur (st : St) (c : Bool) : Nat := cond c st.ii st.fi
def bump (st : St) (c : Bool) : St := cond c { st with ii := st.ii + 1 } { st with fi := st.fi + 1 }
def count (c : Bool) (tys : List Ty) : Nat := cond c (countInt tys) (countFloat tys)

theorem cur_bump (st : St) (c c' : Bool) : cur (bump st c') c = cur st c + if c = c' then 1 else 0 := by
  cases c <;> cases c' <;> rfl

theorem cur_st0 (c : Bool) : cur st0 c = 0 := by cases c <;> rfl

theorem off_bump (st : St) (c : Bool) : (bump st c).off = st.off := by cases c <;> rfl

theorem count_cons (c : Bool) (t : Ty) (ts : List Ty) :
    count c (t :: ts) = (if c = t.isInt then 1 else 0) + count c ts := by
  cases c <;> cases h : t.isInt <;>
    simp [count, countInt, countFloat, h, Nat.add_comm]

theorem place_cases (ints floats : List Nat) (st : St) (t : Ty) :
    (∃ r, (regs ints floats t.isInt)[cur st t.isInt]? = some r ∧
        place ints floats st t = (.reg t.isInt r, bump st t.isInt)) ∨
    ((regs ints floats t.isInt)[cur st t.isInt]? = none ∧
        place ints floats st t = (.stack st.off, { st with off := st.off + t.slotSize })) := by
  unfold place Ty.slotSize
  cases t.isInt
  · show (∃ r, floats[st.fi]? = some r ∧ _) ∨ (floats[st.fi]? = none ∧ _)
    cases floats[st.fi]? with
    | none => exact Or.inr ⟨rfl, rfl⟩
    | some r => exact Or.inl ⟨r, rfl, rfl⟩
  · show (∃ r, ints[st.ii]? = some r ∧ _) ∨ (ints[st.ii]? = none ∧ _)
    cases ints[st.ii]? with
    | none => exact Or.inr ⟨rfl, rfl⟩
    | some r => exact Or.inl ⟨r, rfl, rfl⟩

theorem slotSize_pos (t : Ty) : 8 ≤ t.slotSize := by
  unfold Ty.slotSize; split <;> (try split) <;> omega

/-- What is known about one produced argument relative to the loop state `st` it was produced from (or an
earlier one) and the final state `fin`. -/
structure Good (ints floats : List Nat) (st fin : St) (a : Arg) : Prop where
  stack : ∀ o, a.loc = .stack o → st.off ≤ o ∧ o + a.ty.slotSize ≤ fin.off
  reg : ∀ c r, a.loc = .reg c r → a.ty.isInt = c ∧ ∃ j, cur st c ≤ j ∧ (regs ints floats c)[j]? = some r

theorem place_mono (ints floats : List Nat) (st : St) (t : Ty) :
    st.off ≤ (place ints floats st t).2.off ∧ ∀ c, cur st c ≤ cur (place ints floats st t).2 c := by
  rcases place_cases ints floats st t with ⟨r, _, h⟩ | ⟨_, h⟩ <;> rw [h]
  · exact ⟨Nat.le_of_eq (off_bump _ _).symm, fun c => by rw [cur_bump]; exact Nat.le_add_right ..⟩
  · exact ⟨Nat.le_add_right .., fun c => by cases c <;> exact Nat.le_refl _⟩

theorem Good.weaken {ints floats : List Nat} {st st' fin : St} {a : Arg}
    (h : Good ints floats st' fin a) (ho : st.off ≤ st'.off) (hc : ∀ c, cur st c ≤ cur st' c) :
    Good ints floats st fin a where
  stack := fun o ho' => ⟨Nat.le_trans ho (h.stack o ho').1, (h.stack o ho').2⟩
  reg := fun c r hr => ⟨(h.reg c r hr).1, let ⟨j, hj, e⟩ := (h.reg c r hr).2; ⟨j, Nat.le_trans (hc c) hj, e⟩⟩

theorem assign_good (ints floats : List Nat) : ∀ (tys : List Ty) (st : St) (i : Nat),
    st.off ≤ (finalSt ints floats st tys).off ∧
    ∀ a ∈ assign ints floats st i tys, Good ints floats st (finalSt ints floats st tys) a := by
  intro tys
  induction tys with
  | nil => intro st i; exact ⟨Nat.le_refl _, fun a ha => nomatch ha⟩
  | cons t ts ih =>
    intro st i
    have hm := place_mono ints floats st t
    have ih' := ih (place ints floats st t).2 (i + 1)
    simp only [finalSt, assign]
    refine ⟨Nat.le_trans hm.1 ih'.1, ?_⟩
    intro a ha
    rcases List.mem_cons.1 ha with rfl | ha
    · rcases place_cases ints floats st t with ⟨r, he, h⟩ | ⟨he, h⟩
      · -- register
        rw [h]
        exact ⟨nofun, fun c r' hr => by cases hr; exact ⟨rfl, _, Nat.le_refl _, he⟩⟩
      · -- stack
        have hfin := ih'.1
        rw [h] at hfin ⊢
        exact ⟨fun o ho => by cases ho; exact ⟨Nat.le_refl _, hfin⟩, nofun⟩
    · exact (ih'.2 a ha).weaken hm.1 hm.2

/-- Separation of an earlier argument `a` from a later one `b`: stack bytes of `a` end before those of `b`
begin, and they are not in the same register. -/
def Sep (a b : Arg) : Prop :=
  (∀ oa ob, a.loc = .stack oa → b.loc = .stack ob → oa + a.ty.slotSize ≤ ob) ∧
  (∀ c r, a.loc = .reg c r → b.loc ≠ .reg c r)

theorem assign_pairwise (ints floats : List Nat) (hI : ints.Nodup) (hF : floats.Nodup) :
    ∀ (tys : List Ty) (st : St) (i : Nat), List.Pairwise Sep (assign ints floats st i tys) := by
  have hN (c : Bool) : (regs ints floats c).Nodup := by cases c <;> assumption
  intro tys
  induction tys with
  | nil => intro st i; exact List.Pairwise.nil
  | cons t ts ih =>
    intro st i
    simp only [assign, List.pairwise_cons]
    refine ⟨?_, ih _ _⟩
    intro b hb
    have hg := (assign_good ints floats ts (place ints floats st t).2 (i + 1)).2 b hb
    rcases place_cases ints floats st t with ⟨r, he, h⟩ | ⟨he, h⟩ <;> rw [h] at hg ⊢
    · -- a later value in a register of the same class took it from a later position of a duplicate-free list
      refine ⟨nofun, fun c r' hr hbr => ?_⟩
      cases hr
      obtain ⟨_, j, hj, hje⟩ := hg.reg _ _ hbr
      rw [cur_bump, if_pos rfl] at hj
      have := (List.getElem?_inj (List.getElem?_eq_some_iff.1 he).1 (hN _)).mp (he.trans hje.symm)
      omega
    · exact ⟨fun oa ob hoa hob => by cases hoa; exact (hg.stack ob hob).1, nofun⟩

theorem assign_index_ty (ints floats : List Nat) : ∀ (tys : List Ty) (st : St) (i : Nat),
    (assign ints floats st i tys).map Arg.index = List.range' i tys.length ∧
    (assign ints floats st i tys).map Arg.ty = tys := by
  intro tys
  induction tys with
  | nil => intro st i; simp [assign]
  | cons t ts ih =>
    intro st i
    have := ih (place ints floats st t).2 (i + 1)
    simp [assign, List.range'_succ, this.1, this.2]

theorem assign_append (ints floats : List Nat) : ∀ (pre post : List Ty) (st : St) (i : Nat),
    assign ints floats st i (pre ++ post) =
      assign ints floats st i pre ++ assign ints floats (finalSt ints floats st pre) (i + pre.length) post := by
  intro pre
  induction pre with
  | nil => intro post st i; simp [assign, finalSt]
  | cons t ts ih =>
    intro post st i
    simp only [List.cons_append, assign, finalSt, ih, List.length_cons]
    have : i + 1 + ts.length = i + (ts.length + 1) := by omega
    rw [this]

theorem assign_length (ints floats : List Nat) (tys : List Ty) (st : St) (i : Nat) :
    (assign ints floats st i tys).length = tys.length := by
  have := congrArg List.length (assign_index_ty ints floats tys st i).2
  simpa using this

theorem finalSt_cursors (ints floats : List Nat) (c : Bool) : ∀ (tys : List Ty) (st : St),
    cur st c ≤ (regs ints floats c).length →
    cur (finalSt ints floats st tys) c = min (regs ints floats c).length (cur st c + count c tys) := by
  intro tys
  induction tys with
  | nil => intro st hc; cases c <;> exact (Nat.min_eq_right hc).symm
  | cons t ts ih =>
    intro st hc
    rw [finalSt, count_cons]
    rcases place_cases ints floats st t with ⟨r, he, h⟩ | ⟨he, h⟩ <;> rw [h] <;> dsimp only
    · -- a register of class `t.isInt` was left
      have hlt := (List.getElem?_eq_some_iff.1 he).1
      have hb := cur_bump st c t.isInt
      by_cases hcc : c = t.isInt
      · subst hcc; rw [if_pos rfl] at hb ⊢; rw [ih _ (hb ▸ hlt), hb, Nat.add_assoc]
      · rw [if_neg hcc] at hb ⊢; rw [ih _ (hb ▸ hc), hb, Nat.add_assoc]
    · -- none was left: the cursor of class `t.isInt` stands at the end of its list
      have hb : cur { st with off := st.off + t.slotSize } c = cur st c := by cases c <;> rfl
      rw [ih _ (hb ▸ hc), hb]
      by_cases hcc : c = t.isInt
      · subst hcc
        have hL := Nat.le_antisymm hc (List.getElem?_eq_none_iff.1 he)
        rw [hL, Nat.min_eq_left (Nat.le_add_right ..), Nat.min_eq_left (Nat.le_add_right ..)]
      · rw [if_neg hcc, Nat.zero_add]

theorem assign_reg_counts (ints floats : List Nat) : ∀ (tys : List Ty) (st : St) (i : Nat),
    ((assign ints floats st i tys).filter isRegInt).length + st.ii = (finalSt ints floats st tys).ii ∧
    ((assign ints floats st i tys).filter isRegFloat).length + st.fi = (finalSt ints floats st tys).fi := by
  intro tys
  induction tys with
  | nil => intro st i; exact ⟨Nat.zero_add _, Nat.zero_add _⟩
  | cons t ts ih =>
    intro st i
    have := ih (place ints floats st t).2 (i + 1)
    simp only [assign, finalSt, List.filter_cons]
    rcases place_cases ints floats st t with ⟨r, he, h⟩ | ⟨he, h⟩ <;> rw [h] at this ⊢ <;> cases ht : t.isInt <;>
    · simp only [isRegInt, isRegFloat, ht, bump, cond_true, cond_false, if_true, Bool.not_true, Bool.not_false,
        Bool.false_eq_true, if_false, List.length_cons] at this ⊢
      omega

theorem slotIndex_cons_succ (t : Ty) (ts : List Ty) (i : Nat) :
    slotIndex (t :: ts) (i + 1) = t.goSlots + slotIndex ts i := by
  simp [slotIndex]

theorem goSlots_pos (t : Ty) : 0 < t.goSlots := by cases t <;> simp [Ty.goSlots]

theorem totalSlots_cons (t : Ty) (ts : List Ty) : totalSlots (t :: ts) = t.goSlots + totalSlots ts := rfl

theorem slotOwner_slotIndex : ∀ (tys : List Ty) (i h : Nat) (t : Ty), tys[i]? = some t → h < t.goSlots →
    slotIndex tys i + h < totalSlots tys ∧ slotOwner tys (slotIndex tys i + h) = some (i, h) := by
  intro tys
  induction tys with
  | nil => intro i h t ht; cases ht
  | cons u us ih =>
    intro i h t ht hh
    rw [totalSlots_cons]
    cases i with
    | zero =>
      cases ht
      exact ⟨by rw [show slotIndex (u :: us) 0 = 0 from rfl]; omega, by simp [slotIndex, slotOwner, hh]⟩
    | succ i =>
      obtain ⟨h1, h2⟩ := ih i h t ht hh
      rw [slotIndex_cons_succ, slotOwner, if_neg (by omega), show u.goSlots + slotIndex us i + h - u.goSlots = slotIndex us i + h by omega, h2]
      exact ⟨by omega, rfl⟩

theorem slotOwner_total : ∀ (tys : List Ty) (s : Nat), s < totalSlots tys →
    ∃ i h t, slotOwner tys s = some (i, h) ∧ tys[i]? = some t ∧ h < t.goSlots ∧ slotIndex tys i + h = s := by
  intro tys
  induction tys with
  | nil => intro s hs; cases hs
  | cons u us ih =>
    intro s hs
    rw [totalSlots_cons] at hs
    unfold slotOwner
    by_cases hlt : s < u.goSlots
    · exact ⟨0, s, u, if_pos hlt, rfl, hlt, Nat.zero_add s⟩
    · obtain ⟨i, h, t, ho, ht, hh, he⟩ := ih (s - u.goSlots) (by omega)
      rw [if_neg hlt, ho]
      exact ⟨i + 1, h, t, rfl, ht, hh, by rw [slotIndex_cons_succ]; omega⟩

end Wz.C08.AbiLemmas
