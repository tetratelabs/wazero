/-
C16 — lemmas about the `descriptor.Table` model and the FSContext descriptor level.

A table is read as the partial map `abs`.  Every operation is specified as an update of that map; from these follow the
refinement of the lowest-free-key specification for all histories and, through `lookup_of_abs`, what open, close and
renumber do to an `FSContext`: each refuses and changes nothing, or `Moves` one entry.  That the descriptors keep distinct
identities, that a descriptor not involved stays live, and the specification of renumber are read off `Moves`.
-/
import Wz.Model.FdTable

namespace Wz.Proofs.C16Table
open Wz.Model.FdTable

variable {α : Type} [Inhabited α]

theorem one_shl_bit (s i : Nat) (hs : s < 64) : (1#64 <<< s).getLsbD i = decide (i = s) := by
  rw [← BitVec.twoPow_eq, BitVec.getLsbD_twoPow, decide_eq_true hs, Bool.true_and]
  exact decide_eq_decide.2 eq_comm

theorem ne_zero_iff_bit (x : BitVec 64) : (x != 0#64) = true ↔ ∃ i, i < 64 ∧ x.getLsbD i = true := by
  rw [bne_iff_ne, Ne, BitVec.zero_iff_eq_false, Classical.not_forall]
  refine exists_congr fun i => ?_
  rw [Bool.not_eq_false]
  exact ⟨fun h => ⟨BitVec.lt_of_getLsbD h, h⟩, fun h => h.2⟩

theorem testBit_eq (m : BitVec 64) (s : Nat) (hs : s < 64) : testBit m s = m.getLsbD s := by
  unfold testBit
  rw [← BitVec.twoPow_eq, BitVec.and_twoPow]
  cases m.getLsbD s
  · rfl
  · exact (ne_zero_iff_bit _).2 ⟨s, hs, by rw [if_pos rfl, BitVec.getLsbD_twoPow]; simp [hs]⟩

/-- the scan stops at the lowest set bit -/
theorem tzGo_lowest (x : BitVec 64) {i : Nat} (hi : x.getLsbD i = true) : ∀ fuel i0, i0 ≤ i → i < i0 + fuel →
    tzGo x fuel i0 ≤ i ∧ x.getLsbD (tzGo x fuel i0) = true := by
  intro fuel
  induction fuel with
  | zero => intro i0 h1 h2; omega
  | succ n ih =>
    intro i0 h1 h2
    unfold tzGo
    split
    · exact ⟨h1, ‹_›⟩
    · exact ih (i0 + 1) (Nat.lt_of_le_of_ne h1 fun e => ‹¬ _› (e ▸ hi)) (by omega)

/-- The word test of `Insert`, by outcome: `~~~m != 0` exactly when `m` has a clear bit, and then
`trailingZeros64 (~~~m)` is the lowest one. -/
theorem word_free (m : BitVec 64) :
    if (~~~m != 0#64) = true then
      trailingZeros64 (~~~m) < 64 ∧ m.getLsbD (trailingZeros64 (~~~m)) = false ∧
        ∀ j, j < trailingZeros64 (~~~m) → m.getLsbD j = true
    else ∀ j, j < 64 → m.getLsbD j = true := by
  -- a clear bit `i` of `m` is a set bit of `~~~m`: the scan stops at or before it, on a set bit of `~~~m`
  have key : ∀ i, i < 64 → m.getLsbD i = false →
      (~~~m != 0#64) = true ∧ trailingZeros64 (~~~m) ≤ i ∧ m.getLsbD (trailingZeros64 (~~~m)) = false := fun i hi hb => by
    have hn : (~~~m).getLsbD i = true := by rw [BitVec.getLsbD_not, hb, decide_eq_true hi]; rfl
    obtain ⟨h1, h2⟩ := tzGo_lowest _ hn 64 0 (Nat.zero_le _) (by omega)
    simp only [BitVec.getLsbD_not, Bool.and_eq_true, Bool.not_eq_true'] at h2
    exact ⟨(ne_zero_iff_bit _).2 ⟨i, hi, hn⟩, h1, h2.2⟩
  split
  · obtain ⟨i, hi, hn⟩ := (ne_zero_iff_bit _).1 ‹_›
    simp only [BitVec.getLsbD_not, Bool.and_eq_true, Bool.not_eq_true'] at hn
    obtain ⟨_, h1, h2⟩ := key i hi hn.2
    exact ⟨by omega, h2, fun j hj => eq_true_of_ne_false fun hb => absurd (key j (by omega) hb).2.1 (by omega)⟩
  · exact fun j hj => eq_true_of_ne_false fun hb => ‹¬ _› (key j hj hb).1

def upd (m : Nat → Option α) (k : Nat) (v : Option α) : Nat → Option α := fun j => if j = k then v else m j

/-- what the table denotes -/
def abs (t : Table α) : Nat → Option α := fun k => t.lookup (k : Int)

theorem lookup_eq (t : Table α) (key : Int) : t.lookup key = if key < 0 then none else abs t key.toNat := by
  split
  · unfold Table.lookup; rw [if_pos ‹_›]
  · unfold abs; rw [Int.toNat_of_nonneg (by omega)]

omit [Inhabited α] in
theorem empty_wf : (Table.empty : Table α).WF := rfl

theorem empty_abs : abs (Table.empty : Table α) = fun _ => none := by
  funext k
  simp [abs, Table.lookup, Table.empty]

/-- occupancy bit of slot `k` -/
def mbit (ms : List (BitVec 64)) (k : Nat) : Bool := (ms.getD (k / 64) 0#64).getLsbD (k % 64)

theorem mbit_of_ge (ms : List (BitVec 64)) (j : Nat) (h : ms.length ≤ j / 64) : mbit ms j = false := by
  rw [mbit, List.getD_eq_getElem?_getD, List.getElem?_eq_none h]
  exact BitVec.getLsbD_zero

theorem abs_eq (t : Table α) (h : t.WF) (k : Nat) :
    abs t k = if mbit t.masks k then some (t.items.getD k default) else none := by
  unfold abs Table.lookup
  rw [if_neg (by omega), Int.toNat_natCast]
  simp only []
  rw [testBit_eq _ _ (Nat.mod_lt _ (by decide))]
  show (if k < t.items.length then if mbit t.masks k = true then _ else none else none) = _
  split
  · rfl
  · rw [mbit_of_ge _ _ (by unfold Table.WF at h; omega)]
    rfl

theorem getD_set_eq {β : Type} (l : List β) (i : Nat) (v d : β) (h : i < l.length) :
    (l.set i v).getD i d = v := by
  simp [List.getD_eq_getElem?_getD, h]

theorem getD_set_ne {β : Type} (l : List β) (i j : Nat) (v d : β) (h : i ≠ j) :
    (l.set i v).getD j d = l.getD j d := by
  simp [List.getD_eq_getElem?_getD, h]

theorem put_spec (t : Table α) (h : t.WF) (k : Nat) (hk : k / 64 < t.masks.length) (w : BitVec 64) (b : Bool) (x : α)
    (hw : ∀ j, w.getLsbD j = if j = k % 64 then b else (t.masks.getD (k / 64) 0#64).getLsbD j) :
    let t' : Table α := { masks := t.masks.set (k / 64) w, items := t.items.set k x }
    t'.WF ∧ abs t' = upd (abs t) k (if b then some x else none) := by
  intro t'
  have wf' : t'.WF := by
    show (t.items.set k x).length = 64 * (t.masks.set _ _).length
    rw [List.length_set, List.length_set]; exact h
  refine ⟨wf', funext fun j => ?_⟩
  rw [abs_eq t' wf']
  show (if mbit (t.masks.set (k / 64) w) j = true then some ((t.items.set k x).getD j default) else none) = _
  unfold upd mbit
  by_cases hj : j = k
  · subst hj
    rw [getD_set_eq _ _ _ _ hk, hw, if_pos rfl, if_pos rfl, getD_set_eq _ _ _ _ (by unfold Table.WF at h; omega)]
  · rw [if_neg hj, abs_eq t h, getD_set_ne _ _ _ _ _ (Ne.symm hj)]
    unfold mbit
    by_cases hq : k / 64 = j / 64
    · rw [← hq, getD_set_eq _ _ _ _ hk, hw, if_neg (show ¬ j % 64 = k % 64 by omega)]
    · rw [getD_set_ne _ _ _ _ _ hq]

theorem setAt_spec (t : Table α) (h : t.WF) {k index shift : Nat} (hi : k / 64 = index) (hs : k % 64 = shift)
    (hk : index < t.masks.length) (a : α) :
    let t' : Table α := { masks := t.masks.set index (t.masks.getD index 0#64 ||| (1#64 <<< shift)),
                          items := t.items.set k a }
    t'.WF ∧ abs t' = upd (abs t) k (some a) := by
  subst hi hs
  exact put_spec t h k hk _ true a fun j => by
    rw [BitVec.getLsbD_or, one_shl_bit _ _ (Nat.mod_lt _ (by decide))]
    by_cases hj : j = k % 64 <;> simp [hj]

theorem clearAt_spec (t : Table α) (h : t.WF) (k : Nat) (hk : k / 64 < t.masks.length) :
    let t' : Table α := { masks := t.masks.set (k/64) (t.masks.getD (k/64) 0#64 &&& ~~~(1#64 <<< (k%64))),
                          items := t.items.set k default }
    t'.WF ∧ abs t' = upd (abs t) k none :=
  put_spec t h k hk _ false default fun j => by
    rw [BitVec.getLsbD_and, BitVec.getLsbD_not, one_shl_bit _ _ (Nat.mod_lt _ (by decide))]
    by_cases hj : j = k % 64
    · simp [hj]
    · cases hb : (t.masks.getD (k / 64) 0#64).getLsbD j
      · simp [hj]
      · simp [hj, BitVec.lt_of_getLsbD hb]

theorem setSlot_spec (t : Table α) (h : t.WF) (index shift : Nat) (hi : index < t.masks.length)
    (hs : shift < 64) (a : α) :
    (t.setSlot index shift a).WF ∧ abs (t.setSlot index shift a) = upd (abs t) (index * 64 + shift) (some a) :=
  setAt_spec t h (by omega) (by omega) hi a

theorem getD_append_replicate {β : Type} (l : List β) (n j : Nat) (d : β) :
    (l ++ List.replicate n d).getD j d = l.getD j d := by
  simp only [List.getD_eq_getElem?_getD, List.getElem?_append, List.getElem?_replicate]
  split
  · rfl
  · rw [List.getElem?_eq_none (by omega)]; split <;> rfl

theorem grow_spec (t : Table α) (h : t.WF) (n : Nat) :
    (t.grow n).WF ∧ abs (t.grow n) = abs t ∧ (t.grow n).masks.length = t.masks.length + n := by
  have wf' : (t.grow n).WF := by
    unfold Table.WF Table.grow at *
    simp only [List.length_append, List.length_replicate]; omega
  refine ⟨wf', funext fun j => ?_, by simp [Table.grow]⟩
  rw [abs_eq _ wf', abs_eq t h]
  unfold Table.grow mbit
  rw [getD_append_replicate, getD_append_replicate]

theorem mbit_cons_lt (m : BitVec 64) (ms : List (BitVec 64)) (j : Nat) (h : j < 64) :
    mbit (m :: ms) j = m.getLsbD j := by
  unfold mbit; rw [Nat.div_eq_of_lt h, Nat.mod_eq_of_lt h]; rfl

theorem mbit_cons_add (m : BitVec 64) (ms : List (BitVec 64)) (j : Nat) : mbit (m :: ms) (j + 64) = mbit ms j := by
  unfold mbit; rw [Nat.add_div_right j (by decide), Nat.add_mod_right]; rfl

/-- `k` is the lowest free slot -/
def LowFree (ms : List (BitVec 64)) (k : Nat) : Prop := mbit ms k = false ∧ ∀ j, j < k → mbit ms j = true

theorem LowFree.cons_full {m : BitVec 64} {ms : List (BitVec 64)} {k : Nat} (hm : ∀ j, j < 64 → m.getLsbD j = true)
    (h : LowFree ms k) : LowFree (m :: ms) (k + 64) :=
  ⟨(mbit_cons_add ..).trans h.1, fun j hj => by
    by_cases h64 : j < 64
    · rw [mbit_cons_lt _ _ _ h64]; exact hm j h64
    · rw [← Nat.sub_add_cancel (Nat.le_of_not_lt h64), mbit_cons_add]; exact h.2 _ (by omega)⟩

/-- The scan of `Insert`, by outcome: the slot found is the lowest free one; nothing found means that the lowest free
slot is the first one beyond the table. -/
theorem findFree_spec (ms : List (BitVec 64)) (idx : Nat) :
    (∀ i s, findFree ms idx = some (i, s) → ∃ q, i = idx + q ∧ q < ms.length ∧ s < 64 ∧ LowFree ms (q * 64 + s)) ∧
    (findFree ms idx = none → LowFree ms (ms.length * 64)) := by
  induction ms generalizing idx with
  | nil => exact ⟨nofun, fun _ => ⟨rfl, nofun⟩⟩
  | cons m ms ih =>
    have hw := word_free m
    unfold findFree
    split
    · rw [if_pos ‹_›] at hw
      refine ⟨fun i s h => ?_, nofun⟩
      simp only [Option.some.injEq, Prod.mk.injEq] at h
      obtain ⟨rfl, rfl⟩ := h
      refine ⟨0, rfl, Nat.zero_lt_succ _, hw.1, ?_⟩
      rw [Nat.zero_mul, Nat.zero_add]
      exact ⟨(mbit_cons_lt _ _ _ hw.1).trans hw.2.1,
        fun j hj => (mbit_cons_lt _ _ _ (Nat.lt_trans hj hw.1)).trans (hw.2.2 j hj)⟩
    · rw [if_neg ‹_›] at hw
      refine ⟨fun i s h => ?_, fun h => ?_⟩
      · obtain ⟨q, rfl, hq, hs, hl⟩ := (ih (idx + 1)).1 i s h
        exact ⟨q + 1, by omega, Nat.succ_lt_succ hq, hs,
          by rw [show (q + 1) * 64 + s = q * 64 + s + 64 by omega]; exact hl.cons_full hw⟩
      · rw [List.length_cons, Nat.succ_mul]; exact ((ih (idx + 1)).2 h).cons_full hw

theorem tz_allones : trailingZeros64 (~~~(0#64)) = 0 := by decide

/-- `Insert` returns the LOWEST FREE key, and changes only that key. -/
theorem insert_spec (t : Table α) (a : α) (h : t.WF) :
    (t.insert a).1.WF ∧
    abs t (t.insert a).2 = none ∧
    (∀ j, j < (t.insert a).2 → (abs t j).isSome = true) ∧
    abs (t.insert a).1 = upd (abs t) (t.insert a).2 (some a) := by
  have key : ∀ k, LowFree t.masks k → abs t k = none ∧ ∀ j, j < k → (abs t j).isSome = true := fun k hk =>
    ⟨by rw [abs_eq t h, hk.1]; rfl, fun j hj => by rw [abs_eq t h, hk.2 j hj]; rfl⟩
  unfold Table.insert
  cases hf : findFree t.masks 0 with
  | some p =>
    obtain ⟨q, hq, hlt, hs, hlow⟩ := (findFree_spec _ _).1 p.1 p.2 hf
    rw [Nat.zero_add] at hq
    rw [← hq] at hlt hlow
    obtain ⟨s1, s2⟩ := setSlot_spec t h p.1 p.2 hlt hs a
    exact ⟨s1, (key _ hlow).1, (key _ hlow).2, s2⟩
  | none =>
    obtain ⟨g1, g2, g3⟩ := grow_spec t h 1
    simp only [tz_allones, Nat.add_zero]
    obtain ⟨s1, s2⟩ := setSlot_spec (t.grow 1) g1 t.masks.length 0 (by omega) (by decide) a
    rw [g2] at s2
    have hlow := (findFree_spec _ _).2 hf
    exact ⟨s1, (key _ hlow).1, (key _ hlow).2, s2⟩

theorem insertAt_spec (t : Table α) (a : α) (key : Int) (h : t.WF) (hk : 0 ≤ key) :
    (t.insertAt a key).2 = true ∧ (t.insertAt a key).1.WF ∧
    abs (t.insertAt a key).1 = upd (abs t) key.toNat (some a) := by
  unfold Table.insertAt
  rw [if_neg (by omega)]
  refine ⟨rfl, ?_⟩
  simp only []
  split
  · obtain ⟨g1, g2, g3⟩ := grow_spec t h (key.toNat / 64 + 1 - t.masks.length)
    have := setAt_spec (k := key.toNat) (t.grow (key.toNat / 64 + 1 - t.masks.length)) g1 rfl rfl (by omega) a
    rw [g2] at this
    exact this
  · exact setAt_spec t h rfl rfl (by omega) a

theorem insertAt_neg (t : Table α) (a : α) (key : Int) (hk : key < 0) : t.insertAt a key = (t, false) := by
  unfold Table.insertAt; rw [if_pos hk]

omit [Inhabited α] in
theorem upd_none_self (m : Nat → Option α) (k : Nat) (h : m k = none) : upd m k none = m := by
  funext j; unfold upd; split
  · subst j; exact h.symm
  · rfl

theorem delete_spec (t : Table α) (key : Int) (h : t.WF) :
    (t.delete key).WF ∧
    abs (t.delete key) = if key < 0 then abs t else upd (abs t) key.toNat none := by
  unfold Table.delete
  split
  · exact ⟨h, rfl⟩
  · simp only []
    -- a slot whose bit is clear (in particular one beyond the table) is already empty
    have hclear : mbit t.masks key.toNat = false → t.WF ∧ abs t = upd (abs t) key.toNat none := fun hb =>
      ⟨h, (upd_none_self _ _ (by rw [abs_eq t h, hb]; rfl)).symm⟩
    split
    · rw [testBit_eq _ _ (Nat.mod_lt _ (by decide))]
      split
      · exact clearAt_spec t h key.toNat ‹_›
      · exact hclear (Bool.eq_false_iff.2 ‹¬ _›)
    · exact hclear (mbit_of_ge _ _ (Nat.le_of_not_lt ‹_›))

theorem reset_spec (t : Table α) (h : t.WF) : t.reset.WF ∧ abs t.reset = fun _ => none := by
  have wf' : t.reset.WF := by
    unfold Table.WF Table.reset at *
    simp only [List.length_replicate]; exact h
  refine ⟨wf', funext fun j => ?_⟩
  rw [abs_eq _ wf', if_neg]
  simp only [Table.reset, mbit, List.getD_eq_getElem?_getD, List.getElem?_replicate]
  split <;> simp

/-- One step of the specification: a finite map with lowest-free allocation. -/
inductive AStep : (Nat → Option α) → Op α → Out α → (Nat → Option α) → Prop
  | insert (m : Nat → Option α) (a : α) (k : Nat) :
      m k = none → (∀ j, j < k → (m j).isSome = true) → AStep m (.insert a) (.key k) (upd m k (some a))
  | insertAt (m : Nat → Option α) (a : α) (key : Int) :
      0 ≤ key → AStep m (.insertAt a key) (.ok true) (upd m key.toNat (some a))
  | insertAtNeg (m : Nat → Option α) (a : α) (key : Int) :
      key < 0 → AStep m (.insertAt a key) (.ok false) m
  | lookup (m : Nat → Option α) (key : Int) :
      AStep m (.lookup key) (.item (if key < 0 then none else m key.toNat)) m
  | delete (m : Nat → Option α) (key : Int) :
      AStep m (.delete key) .unit (if key < 0 then m else upd m key.toNat none)
  | reset (m : Nat → Option α) : AStep m .reset .unit (fun _ => none)

inductive ARun : (Nat → Option α) → List (Op α) → List (Out α) → (Nat → Option α) → Prop
  | nil (m : Nat → Option α) : ARun m [] [] m
  | cons {m m' m'' : Nat → Option α} {op : Op α} {o : Out α} {ops : List (Op α)} {os : List (Out α)} :
      AStep m op o m' → ARun m' ops os m'' → ARun m (op :: ops) (o :: os) m''

theorem step_refines (t : Table α) (op : Op α) (h : t.WF) :
    (t.step op).1.WF ∧ AStep (abs t) op (t.step op).2 (abs (t.step op).1) := by
  cases op with
  | insert a =>
    obtain ⟨h1, h2, h3, h4⟩ := insert_spec t a h
    exact ⟨h1, h4 ▸ AStep.insert _ _ _ h2 h3⟩
  | insertAt a key =>
    show (t.insertAt a key).1.WF ∧ AStep (abs t) (.insertAt a key) (.ok (t.insertAt a key).2) (abs (t.insertAt a key).1)
    by_cases hk : key < 0
    · rw [insertAt_neg t a key hk]
      exact ⟨h, AStep.insertAtNeg _ _ _ hk⟩
    · obtain ⟨h1, h2, h3⟩ := insertAt_spec t a key h (by omega)
      rw [h1, h3]
      exact ⟨h2, AStep.insertAt _ _ _ (by omega)⟩
  | lookup key =>
    exact ⟨h, show AStep (abs t) (.lookup key) (.item (t.lookup key)) (abs t) from lookup_eq t key ▸ AStep.lookup _ _⟩
  | delete key => exact ⟨(delete_spec t key h).1, (delete_spec t key h).2 ▸ AStep.delete _ _⟩
  | reset => exact ⟨(reset_spec t h).1, (reset_spec t h).2 ▸ AStep.reset _⟩

theorem run_refines (t : Table α) (ops : List (Op α)) (h : t.WF) :
    (t.run ops).1.WF ∧ ARun (abs t) ops (t.run ops).2 (abs (t.run ops).1) := by
  induction ops generalizing t with
  | nil => exact ⟨h, ARun.nil _⟩
  | cons op ops ih =>
    obtain ⟨s1, s2⟩ := step_refines t op h
    obtain ⟨r1, r2⟩ := ih (t.step op).1 s1
    exact ⟨r1, ARun.cons s2 r2⟩

theorem lookup_of_abs (t t' : Table α) (k : Nat) (v : Option α) (h : abs t' = upd (abs t) k v) (fd : Int) :
    t'.lookup fd = if fd = (k : Int) then v else t.lookup fd := by
  by_cases hfd : fd < 0
  · rw [lookup_eq, lookup_eq t, if_pos hfd, if_pos hfd, if_neg (by omega)]
  · rw [lookup_eq, lookup_eq t, if_neg hfd, if_neg hfd, h]
    unfold upd
    have : fd.toNat = k ↔ fd = (k : Int) := by omega
    simp only [this]

theorem lookup_insertAt (t : Table α) (h : t.WF) (a : α) (key : Int) (hk : 0 ≤ key) (fd : Int) :
    (t.insertAt a key).1.lookup fd = if fd = key then some a else t.lookup fd := by
  rw [lookup_of_abs _ _ _ _ (insertAt_spec t a key h hk).2.2, Int.toNat_of_nonneg hk]

theorem lookup_delete (t : Table α) (h : t.WF) (key : Int) (fd : Int) :
    (t.delete key).lookup fd = if fd = key then none else t.lookup fd := by
  by_cases hk : key < 0
  · have : t.delete key = t := by unfold Table.delete; rw [if_pos hk]
    rw [this]
    split
    · rw [‹fd = key›, lookup_eq, if_pos hk]
    · rfl
  · have := (delete_spec t key h).2
    rw [if_neg hk] at this
    rw [lookup_of_abs _ _ _ _ this, Int.toNat_of_nonneg (by omega)]

theorem lookup_insert (t : Table α) (h : t.WF) (a : α) (fd : Int) :
    (t.insert a).1.lookup fd = if fd = ((t.insert a).2 : Int) then some a else t.lookup fd :=
  lookup_of_abs _ _ _ _ (insert_spec t a h).2.2.2 fd

def CtxWF (c : Ctx) : Prop := c.table.WF

/-- live entries have pairwise distinct identities below `next` (needed for `live` preservation) -/
def Distinct (c : Ctx) : Prop :=
  (∀ fd e, c.lookup fd = some e → e.id < c.next) ∧
  (∀ fd1 fd2 e1 e2, c.lookup fd1 = some e1 → c.lookup fd2 = some e2 → e1.id = e2.id → fd1 = fd2)

theorem live_iff (c : Ctx) (fd : Int) : c.live fd = true ↔ ∃ e, c.lookup fd = some e ∧ e.id ∉ c.closed := by
  unfold Ctx.live
  cases c.lookup fd <;> simp

/-- the files closed once the file at `b`, if there is one, has been closed too -/
def closedAfter (c : Ctx) (b : Int) : List Nat :=
  match c.lookup b with
  | some e => e.id :: c.closed
  | none => c.closed

/-- What an operation of the context does when it does anything, in closed form: `c'` is `c` with `v` put at the
descriptor `b`, the descriptor `a` emptied (`a = b`: only `b` changes) and the file that was at `b` closed; the identity
of `v` is new, or was at `a` and nowhere else. -/
structure Moves (c c' : Ctx) (a b : Int) (v : Option Entry) : Prop where
  wf : CtxWF c'
  next : c.next ≤ c'.next
  lookup : ∀ fd, c'.lookup fd = if fd = b then v else if fd = a then none else c.lookup fd
  closed : c'.closed = closedAfter c b
  ident : ∀ e, v = some e → e.id < c'.next ∧ ∀ fd e', c.lookup fd = some e' → e'.id = e.id → fd = a

theorem Moves.distinct {c c' : Ctx} {a b : Int} {v : Option Entry} (h : Moves c c' a b v) (hd : Distinct c) :
    Distinct c' := by
  have src : ∀ fd e, c'.lookup fd = some e → fd = b ∧ v = some e ∨ fd ≠ a ∧ c.lookup fd = some e := fun fd e he => by
    rw [h.lookup] at he
    split at he
    · exact Or.inl ⟨‹_›, he⟩
    · split at he
      · cases he
      · exact Or.inr ⟨‹_›, he⟩
  refine ⟨fun fd e he => ?_, fun fd1 fd2 e1 e2 he1 he2 hid => ?_⟩
  · exact (src fd e he).elim (fun hv => (h.ident e hv.2).1) fun ho => Nat.lt_of_lt_of_le (hd.1 _ _ ho.2) h.next
  · rcases src fd1 e1 he1 with ⟨rfl, v1⟩ | ⟨n1, o1⟩ <;> rcases src fd2 e2 he2 with ⟨rfl, v2⟩ | ⟨n2, o2⟩
    · rfl
    · exact absurd ((h.ident e1 v1).2 fd2 e2 o2 hid.symm) n2
    · exact absurd ((h.ident e2 v2).2 fd1 e1 o1 hid) n1
    · exact hd.2 _ _ _ _ o1 o2 hid

/-- only the file at `b` is closed: a live entry that was at `fd ≠ b` and is at `fd'` afterwards is still live -/
theorem Moves.live_of {c c' : Ctx} {a b : Int} {v : Option Entry} (h : Moves c c' a b v) (hd : Distinct c) {fd fd' : Int}
    (hb : fd ≠ b) (hlk : c'.lookup fd' = c.lookup fd) (hl : c.live fd = true) : c'.live fd' = true := by
  rw [live_iff] at hl ⊢
  obtain ⟨e, he, hnc⟩ := hl
  refine ⟨e, hlk.trans he, fun hmem => ?_⟩
  rw [h.closed] at hmem
  unfold closedAfter at hmem
  split at hmem
  · exact (List.mem_cons.1 hmem).elim (fun hid => hb (hd.2 fd b e _ he ‹_› hid)) hnc
  · exact hnc hmem

/-- a live descriptor other than `a` and `b` stays live and keeps its entry (being another descriptor is asked of
descriptors in use only: the one `openNew` takes is not) -/
theorem Moves.live {c c' : Ctx} {a b : Int} {v : Option Entry} (h : Moves c c' a b v) (hd : Distinct c) {fd : Int}
    (hab : c.lookup fd ≠ none → fd ≠ a ∧ fd ≠ b) (hl : c.live fd = true) :
    c'.live fd = true ∧ c'.lookup fd = c.lookup fd := by
  obtain ⟨e, he, _⟩ := (live_iff c fd).1 hl
  obtain ⟨ha, hb⟩ := hab (he ▸ nofun)
  have hlk : c'.lookup fd = c.lookup fd := by rw [h.lookup, if_neg hb, if_neg ha]
  exact ⟨h.live_of hd hb hlk hl, hlk⟩

/-- `openNew` puts an entry with the next identity at a descriptor that was free -/
theorem openNew_moves (c : Ctx) (p : Bool) (h : CtxWF c) (hd : Distinct c) :
    c.lookup ((c.openNew p).2 : Int) = none ∧
    Moves c (c.openNew p).1 (c.openNew p).2 (c.openNew p).2 (some { id := c.next, preopen := p }) := by
  have hs := insert_spec c.table (some { id := c.next, preopen := p }) h
  have hfree : c.lookup ((c.openNew p).2 : Int) = none := congrArg Option.join hs.2.1
  refine ⟨hfree, hs.1, Nat.le_succ _, fun fd => ?_, by unfold closedAfter; rw [hfree]; rfl, fun e he => ?_⟩
  · show ((c.table.insert (some { id := c.next, preopen := p })).1.lookup fd).join = _
    rw [lookup_insert _ h]
    show _ = if fd = ((c.table.insert (some { id := c.next, preopen := p })).2 : Int) then _ else _
    split
    · rfl
    · rw [if_neg ‹_›]; rfl
  · -- the new identity is `c.next`, above every other
    cases he
    exact ⟨Nat.lt_succ_self _, fun fd e' he' hid => absurd (hd.1 _ _ he') (by rw [hid]; exact Nat.lt_irrefl _)⟩

theorem close_cases (c : Ctx) (fd : Int) (h : CtxWF c) : (c.close fd).1 = c ∨ Moves c (c.close fd).1 fd fd none := by
  unfold Ctx.close
  cases hl : c.lookup fd with
  | none => exact Or.inl rfl
  | some e =>
    refine Or.inr ⟨(delete_spec c.table fd h).1, Nat.le_refl _, fun g => ?_, by unfold closedAfter; rw [hl], nofun⟩
    show ((c.table.delete fd).lookup g).join = _
    rw [lookup_delete _ h]
    split <;> rfl

/-- `renumber` refuses and changes nothing (as does the repaired variant from a descriptor onto itself), or moves the
entry at `a` to `b` -/
theorem renumber_cases (s : Bool) (c : Ctx) (a b : Int) (h : CtxWF c) (hd : Distinct c) :
    ((c.renumber s a b).1 = c ∧ ((c.renumber s a b).2 = .ok → s = true ∧ a = b)) ∨
    (∃ f, c.lookup a = some f ∧ (s = true → a ≠ b) ∧ Moves c (c.renumber s a b).1 a b (some f)) := by
  fun_cases Ctx.renumber
  case case4 h => exact Or.inl ⟨rfl, fun _ => by simpa using h⟩
  case case6 | case7 =>
    have hb : 0 ≤ b := by omega
    have hdel := delete_spec c.table a h
    refine Or.inr ⟨_, ‹c.lookup a = _›, fun h1 h2 => ‹¬(s && a == b) = true› (by simp [h1, h2]),
      (insertAt_spec _ _ _ hdel.1 hb).2.1, Nat.le_refl _, fun fd => ?_, by unfold closedAfter; rw [‹c.lookup b = _›],
      fun e he => by cases he; exact ⟨hd.1 _ _ ‹_›, fun fd e' he' hid => hd.2 _ _ _ _ he' ‹_› hid⟩⟩
    unfold Ctx.lookup
    simp only []
    rw [lookup_insertAt _ hdel.1 _ _ hb, lookup_delete _ h]
    split
    · rfl
    · split <;> rfl
  all_goals exact Or.inl ⟨rfl, fun h => nomatch h⟩

/-- The specification of renumber; `s = true` is the repaired variant, in which renumbering onto itself changes
nothing. -/
theorem renumber_spec (s : Bool) (c : Ctx) (a b : Int) (h : CtxWF c) (hd : Distinct c)
    (hok : (c.renumber s a b).2 = .ok) :
    (s = true → a = b → (c.renumber s a b).1 = c) ∧
    (a ≠ b →
      (c.renumber s a b).1.lookup b = c.lookup a ∧
      (c.renumber s a b).1.lookup a = none ∧
      (∀ e, c.lookup b = some e → e.id ∈ (c.renumber s a b).1.closed) ∧
      (c.live a = true → (c.renumber s a b).1.live b = true)) := by
  rcases renumber_cases s c a b h hd with ⟨e, hab⟩ | ⟨f, hf, hs, m⟩
  · exact ⟨fun _ _ => e, fun hne => absurd (hab hok).2 hne⟩
  · refine ⟨fun hs' hab => absurd hab (hs hs'), fun hne => ?_⟩
    have hlb := m.lookup b
    rw [if_pos rfl, ← hf] at hlb
    have hla := m.lookup a
    rw [if_neg hne, if_pos rfl] at hla
    refine ⟨hlb, hla, fun tf htf => ?_, m.live_of hd hne hlb⟩
    rw [m.closed]
    unfold closedAfter; rw [htf]; exact List.mem_cons_self

/-- F17: on the pinned tree, renumbering a live descriptor onto itself succeeds and leaves it in the
table with its file closed. -/
theorem renumber_self_witness :
    let c := (Ctx.init.openNew false).1
    c.live 4 = true ∧ (c.renumber false 4 4).2 = .ok ∧
    ((c.renumber false 4 4).1.lookup 4).isSome = true ∧ (c.renumber false 4 4).1.live 4 = false := by
  decide +kernel

theorem init_inv : CtxWF Ctx.init ∧ Distinct Ctx.init := by
  have step : ∀ c : Ctx, CtxWF c ∧ Distinct c → CtxWF (c.openNew true).1 ∧ Distinct (c.openNew true).1 :=
    fun c h => ⟨(openNew_moves c _ h.1 h.2).2.wf, (openNew_moves c _ h.1 h.2).2.distinct h.2⟩
  refine step _ (step _ (step _ (step _ ⟨empty_wf, ?_, ?_⟩))) <;>
    · intro fd
      simp [Ctx.lookup, Table.lookup, Table.empty]

end Wz.Proofs.C16Table
