/-
C01 / C02 (front end with memory accesses): what the simulation and the static analysis rest on.  `runL` runs a prefix
of instructions on a state with a memory and an access log; `RunsM` / `TrapsM` say what emitted code does behind every
log, its accesses confined (`AccOK`); `WritesIn` is a memory with confined writes prepended.  The instructions of the
base fragment do not access the memory (`pureI`) and do here what `Runs` / `Traps` of `C01_Front_Sim` say
(`RunsM.ofRuns`, `TrapsM.ofTraps`).  The translator's `memCheck` is the bounds check `checkInstrs` and then the address
computation.  `MInv` is the memory part of the simulation's invariant.
-/
import Wz.Proofs.C01_Front_Entry
import Wz.Proofs.C01_FrontMem_Bytes

namespace Wz.Proofs.FrontMem
open Wz.Spec Wz.Model.SsaPass Wz.Model.FrontendSL Wz.Model.FrontendMem Wz.Proofs.Front

def mkM (env : Val → Nat) (mem : Mem) : St := { env := env, mem := mem, trace := [] }

@[simp] theorem mkM_env (env : Val → Nat) (mem : Mem) : (mkM env mem).env = env := rfl
@[simp] theorem mkM_mem (env : Val → Nat) (mem : Mem) : (mkM env mem).mem = mem := rfl

theorem mkM_set (env : Val → Nat) (mem : Mem) (r : Val) (v : Nat) : (mkM env mem).set r v = mkM (upd env r v) mem := rfl

def runL (w : World) : List MInstr → St → List Acc → Sum (Ctl × List Acc) (St × List Acc)
  | [], st, log => .inr (st, log)
  | i :: is, st, log =>
    match stepM w i st with
    | .next st' => runL w is st' (log ++ instrAcc st.env i)
    | c => .inl (c, log ++ instrAcc st.env i)

theorem execBodyL_append (w : World) : ∀ (a rest : List MInstr) (st : St) (log : List Acc),
    execBodyL w (a ++ rest) st log =
      match runL w a st log with
      | .inr (st', log') => execBodyL w rest st' log'
      | .inl (c, log') => (some c, log') := by
  intro a
  induction a with
  | nil => intro rest st log; rfl
  | cons i is ih =>
    intro rest st log
    simp only [List.cons_append, execBodyL, runL]
    cases h : stepM w i st <;> simp only [ih]

theorem runL_append (w : World) : ∀ (a b : List MInstr) (st : St) (log : List Acc),
    runL w (a ++ b) st log =
      match runL w a st log with
      | .inr (st', log') => runL w b st' log'
      | .inl x => .inl x := by
  intro a
  induction a with
  | nil => intro b st log; rfl
  | cons i is ih =>
    intro b st log
    simp only [List.cons_append, runL]
    cases h : stepM w i st <;> simp only [ih]

theorem runL_cons_next {w : World} {i : MInstr} {st st' : St} (is : List MInstr) (log : List Acc)
    (h : stepM w i st = .next st') : runL w (i :: is) st log = runL w is st' (log ++ instrAcc st.env i) := by
  simp only [runL, h]

theorem runL_cons_trap {w : World} {i : MInstr} {st st' : St} {c : Nat} (is : List MInstr) (log : List Acc)
    (h : stepM w i st = .trap c st') : runL w (i :: is) st log = .inl (.trap c st', log ++ instrAcc st.env i) := by
  simp only [runL, h]

/-- the bounds check that `memCheck` emits first, whatever it knows about the address; one list per instruction, in the
order in which the proofs compose them -/
def checkInstrs (s : MS) (b : Val) (ceil : Nat) : List MInstr :=
  let n := s.ls.next
  let l := getMemLen (s.bump 2)
  let k := l.2.2.ls.next
  [.base (.iconst n .i64 ceil)] ++ [.base (.un .uextend (n + 1) .i64 b)] ++ l.1 ++
    [.base (.bin .iadd k .i64 (n + 1) n)] ++ [.base (.icmp (k + 1) .i64 .ult l.2.1 k)] ++
    [.base (.exitIf execCtx (k + 1) codeMemOOB)]

def checkState (s : MS) : MS := (getMemLen (s.bump 2)).2.2.bump 2

theorem memCheck_some (s : MS) (b : Val) (ceil : Nat) (a : Val) :
    memCheck s b ceil (some a) =
      (checkInstrs s b ceil, a, { checkState s with bounds := (b, ceil, a) :: (checkState s).bounds }) := by
  simp only [memCheck, checkInstrs, checkState, List.append_assoc, List.cons_append, List.nil_append]

theorem memCheck_none (s : MS) (b : Val) (ceil : Nat) :
    memCheck s b ceil none =
      let G := getMemBase (checkState s)
      (checkInstrs s b ceil ++ G.1 ++ [.base (.bin .iadd G.2.2.ls.next .i64 G.2.1 (s.ls.next + 1))],
        G.2.2.ls.next, { G.2.2.bump 1 with bounds := (b, ceil, G.2.2.ls.next) :: G.2.2.bounds }) := by
  simp only [memCheck, checkInstrs, checkState, List.append_assoc, List.cons_append, List.nil_append]

theorem tcStepM_load {lt : List Ty} {k : LoadK} {off : Nat} {tys tys' : List Ty}
    (h : tcStepM lt (.load k off) tys = some tys') :
    ∃ tys0, tys = .i32 :: tys0 ∧ tys' = k.ty :: tys0 ∧ off < 2 ^ 32 := by
  cases tys with
  | nil => cases h
  | cons a tys0 =>
    simp only [tcStepM] at h
    split at h
    · rename_i hc
      cases h
      exact ⟨tys0, by rw [hc.1], rfl, hc.2⟩
    · cases h

theorem tcStepM_store {lt : List Ty} {k : StoreK} {off : Nat} {tys tys' : List Ty}
    (h : tcStepM lt (.store k off) tys = some tys') : tys = k.ty :: .i32 :: tys' ∧ off < 2 ^ 32 := by
  match tys, h with
  | [], h => cases h
  | [_], h => cases h
  | v :: a :: tys0, h =>
    simp only [tcStepM] at h
    split at h
    · rename_i hc
      cases h
      exact ⟨by rw [hc.1, hc.2.1], hc.2.2⟩
    · cases h

theorem LS.peek_push (s : LS) (p : TV) : (s.push p).peek = p := rfl

theorem LS.pop_push (s : LS) (p : TV) : (s.push p).pop.2 = s := rfl

theorem lowerBodyM_cons (nres : Nat) {i : MI} (hi : i ≠ .base .ret) (is : List MI) (s : MS) :
    lowerBodyM nres (i :: is) s = (lowerMI i s).1 ++ lowerBodyM nres is (lowerMI i s).2 := by
  cases i with
  | base j => cases j <;> first | rfl | exact absurd rfl hi
  | _ => rfl

theorem tcBodyM_cons {lt res : List Ty} {i : MI} (hi : i ≠ .base .ret) {is : List MI} {tys : List Ty}
    (h : tcBodyM lt res (i :: is) tys = true) :
    ∃ tys', tcStepM lt i tys = some tys' ∧ tcBodyM lt res is tys' = true := by
  have h2 : (match tcStepM lt i tys with | some s' => tcBodyM lt res is s' | none => false) = true := by
    cases i with
    | base j => cases j <;> first | exact absurd rfl hi | exact h
    | _ => exact h
  split at h2
  · rename_i tys' hs; exact ⟨tys', hs, h2⟩
  · cases h2

def pureI : Instr → Bool
  | .iconst .. | .bin .. | .icmp .. | .select .. | .un .. | .div .. => true
  | _ => false

theorem acc_pure (ρ : Val → Nat) (i : Instr) (hp : pureI i = true) : instrAcc ρ (.base i) = [] := by
  cases i <;> simp only [pureI, Bool.false_eq_true] at hp <;> rfl

theorem runL_base (w : World) : ∀ (out : List Instr), (∀ i ∈ out, pureI i = true) → ∀ (st : St) (log : List Acc),
    runL w (out.map .base) st log =
      match execPre w out st with
      | .inr st' => .inr (st', log)
      | .inl c => .inl (c, log) := by
  intro out
  induction out with
  | nil => intro _ st log; rfl
  | cons i is ih =>
    intro hp st log
    simp only [List.map_cons, runL, execPre, stepM, acc_pure _ _ (hp i (List.mem_cons_self ..)), List.append_nil]
    cases h : execInstr w st.env i st with
    | next st' => exact ih (fun j hj => hp j (List.mem_cons_of_mem _ hj)) st' log
    | goto b a st' => rfl
    | ret vs st' => rfl
    | trap c st' => rfl

theorem lowerI_pure (i : SI) (s : LS) : ∀ j ∈ (lowerI i s).1, pureI j = true := by
  have h : (lowerI i s).1.all pureI = true := by cases i <;> rfl
  exact fun j hj => List.all_eq_true.mp h j hj

theorem declLocals_pure : ∀ (ls : List Ty) (n : Nat) (z : Zeros), ∀ i ∈ (declLocals ls n z).1, pureI i = true := by
  intro ls
  induction ls with
  | nil => intro n z i hi; cases hi
  | cons t ts ih =>
    intro n z i hi
    cases hz : z.get t with
    | some v0 => rw [declLocals_cons_some hz] at hi; exact ih n z i hi
    | none =>
      rw [declLocals_cons_none hz] at hi
      exact (List.mem_cons.mp hi).elim (· ▸ rfl) (ih _ _ i)

def AccOK (mc base len : Nat) (log : List Acc) : Prop :=
  ∀ a ∈ log, a.inside base len = true ∨ a.isCtxRead mc = true

theorem AccOK.nil {mc base len : Nat} : AccOK mc base len [] := fun _ h => by cases h

theorem AccOK.append {mc base len : Nat} {l1 l2 : List Acc} (h1 : AccOK mc base len l1) (h2 : AccOK mc base len l2) :
    AccOK mc base len (l1 ++ l2) := fun a ha => by
  rcases List.mem_append.mp ha with h | h
  · exact h1 a h
  · exact h2 a h

theorem AccOK.single {mc base len : Nat} {a : Acc} (h : a.inside base len = true ∨ a.isCtxRead mc = true) :
    AccOK mc base len [a] := fun x hx => by rw [List.mem_singleton.mp hx]; exact h

theorem AccOK.ctxLen {mc base len : Nat} : AccOK mc base len [⟨false, mc + offMemLen, 4⟩] :=
  .single (.inr (by simp [Acc.isCtxRead]))

theorem AccOK.ctxBase {mc base len : Nat} : AccOK mc base len [⟨false, mc + offMemBase, 8⟩] :=
  .single (.inr (by simp [Acc.isCtxRead]))

theorem AccOK.inside {mc base len : Nat} (st : Bool) {a n : Nat} (h : a + n ≤ len) :
    AccOK mc base len [⟨st, base + a, n⟩] :=
  .single (.inl (by simp only [Acc.inside, decide_eq_true_eq]; omega))

def WritesIn (base len : Nat) (mem mem' : Mem) : Prop :=
  ∃ W, mem' = W ++ mem ∧ ∀ p ∈ W, base ≤ p.1 ∧ p.1 < base + len

theorem WritesIn.refl (base len : Nat) (mem : Mem) : WritesIn base len mem mem := ⟨[], rfl, nofun⟩

theorem WritesIn.trans {base len : Nat} {m0 m1 m2 : Mem} (h1 : WritesIn base len m0 m1) (h2 : WritesIn base len m1 m2) :
    WritesIn base len m0 m2 := by
  obtain ⟨W1, rfl, c1⟩ := h1
  obtain ⟨W2, rfl, c2⟩ := h2
  exact ⟨W2 ++ W1, (List.append_assoc ..).symm, fun p hp => (List.mem_append.mp hp).elim (c2 p) (c1 p)⟩

theorem WritesIn.store {base len : Nat} (mem : Mem) {a n : Nat} (v : Nat) (h : a + n ≤ len) :
    WritesIn base len mem (memStore mem (base + a) v n) := by
  obtain ⟨W, hW, hin⟩ := memStore_prefix n mem (base + a) v
  exact ⟨W, hW, fun p hp => by have := hin p hp; omega⟩

/-- `l` runs through from `(env, mem)` to `(env', mem')` behind every log, and the accesses it logs are confined -/
def RunsM (w : World) (mc base len : Nat) (l : List MInstr) (env : Val → Nat) (mem : Mem) (env' : Val → Nat)
    (mem' : Mem) : Prop :=
  ∃ log', AccOK mc base len log' ∧ ∀ log, runL w l (mkM env mem) log = .inr (mkM env' mem', log ++ log')

/-- `l` exits with `code`; the memory stays as it is, the accesses logged so far are confined -/
def TrapsM (w : World) (mc base len : Nat) (l : List MInstr) (env : Val → Nat) (mem : Mem) (code : Nat) : Prop :=
  ∃ env' log', AccOK mc base len log' ∧
    ∀ log, runL w l (mkM env mem) log = .inl (.trap code (mkM env' mem), log ++ log')

section
variable {w : World} {mc base len : Nat} {env env1 env2 : Val → Nat} {mem mem1 mem2 : Mem} {l1 l2 : List MInstr}
  {code : Nat}

theorem RunsM.nil : RunsM w mc base len [] env mem env mem :=
  ⟨[], AccOK.nil, fun log => by rw [List.append_nil]; rfl⟩

theorem RunsM.one {j : MInstr} (hstep : stepM w j (mkM env mem) = .next (mkM env1 mem1))
    (hacc : AccOK mc base len (instrAcc env j)) : RunsM w mc base len [j] env mem env1 mem1 :=
  ⟨_, hacc, fun log => by rw [runL_cons_next [] log hstep]; rfl⟩

theorem RunsM.comp (h1 : RunsM w mc base len l1 env mem env1 mem1) (h2 : RunsM w mc base len l2 env1 mem1 env2 mem2) :
    RunsM w mc base len (l1 ++ l2) env mem env2 mem2 := by
  obtain ⟨log1, hok1, hr1⟩ := h1
  obtain ⟨log2, hok2, hr2⟩ := h2
  refine ⟨log1 ++ log2, hok1.append hok2, fun log => ?_⟩
  rw [runL_append, hr1 log]
  simp only
  rw [hr2, List.append_assoc]

theorem TrapsM.one {j : MInstr} (hstep : stepM w j (mkM env mem) = .trap code (mkM env1 mem))
    (hacc : AccOK mc base len (instrAcc env j)) : TrapsM w mc base len [j] env mem code :=
  ⟨env1, _, hacc, fun log => runL_cons_trap [] log hstep⟩

theorem TrapsM.append (h : TrapsM w mc base len l1 env mem code) (l2 : List MInstr) :
    TrapsM w mc base len (l1 ++ l2) env mem code := by
  obtain ⟨env', log', hok, hr⟩ := h
  exact ⟨env', log', hok, fun log => by rw [runL_append, hr]⟩

theorem RunsM.traps (h1 : RunsM w mc base len l1 env mem env1 mem) (h2 : TrapsM w mc base len l2 env1 mem code) :
    TrapsM w mc base len (l1 ++ l2) env mem code := by
  obtain ⟨log1, hok1, hr1⟩ := h1
  obtain ⟨env', log2, hok2, hr2⟩ := h2
  refine ⟨env', log1 ++ log2, hok1.append hok2, fun log => ?_⟩
  rw [runL_append, hr1 log]
  simp only
  rw [hr2, List.append_assoc]

theorem TrapsM.body (h : TrapsM w mc base len l1 env mem code) (rest : List MInstr) :
    ∃ env' log', AccOK mc base len log' ∧
      ∀ log, execBodyL w (l1 ++ rest) (mkM env mem) log = (some (.trap code (mkM env' mem)), log ++ log') := by
  obtain ⟨env', log', hok, hr⟩ := h
  exact ⟨env', log', hok, fun log => by rw [execBodyL_append, hr]⟩

theorem RunsM.ofRuns {out : List Instr} (hp : ∀ i ∈ out, pureI i = true) (h : Runs w out env env1) :
    RunsM w mc base len (out.map .base) env mem env1 mem :=
  ⟨[], AccOK.nil, fun log => by
    rw [runL_base w out hp, h (mkM env mem) rfl, List.append_nil]; rfl⟩

theorem TrapsM.ofTraps {out : List Instr} (hp : ∀ i ∈ out, pureI i = true) (h : Traps w out env code) :
    TrapsM w mc base len (out.map .base) env mem code :=
  ⟨env, [], AccOK.nil, fun log => by rw [runL_base w out hp, h (mkM env mem) rfl, List.append_nil]⟩

end

/-- the memory part of the invariant: the flat memory embeds the linear memory; the cached base and length values hold
them; every recorded bound was checked against the length, and its address value holds `base + address`; whatever
the cache mentions is below `next` (so later definitions do not disturb it) -/
structure MInv (mc base : Nat) (bytes : ByteArray) (s : MS) (env : Val → Nat) (mem : Mem) : Prop where
  emb : Emb mc base bytes mem
  ctx : env moduleCtx = mc
  nextGe : 2 ≤ s.ls.next
  mbase : ∀ v : Nat, s.memBase = some v → env v = base ∧ v < s.ls.next
  mlen : ∀ v : Nat, s.memLen = some v → env v = bytes.size ∧ v < s.ls.next
  bnd : ∀ b bound a : Nat, (b, bound, a) ∈ s.bounds →
    env b + bound ≤ bytes.size ∧ env a = base + env b ∧ b < s.ls.next ∧ a < s.ls.next

theorem MInv.frame {mc base : Nat} {bytes : ByteArray} {s s' : MS} {env env' : Val → Nat} {mem : Mem}
    (h : MInv mc base bytes s env mem) (hb : s'.memBase = s.memBase) (hl : s'.memLen = s.memLen)
    (hbd : s'.bounds = s.bounds) (hn : s.ls.next ≤ s'.ls.next) (he : ∀ v, v < s.ls.next → env' v = env v) :
    MInv mc base bytes s' env' mem := by
  obtain ⟨hemb, hctx, hge, hmb, hml, hbnd⟩ := h
  refine ⟨hemb, ?_, by omega, ?_, ?_, ?_⟩
  · rw [he _ (by show 1 < _; omega)]; exact hctx
  · intro v hv; rw [hb] at hv; obtain ⟨h1, h2⟩ := hmb v hv; rw [he v h2]; exact ⟨h1, Nat.lt_of_lt_of_le h2 hn⟩
  · intro v hv; rw [hl] at hv; obtain ⟨h1, h2⟩ := hml v hv; rw [he v h2]; exact ⟨h1, Nat.lt_of_lt_of_le h2 hn⟩
  · intro b bound a hm; rw [hbd] at hm; obtain ⟨h1, h2, h3, h4⟩ := hbnd b bound a hm
    rw [he _ h3, he _ h4]; exact ⟨h1, h2, Nat.lt_of_lt_of_le h3 hn, Nat.lt_of_lt_of_le h4 hn⟩

theorem lookupBound_mem : ∀ (bs : List (Val × Nat × Val)) (b : Val) (e : Nat × Val),
    lookupBound bs b = some e → (b, e) ∈ bs := by
  intro bs
  induction bs with
  | nil => intro b e h; cases h
  | cons p rest ih =>
    intro b e h
    obtain ⟨k, e0⟩ := p
    simp only [lookupBound] at h
    split at h
    · rename_i hk; subst hk; cases h; exact List.mem_cons_self ..
    · exact List.mem_cons_of_mem _ (ih b e h)

/-- the length word, read with 4 bytes: the length itself, because it is below 2^32 -/
theorem emb_len {mc base : Nat} {bytes : ByteArray} {mem : Mem} (h : Emb mc base bytes mem) :
    memLoad mem (mc + offMemLen) 4 = bytes.size := by
  rw [memLoad_bytesAt mem 4 _ bytes.size (fun i hi => h.lenWord i (by omega))]
  exact Nat.mod_eq_of_lt h.lenR

theorem emb_base {mc base : Nat} {bytes : ByteArray} {mem : Mem} (h : Emb mc base bytes mem) :
    memLoad mem (mc + offMemBase) 8 = base := by
  rw [memLoad_bytesAt mem 8 _ base h.baseWord]
  exact Nat.mod_eq_of_lt (by have := h.baseR; omega)

theorem MInv.ctxAddr {mc base : Nat} {bytes : ByteArray} {s : MS} {env : Val → Nat} {mem : Mem}
    (h : MInv mc base bytes s env mem) {off : Nat} (ho : off ≤ 16) : (env moduleCtx + off) % 2 ^ 64 = mc + off := by
  rw [h.ctx]; exact Nat.mod_eq_of_lt (by have := h.emb.mcR; omega)

theorem evalBin_iadd64 (x y : Nat) (h : x + y < 2 ^ 64) : evalBin .iadd .i64 x y = x + y := by
  show (BitVec.ofNat 64 x + BitVec.ofNat 64 y).toNat = x + y
  rw [BitVec.toNat_add, BitVec.toNat_ofNat, BitVec.toNat_ofNat, Nat.add_mod_mod, Nat.mod_add_mod]
  exact Nat.mod_eq_of_lt h

theorem evalCond_ult64 (x y : Nat) (hx : x < 2 ^ 64) (hy : y < 2 ^ 64) :
    evalCond .ult .i64 x y = if x < y then 1 else 0 := by
  simp only [evalCond, Ty.bits, BitVec.ult, BitVec.toNat_ofNat, Nat.mod_eq_of_lt hx, Nat.mod_eq_of_lt hy]
  by_cases h : x < y <;> simp [h]

theorem evalUn_uext (x : Nat) (h : x < 2 ^ 32) : evalUn .uextend .i64 x = x := by
  simp only [evalUn, norm, Ty.bits, Nat.mod_eq_of_lt h]
  omega

end Wz.Proofs.FrontMem
