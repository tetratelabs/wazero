/-
C01 / C02 (front end with memory accesses): one source instruction, related in both semantics (`StepOKM`, `sim_stepM`):
the instructions of the base fragment through `sim_step` of `C01_Front_Sim`, the loads, the stores, `memory.size`.
Before them the value a load produces (`loadVal`; `loadInstr_step`: the emitted load computes it), the reference
semantics on the two access instructions, the embedding under a load and a store (`emb_load`, `emb_store`).
-/
import Wz.Proofs.C01_FrontMem_Setup
import Wz.Proofs.Wasm_Exec

namespace Wz.Proofs.FrontMem
open Wz.Spec Wz.Model.SsaPass Wz.Model.FrontendSL Wz.Model.FrontendMem Wz.Proofs.Front

/-- the value a load of kind `k` produces from the `k.bytes` bytes `raw` (as the specification defines it) -/
def loadVal (k : LoadK) (raw : Nat) : Nat :=
  if k.signed then Wasm.signExt (8 * k.bytes) k.ty.bits raw else raw

theorem signExt_bv (wd bits raw : Nat) (hwb : wd ≤ bits) (hr : raw < 2 ^ wd) :
    ((BitVec.ofNat wd raw).signExtend bits).toNat = Wasm.signExt wd bits raw := by
  rw [BitVec.toNat_signExtend]
  simp only [BitVec.toNat_setWidth, BitVec.toNat_ofNat, Wasm.signExt, BitVec.msb_eq_decide, Nat.mod_eq_of_lt hr]
  have hpow : 2 ^ wd ≤ 2 ^ bits := Nat.pow_le_pow_right (by omega) hwb
  have hlt : raw < 2 ^ bits := Nat.lt_of_lt_of_le hr hpow
  rw [Nat.mod_eq_of_lt hlt]
  by_cases hge : raw ≥ 2 ^ (wd - 1)
  · simp only [hge, decide_true, if_true]
    omega
  · simp only [hge, decide_false, if_false]
    simp

/-- a full-width load is a `Load`, a narrow one the extending load of its width and signedness -/
theorem LoadK.table (k : LoadK) : 0 < k.bytes ∧ k.bytes ≤ 8 ∧ 8 * k.bytes ≤ k.ty.bits ∧
    match k.ext? with
    | none => k.signed = false ∧ k.ty.bits / 8 = k.bytes
    | some op => op.signed = k.signed ∧ op.bytes = k.bytes := by
  cases k <;> exact ⟨by decide, by decide, by decide, rfl, rfl⟩

theorem loadVal_lt (k : LoadK) (raw : Nat) (hr : raw < 256 ^ k.bytes) : loadVal k raw < 2 ^ k.ty.bits := by
  obtain ⟨_, _, hle, _⟩ := LoadK.table k
  rw [pow256] at hr
  unfold loadVal
  split
  · rw [← signExt_bv _ _ raw hle hr]; exact BitVec.isLt _
  · exact Nat.lt_of_lt_of_le hr (Nat.pow_le_pow_right (by omega) hle)

theorem loadInstr_step (w : World) (k : LoadK) (r addr off : Nat) (env : Val → Nat) (mem : Mem)
    (hr : memLoad mem ((env addr + off) % 2 ^ 64) k.bytes < 256 ^ k.bytes) :
    stepM w (loadInstr k r addr off) (mkM env mem) =
      .next (mkM (upd env r (loadVal k (memLoad mem ((env addr + off) % 2 ^ 64) k.bytes))) mem) := by
  obtain ⟨_, _, hle, htab⟩ := LoadK.table k
  rw [pow256] at hr
  have hlt := Nat.lt_of_lt_of_le hr (Nat.pow_le_pow_right (by omega) hle)
  unfold loadInstr loadVal
  cases hk : k.ext? with
  | none =>
    rw [hk] at htab
    obtain ⟨hs, hb⟩ : k.signed = false ∧ k.ty.bits / 8 = k.bytes := htab
    simp only [stepM, execInstr, mkM_env, mkM_mem, hs, hb, mkM_set, norm, Nat.mod_eq_of_lt hlt,
      Bool.false_eq_true, if_false]
  | some op =>
    rw [hk] at htab
    obtain ⟨hs, hb⟩ : op.signed = k.signed ∧ op.bytes = k.bytes := htab
    rw [← hb] at hr hle hlt ⊢
    simp only [stepM, mkM_env, mkM_mem, mkM_set, evalExt, hs]
    split
    · rw [signExt_bv _ _ _ hle hr]
    · rw [Nat.mod_eq_of_lt hr, norm, Nat.mod_eq_of_lt hlt]

theorem loadInstr_acc (k : LoadK) (r addr off : Nat) (env : Val → Nat) :
    instrAcc env (loadInstr k r addr off) = [⟨false, (env addr + off) % 2 ^ 64, k.bytes⟩] := by
  cases k <;> rfl
theorem storeOp_bytes (k : StoreK) : k.op.bytes k.ty = k.bytes := by cases k <;> rfl

theorem storeK_bytes_pos (k : StoreK) : 1 ≤ k.bytes ∧ k.bytes ≤ 8 := by cases k <;> decide

theorem toVT_bits (t : Ty) : (Ty.toVT t).bits = t.bits := by cases t <;> rfl

theorem wasm_load {m : Wasm.Module} {st : Wasm.Store} {n : Nat} (k : LoadK) (off a : Nat) (stk : List Nat)
    (locals : Array Nat) :
    Wasm.execInstr m (n + 1) (MI.load k off).toInstr ⟨a :: stk, locals⟩ st =
      if st.mem.size < a + off + k.bytes then (.trap (trapKindM codeMemOOB), ⟨a :: stk, locals⟩, st)
      else (.next, ⟨loadVal k (Wasm.readLE st.mem (a + off) k.bytes) :: stk, locals⟩, st) := by
  simp only [MI.toInstr, Wasm.execInstr_load, Nat.mul_div_cancel_left k.bytes (show 0 < 8 by omega), toVT_bits]
  rfl

theorem wasm_store {m : Wasm.Module} {st : Wasm.Store} {n : Nat} (k : StoreK) (off v a : Nat) (stk : List Nat)
    (locals : Array Nat) :
    Wasm.execInstr m (n + 1) (MI.store k off).toInstr ⟨v :: a :: stk, locals⟩ st =
      if st.mem.size < a + off + k.bytes then (.trap (trapKindM codeMemOOB), ⟨v :: a :: stk, locals⟩, st)
      else (.next, ⟨stk, locals⟩,
        { st with mem := Wasm.writeLE st.mem (a + off) k.bytes (v % 2 ^ (8 * k.bytes)) }) := by
  simp only [MI.toInstr, Wasm.execInstr_store, Nat.mul_div_cancel_left k.bytes (show 0 < 8 by omega)]
  rfl

theorem emb_load {mc base : Nat} {bytes : ByteArray} {mem : Mem} (h : Emb mc base bytes mem) (ea n : Nat)
    (hin : ea + n ≤ bytes.size) : memLoad mem (base + ea) n = Wasm.readLE bytes ea n :=
  memLoad_eq_readLE mem bytes n (base + ea) ea (fun i hi => by
    rw [Nat.add_assoc]; exact h.data (ea + i) (by omega))

theorem emb_store {mc base : Nat} {bytes : ByteArray} {mem : Mem} (h : Emb mc base bytes mem) (ea n v : Nat)
    (hin : ea + n ≤ bytes.size) :
    Emb mc base (Wasm.writeLE bytes ea n (v % 2 ^ (8 * n))) (memStore mem (base + ea) v n) := by
  obtain ⟨hbw, hlw, hdata, hdis, hmc, hbr, hlr⟩ := h
  have hsz := writeLE_size bytes ea (v % 2 ^ (8 * n)) n
  simp only [offMemBase, offMemLen] at hbw hlw hdis ⊢
  refine ⟨?_, ?_, ?_, ?_, hmc, hbr, by rw [hsz]; exact hlr⟩
  · intro i hi
    rw [memRead_memStore, if_neg (by simp only [offMemBase]; omega)]
    exact hbw i hi
  · intro i hi
    rw [memRead_memStore, if_neg (by simp only [offMemLen]; omega), hsz]
    exact hlw i hi
  · intro i hi
    rw [hsz] at hi
    rw [memRead_memStore, writeLE_get bytes ea _ n hin]
    by_cases hr : ea ≤ i ∧ i < ea + n
    · rw [if_pos (by omega), if_pos hr, show base + i - (base + ea) = i - ea by omega,
        byte_mod v n (i - ea) (by omega)]
      simp only [UInt8.toNat_ofNat']
      omega
    · rw [if_neg (by omega), if_neg hr]
      exact hdata i hi
  · rw [hsz]; simp only [offMemBase]; exact hdis

theorem MInv.store {mc base : Nat} {bytes bytes' : ByteArray} {s : MS} {env : Val → Nat} {mem mem' : Mem}
    (h : MInv mc base bytes s env mem) (hemb : Emb mc base bytes' mem') (hsz : bytes'.size = bytes.size) :
    MInv mc base bytes' s env mem' := by
  obtain ⟨_, hctx, hge, hmb, hml, hbnd⟩ := h
  exact ⟨hemb, hctx, hge, hmb, by rw [hsz]; exact hml, by rw [hsz]; exact hbnd⟩

theorem evalBin_ushr32 (x : Nat) (hx : x < 2 ^ 32) : evalBin .ushr .i32 x pageBits = x / Wasm.pageSize := by
  show ((BitVec.ofNat 32 x) >>> (16 % 32)).toNat = x / 65536
  rw [BitVec.toNat_ushiftRight, BitVec.toNat_ofNat, Nat.mod_eq_of_lt hx, Nat.shiftRight_eq_div_pow]

def okCode (code : Nat) : Prop := code = codeMemOOB ∨ code = codeDivByZero ∨ code = codeOverflow

/-- `st.mem` is the linear memory of the reference semantics, `mem` the SSA model's flat memory -/
def StepOKM (w : World) (m : Wasm.Module) (lt : List Ty) (mc base : Nat) (i : MI) (s : MS) (tys' : List Ty)
    (stack : List Nat) (locals : Array Nat) (env : Val → Nat) (st : Wasm.Store) (mem : Mem) (n : Nat) : Prop :=
  (∃ stack' locals' env' bytes' mem',
      Wasm.execInstr m (n + 1) i.toInstr ⟨stack, locals⟩ st = (.next, ⟨stack', locals'⟩, { st with mem := bytes' }) ∧
      bytes'.size = st.mem.size ∧ WritesIn base st.mem.size mem mem' ∧
      RunsM w mc base st.mem.size (lowerMI i s).1 env mem env' mem' ∧
      Inv lt (lowerMI i s).2.ls tys' stack' locals' env' ∧
      MInv mc base bytes' (lowerMI i s).2 env' mem') ∨
  (∃ code fr',
      Wasm.execInstr m (n + 1) i.toInstr ⟨stack, locals⟩ st = (.trap (trapKindM code), fr', st) ∧
      TrapsM w mc base st.mem.size (lowerMI i s).1 env mem code ∧ okCode code)

variable {w : World} {m : Wasm.Module} {lt : List Ty} {mc base : Nat} {s : MS} {tys tys' : List Ty}
  {stack : List Nat} {locals : Array Nat} {env : Val → Nat} {st : Wasm.Store} {mem : Mem} {n : Nat}

theorem simM_base (i : SI) (hinv : Inv lt s.ls tys stack locals env)
    (hm : MInv mc base st.mem s env mem) (htc : tcStep lt i tys = some tys') :
    StepOKM w m lt mc base (.base i) s tys' stack locals env st mem n := by
  rcases sim_step (w := w) (m := m) i st n hinv htc with
    ⟨stack', locals', env', hsp, hss, hinv'⟩ | ⟨code, fr', hsp, hss, hcode⟩
  · exact .inl ⟨stack', locals', env', st.mem, mem, hsp, rfl, .refl .., .ofRuns (lowerI_pure i s.ls) hss, hinv',
      hm.frame rfl rfl rfl (lowerI_next i s.ls) fun _ => hss.below⟩
  · refine .inr ⟨code, fr', ?_, .ofTraps (lowerI_pure i s.ls) hss, .inr hcode⟩
    have : trapKindM code = trapKind code := by
      rcases hcode with rfl | rfl <;> decide
    rw [this]; exact hsp

theorem simM_memSize (hinv : Inv lt s.ls tys stack locals env) (hm : MInv mc base st.mem s env mem)
    (htc : tcStepM lt .memSize tys = some tys') :
    StepOKM w m lt mc base .memSize s tys' stack locals env st mem n := by
  simp only [tcStepM, Option.some.injEq] at htc
  subst htc
  have hlenR := hm.emb.lenR
  have hval : norm .i32 (memLoad mem (mc + offMemLen) 4) = st.mem.size := by
    rw [emb_len hm.emb]; exact norm_of_lt hlenR
  have p1 := piece_one (w := w) (j := .base (.load s.ls.next .i32 moduleCtx offMemLen)) (x := st.mem.size) hm
    (by simp only [stepM, execInstr, mkM_env, mkM_mem, hm.ctxAddr (by decide : offMemLen ≤ 16), Ty.bits, Nat.reduceDiv,
          hval, mkM_set])
    (by simp only [instrAcc, hm.ctxAddr (by decide : offMemLen ≤ 16)]; exact AccOK.ctxLen)
  have p2 := p1.snoc (j := .base (.iconst (s.ls.next + 1) .i32 pageBits)) (x := pageBits) rfl AccOK.nil
  have P := p2.snoc (j := .base (.bin .ushr (s.ls.next + 2) .i32 s.ls.next (s.ls.next + 1)))
    (x := st.mem.size / Wasm.pageSize)
    (by simp only [stepM, execInstr, mkM_set, mkM_env, MS.bump, upd_ne _ _ (Nat.ne_of_lt (Nat.lt_succ_self s.ls.next)),
          upd_self, evalBin_ushr32 _ hlenR]) AccOK.nil
  refine .inl ⟨(st.mem.size / Wasm.pageSize) :: stack, locals, _, st.mem, mem, ?_, rfl, .refl .., P.run, ?_,
    P.inv.frame rfl rfl rfl (Nat.le_refl _) (fun _ _ => rfl)⟩
  · exact Wasm.execInstr_memSize
  · have hlt : st.mem.size / Wasm.pageSize < 2 ^ Ty.i32.bits := by
      simp only [Ty.bits, Wasm.pageSize]; omega
    have i1 := (hinv.updFresh st.mem.size).updFresh pageBits
    have i2 := i1.pushNew .i32 (st.mem.size / Wasm.pageSize) hlt
    exact i2

theorem simM_load (k : LoadK) (off : Nat) (hinv : Inv lt s.ls tys stack locals env)
    (hm : MInv mc base st.mem s env mem) (htc : tcStepM lt (.load k off) tys = some tys') :
    StepOKM w m lt mc base (.load k off) s tys' stack locals env st mem n := by
  obtain ⟨tys0, rfl, rfl, hoff⟩ := tcStepM_load htc
  obtain ⟨vb, a, stack', ls0, hls, rfl, hb, haR, hbF, inv1⟩ := hinv.pop
  simp only [Ty.bits] at haR
  obtain ⟨hk1, hk8, _⟩ := LoadK.table k
  have hbaseR := hm.emb.baseR
  have hm1 : MInv mc base st.mem { s with ls := ls0 } env mem :=
    hm.frame rfl rfl rfl (by rw [hls]; exact Nat.le_refl _) (fun _ _ => rfl)
  have hset := memOpSetup_ok (w := w) hm1 (b := vb) (a := a) (ceil := off + k.bytes) hbF hb haR (by omega)
  unfold StepOKM
  simp only [lowerMI, hls, LS.peek_push, LS.pop_push]
  generalize memOpSetup { s with ls := ls0 } vb (off + k.bytes) = M at hset
  by_cases hin : a + (off + k.bytes) ≤ st.mem.size
  · -- in bounds
    obtain ⟨env2, P, haddr⟩ := hset.1 hin
    have hea : (env2 M.2.1 + off) % 2 ^ 64 = base + (a + off) := by
      rw [haddr, Nat.mod_eq_of_lt (by omega)]; omega
    have hraw : memLoad mem ((env2 M.2.1 + off) % 2 ^ 64) k.bytes = Wasm.readLE st.mem (a + off) k.bytes := by
      rw [hea]; exact emb_load hm.emb (a + off) k.bytes (by omega)
    have hrawlt := readLE_lt st.mem k.bytes (a + off)
    have hstep := loadInstr_step w k M.2.2.ls.next M.2.1 off env2 mem (by rw [hraw]; exact hrawlt)
    rw [hraw] at hstep
    let val := loadVal k (Wasm.readLE st.mem (a + off) k.bytes)
    have Pall := P.snoc hstep (by rw [loadInstr_acc, hea]; exact AccOK.inside false (by omega))
    refine .inl ⟨val :: stack', locals, upd env2 M.2.2.ls.next val, st.mem, mem, ?_, rfl, .refl .., Pall.run, ?_,
      Pall.inv.frame rfl rfl rfl (Nat.le_refl _) (fun _ _ => rfl)⟩
    · rw [wasm_load, if_neg (by omega)]
    · have i2 : Inv lt M.2.2.ls tys0 stack' locals env2 := P.carry inv1
      exact i2.pushNew k.ty val (loadVal_lt k _ hrawlt)
  · -- out of bounds
    refine .inr ⟨codeMemOOB, ⟨a :: stack', locals⟩, ?_, (hset.2 (by omega)).append _, .inl rfl⟩
    rw [wasm_load, if_pos (by omega)]

theorem simM_store (k : StoreK) (off : Nat) (hinv : Inv lt s.ls tys stack locals env)
    (hm : MInv mc base st.mem s env mem) (htc : tcStepM lt (.store k off) tys = some tys') :
    StepOKM w m lt mc base (.store k off) s tys' stack locals env st mem n := by
  obtain ⟨rfl, hoff⟩ := tcStepM_store htc
  obtain ⟨vv, x, stack1, ls1, hls, rfl, hv, hxR, hvF, inv1⟩ := hinv.pop
  obtain ⟨vb, a, stack', ls0, rfl, rfl, hb, haR, hbF, inv2⟩ := inv1.pop
  simp only [Ty.bits] at haR
  obtain ⟨hk1, hk8⟩ := storeK_bytes_pos k
  have hbaseR := hm.emb.baseR
  have hm1 : MInv mc base st.mem { s with ls := ls0 } env mem :=
    hm.frame rfl rfl rfl (by rw [hls]; exact Nat.le_refl _) (fun _ _ => rfl)
  have hset := memOpSetup_ok (w := w) hm1 (b := vb) (a := a) (ceil := off + k.bytes) hbF hb haR (by omega)
  unfold StepOKM
  simp only [lowerMI, hls, LS.peek_push, LS.pop_push]
  generalize memOpSetup { s with ls := ls0 } vb (off + k.bytes) = M at hset
  by_cases hin : a + (off + k.bytes) ≤ st.mem.size
  · obtain ⟨env2, P, haddr⟩ := hset.1 hin
    have hea : (env2 M.2.1 + off) % 2 ^ 64 = base + (a + off) := by
      rw [haddr, Nat.mod_eq_of_lt (by omega)]; omega
    have hv2 : env2 vv = x := by rw [P.frame vv hvF]; exact hv
    have hsz := writeLE_size st.mem (a + off) (x % 2 ^ (8 * k.bytes)) k.bytes
    have hstep : stepM w (.base (.store k.op k.ty vv M.2.1 off)) (mkM env2 mem) =
        .next (mkM env2 (memStore mem (base + (a + off)) x k.bytes)) := by
      simp only [stepM, execInstr, mkM_env, hea, hv2, storeOp_bytes]
      rfl
    refine .inl ⟨stack', locals, env2, Wasm.writeLE st.mem (a + off) k.bytes (x % 2 ^ (8 * k.bytes)),
      memStore mem (base + (a + off)) x k.bytes, ?_, hsz, .store mem x (by omega), ?_, ?_, ?_⟩
    · rw [wasm_store, if_neg (by omega)]
    · refine RunsM.comp P.run (.one hstep ?_)
      simp only [instrAcc, hea, storeOp_bytes]
      exact AccOK.inside true (by omega)
    · exact P.carry inv2
    · exact P.inv.store (emb_store hm.emb (a + off) k.bytes x (by omega)) hsz
  · refine .inr ⟨codeMemOOB, ⟨x :: a :: stack', locals⟩, ?_, (hset.2 (by omega)).append _, .inl rfl⟩
    rw [wasm_store, if_pos (by omega)]

theorem sim_stepM (i : MI) (hinv : Inv lt s.ls tys stack locals env)
    (hm : MInv mc base st.mem s env mem) (htc : tcStepM lt i tys = some tys') :
    StepOKM w m lt mc base i s tys' stack locals env st mem n := by
  cases i with
  | base j => exact simM_base j hinv hm htc
  | load k off => exact simM_load k off hinv hm htc
  | store k off => exact simM_store k off hinv hm htc
  | memSize => exact simM_memSize hinv hm htc

end Wz.Proofs.FrontMem
