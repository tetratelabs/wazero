import Wz.Proofs.C01_SsaPass_Typed

/-! Dead-code elimination (`Wz.Model.SsaPass.dceWith`) preserves the semantics for every side-effect table that
classifies as `none` only instructions that the real table classifies as `none` (`dceWith_sound`), and its result
means the same without the alias table (`dceWith_no_alias`). -/
namespace Wz.Model.SsaPass

/-- a table that is at least as careful as `instructionSideEffects` -/
def SoundTable (tbl : Opcode → Eff) : Prop := ∀ op, tbl op = .none → sideEffect op = .none

theorem soundTable_sideEffect : SoundTable sideEffect := fun _ h => h

structure LiveInv (f : Func) (roots work live : List Val) : Prop where
  roots : ∀ x ∈ roots, x ∈ live ∨ x ∈ work
  closed : ∀ i ∈ f.allInstrs, ∀ r ∈ i.results, r ∈ live →
    ∀ o ∈ i.operands, res f.alias o ∈ live ∨ res f.alias o ∈ work

theorem liveLoop_inv (f : Func) (roots : List Val) (n : Nat) (work live L : List Val) :
    LiveInv f roots work live → liveLoop f n work live = some L → LiveInv f roots [] L := by
  fun_induction liveLoop f n work live with
  | case1 => nofun
  | case2 n live => rintro hinv ⟨⟩; exact hinv
  | case3 n v work live hv ih =>
    intro hinv
    have hmono : ∀ x, x ∈ live ∨ x ∈ v :: work → x ∈ live ∨ x ∈ work := by
      rintro x (h | h)
      · exact Or.inl h
      · rcases List.mem_cons.mp h with rfl | h
        · exact Or.inl hv
        · exact Or.inr h
    exact ih ⟨fun x hx => hmono x (hinv.roots x hx),
      fun i hi r hr hrl o ho => hmono _ (hinv.closed i hi r hr hrl o ho)⟩
  | case4 n v work live hv ds ih =>
    intro hinv
    have hmono : ∀ x ws, x ∈ live ∨ x ∈ v :: work → x ∈ v :: live ∨ x ∈ ws ++ work := by
      rintro x ws (h | h)
      · exact Or.inl (List.mem_cons_of_mem _ h)
      · rcases List.mem_cons.mp h with rfl | h
        · exact Or.inl (List.mem_cons_self ..)
        · exact Or.inr (List.mem_append_right _ h)
    refine ih ⟨fun x hx => hmono x _ (hinv.roots x hx), fun i hi r hr hrl o ho => ?_⟩
    rcases List.mem_cons.mp hrl with rfl | hrl
    · -- `i` is one of the producers of `v`: its operands were pushed
      exact Or.inr (List.mem_append_left _ (List.mem_flatMap.mpr
        ⟨i, List.mem_filter.mpr ⟨hi, by simpa using hr⟩, List.mem_map_of_mem ho⟩))
    · exact hmono _ _ (hinv.closed i hi r hr hrl o ho)
theorem liveSet_closed {tbl : Opcode → Eff} {f : Func} {L : List Val} (h : liveSet tbl f = some L) :
    (∀ x ∈ liveRoots tbl f, x ∈ L) ∧
    (∀ i ∈ f.allInstrs, ∀ r ∈ i.results, r ∈ L → ∀ o ∈ i.operands, res f.alias o ∈ L) := by
  have := liveLoop_inv f (liveRoots tbl f) _ _ _ L
    ⟨fun x hx => Or.inr hx, fun i _ r _ hrl => by cases hrl⟩ h
  exact ⟨fun x hx => (this.roots x hx).resolve_right List.not_mem_nil,
    fun i hi r hr hrl o ho => (this.closed i hi r hr hrl o ho).resolve_right List.not_mem_nil⟩

theorem keeps_operands_live {tbl : Opcode → Eff} {f : Func} {L : List Val} (hL : liveSet tbl f = some L)
    {i : Instr} (hi : i ∈ f.validInstrs) (hk : keeps tbl L i = true) :
    ∀ o ∈ i.operands, res f.alias o ∈ L := by
  obtain ⟨hroots, hclosed⟩ := liveSet_closed hL
  intro o ho
  simp only [keeps, Bool.or_eq_true, decide_eq_true_eq, List.any_eq_true] at hk
  cases hk with
  | inl hk =>
    apply hroots
    simp only [liveRoots, List.mem_flatMap, List.mem_filter, decide_eq_true_eq]
    exact ⟨i, ⟨hi, hk⟩, List.mem_map_of_mem ho⟩
  | inr hk =>
    obtain ⟨r, hr, hrl⟩ := hk
    obtain ⟨B, hB, _, hiB⟩ := mem_validInstrs.mp hi
    exact hclosed i (mem_allInstrs.mpr ⟨B, hB, hiB⟩) r hr hrl o ho

/-- what the simulation needs from the selection `keep` and the set `S` of values that matter -/
structure Selection (f : Func) (keep : Instr → Bool) (S : Val → Prop) : Prop where
  kept : ∀ i ∈ f.validInstrs, keep i = true → ∀ o ∈ i.operands, S (res f.alias o)
  dropped : ∀ i ∈ f.validInstrs, keep i = false → sideEffect i.opcode = .none ∧ ∀ r ∈ i.results, ¬ S r

def dceBlock (al : List (Val × Val)) (keep : Instr → Bool) (B : Block) : Block :=
  if B.invalid then B else { B with instrs := (B.instrs.filter keep).map (·.mapOperands (res al)) }

theorem dceWith_blocks (tbl : Opcode → Eff) (f : Func) :
    dceWith tbl f = { f with blocks := f.blocks.map (dceBlock f.alias (keepFn tbl f)) } := rfl

theorem execBody_dce (w : World) {f : Func} {keep : Instr → Bool} {S : Val → Prop} (hnf : AliasNF f.alias)
    (hsel : Selection f keep S) :
    ∀ (is : List Instr) (st st' : St), (∀ i ∈ is, i ∈ f.validInstrs) → StRel S st st' →
      BodyOut (fun _ as as' st st' => as' = as ∧ StRel S st st') (execBody w f.alias is st)
        (execBody w f.alias ((is.filter keep).map (·.mapOperands (res f.alias))) st') := by
  intro is
  induction is with
  | nil => intro st st' _ _; exact .none
  | cons i is ih =>
    intro st st' hall hst
    obtain ⟨hi, hall'⟩ := List.forall_mem_cons.mp hall
    by_cases hk : keep i = true
    · -- the instruction stays, with resolved operands
      simp only [List.filter_cons, hk, if_true, List.map_cons]
      refine BodyOut.cons ?_ (fun st1 st1' h => ih st1 st1' hall' h)
      rw [execInstr_mapOperands]
      refine (execInstr_sim w S i hst (fun o ho => ?_)).imp (fun _ _ _ _ h => h.mono fun _ hv => .inr hv)
        (fun _ _ _ _ _ h => ⟨h.1, h.2.1⟩)
      show st.env (res f.alias o) = st'.env (res f.alias (res f.alias o))
      rw [res_idem hnf]; exact hst.env _ (hsel.kept i hi hk o ho)
    · -- the instruction goes: it has no side effect and nothing that matters reads its result
      have hk' : keep i = false := by simpa using hk
      obtain ⟨hpure, hres⟩ := hsel.dropped i hi hk'
      obtain ⟨st1, hex, hmem, htr⟩ := exec_pure w (fun v => st.env (res f.alias v)) i st hpure
      have henv := exec_frame w (fun v => st.env (res f.alias v)) i st
      rw [hex] at henv
      simp only [execBody, hex, List.filter_cons_of_neg hk]
      refine ih st1 st' hall' ⟨fun v hv => ?_, hmem.trans hst.mem, htr.trans hst.trace⟩
      exact (henv v (fun hvr => hres v hvr hv)).trans (hst.env v hv)

theorem run_dce (w : World) {f : Func} {keep : Instr → Bool} {S : Val → Prop} (hnf : AliasNF f.alias)
    (hsel : Selection f keep S) (args : List Nat) (fuel : Nat) :
    run w { f with blocks := f.blocks.map (dceBlock f.alias keep) } args fuel = run w f args fuel := by
  simp only [run]
  rw [entry_map f _ (fun B => by unfold dceBlock; split <;> rfl)]
  refine (run_sim_driver w f _ (dceBlock f.alias keep) (fun _ as as' st st' => as' = as ∧ StRel S st st') ?_ ?_
    fuel _ args args _ _ ⟨rfl, fun _ _ => rfl, rfl, rfl⟩).symm
  · intro b _ _ _ _ _
    exact find?_map_of_comm _ _ _ (fun B => by unfold dceBlock; split <;> rfl)
  · rintro b as _ st st' B ⟨rfl, hst⟩ hfb
    obtain ⟨hBm, _, hBv⟩ := findBlock_mem hfb
    rw [show dceBlock f.alias keep B = { B with instrs := (B.instrs.filter keep).map (·.mapOperands (res f.alias)) }
      from if_neg (by simp [hBv])]
    exact ⟨Iff.rfl, fun _ => execBody_dce w hnf hsel B.instrs _ _ (fun i hi => mem_validInstrs.mpr ⟨B, hBm, hBv, hi⟩)
      ⟨fun v hv => bindVals_agree _ _ hst.env v (.inr hv), hst.mem, hst.trace⟩⟩

theorem selection_keepFn {tbl : Opcode → Eff} (htbl : SoundTable tbl) (f : Func) :
    ∃ S : Val → Prop, Selection f (keepFn tbl f) S := by
  unfold keepFn
  cases hL : liveSet tbl f with
  | none => exact ⟨fun _ => True, fun _ _ _ _ _ => trivial, fun _ _ h => by simp [keepOf] at h⟩
  | some L =>
    refine ⟨(· ∈ L), fun i hi hk => keeps_operands_live hL hi hk, fun i _ hk => ?_⟩
    simp only [keepOf] at hk
    simp only [keeps, Bool.or_eq_false_iff, decide_eq_false_iff_not, Decidable.not_not,
      List.any_eq_false, decide_eq_true_eq] at hk
    exact ⟨htbl _ hk.1, hk.2⟩

theorem dceWith_sound (w : World) (tbl : Opcode → Eff) (f : Func) (hnf : AliasNF f.alias)
    (htbl : SoundTable tbl) (args : List Nat) (fuel : Nat) :
    run w (dceWith tbl f) args fuel = run w f args fuel := by
  obtain ⟨S, hsel⟩ := selection_keepFn htbl f
  rw [dceWith_blocks]
  exact run_dce w hnf hsel args fuel

theorem dce_sound (w : World) (f : Func) (hnf : AliasNF f.alias) (args : List Nat) (fuel : Nat) :
    run w (dce f) args fuel = run w f args fuel :=
  dceWith_sound w sideEffect f hnf soundTable_sideEffect args fuel

theorem run_no_alias (w : World) (f : Func)
    (h : ∀ B ∈ f.blocks, B.invalid = false → ∀ i ∈ B.instrs, ∀ o ∈ i.operands, res f.alias o = o)
    (args : List Nat) (fuel : Nat) : run w { f with alias := [] } args fuel = run w f args fuel := by
  refine run_sim_driver w { f with alias := [] } f id (fun _ as as' st st' => as' = as ∧ st' = st)
    (fun _ => Option.map_id'.symm) ?_ fuel _ args args _ _ ⟨rfl, rfl⟩
  rintro b as _ st _ T ⟨rfl, rfl⟩ hT
  obtain ⟨hTm, _, hTv⟩ := findBlock_mem hT
  refine ⟨Iff.rfl, fun _ => ?_⟩
  have hbody : ∀ st0, execBody w [] T.instrs st0 = execBody w f.alias T.instrs st0 := fun st0 => by
    have := execBody_congr w (al := f.alias) (al' := []) id T.instrs st0 (fun i hi st =>
      execInstr_congr w i st (fun o ho => by
        show st.env (res [] o) = st.env (res f.alias o)
        rw [res_nil, h T hTm hTv i hi o ho]))
    rwa [List.map_id] at this
  rw [show execBody w [] T.instrs _ = _ from hbody _]
  exact BodyOut.refl _ (fun _ _ _ _ => ⟨rfl, rfl⟩)

/-- after dead-code elimination every operand is resolved: the function means the same without the table -/
theorem dceWith_no_alias (w : World) (tbl : Opcode → Eff) (f : Func) (hnf : AliasNF f.alias)
    (args : List Nat) (fuel : Nat) :
    run w { dceWith tbl f with alias := [] } args fuel = run w (dceWith tbl f) args fuel := by
  apply run_no_alias
  intro B' hB' hBv i hi o ho
  simp only [dceWith] at hB'
  obtain ⟨B, hB, hBB⟩ := List.mem_map.mp hB'
  by_cases hinv : B.invalid = true
  · simp only [hinv, if_true] at hBB
    subst hBB
    rw [hinv] at hBv; cases hBv
  · simp only [hinv] at hBB
    subst hBB
    obtain ⟨j, _, rfl⟩ := List.mem_map.mp hi
    rw [mapOperands_operands] at ho
    obtain ⟨o', _, rfl⟩ := List.mem_map.mp ho
    exact res_idem hnf o'

end Wz.Model.SsaPass
