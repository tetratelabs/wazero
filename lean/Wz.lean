import Wz.Props.C01
import Wz.Props.C01_Front
import Wz.Props.C01_FrontCF
import Wz.Props.C01_FrontMem
import Wz.Props.C01_Lower
import Wz.Props.C01_Ssa
import Wz.Props.C02
import Wz.Props.C02_InterpSlot
import Wz.Props.C02_Ireduce
import Wz.Props.C02_StrictOps
import Wz.Props.C03
import Wz.Props.C03_DropRange
import Wz.Props.C04
import Wz.Props.C04_GrowFill
import Wz.Props.C04_TypeOfImport
import Wz.Props.C05
import Wz.Props.C05_ByteReg
import Wz.Props.C05_FusedFcmp
import Wz.Props.C06
import Wz.Props.C07
import Wz.Props.C07_CacheHit
import Wz.Props.C07_Watch
import Wz.Props.C08
import Wz.Props.C09
import Wz.Props.C09_Compiled
import Wz.Props.C10
import Wz.Props.C10_ClosedWord
import Wz.Props.C10_Release
import Wz.Props.C10_TableRange
import Wz.Props.C11
import Wz.Props.C11_HostId
import Wz.Props.C12
import Wz.Props.C13
import Wz.Props.C14
import Wz.Props.C14_CompilerSize
import Wz.Props.C14_InterpSize
import Wz.Props.C15
import Wz.Props.C16
import Wz.Props.C16_OpenFlags
import Wz.Props.C16_Refusal
import Wz.Props.C16_RenamePrefix
import Wz.Props.C17
import Wz.Props.C17_Mount
import Wz.Props.C18
import Wz.Props.C19
import Wz.Props.C20
